/-
The relaxed combined invariant `CInvX` of a (log, journal, flushed disk) triple — what holds after
a crash at any byte and everything that follows — its preservation by one entry write, a GC pass, a
whole call, and the `open` lemma: on a `DiskX` disk `recoverPre` succeeds and returns a log that
satisfies `CInvX` for the re-attributed journal; its queues are the old ones up to the handles.
The crash analysis that starts here is stated once for whatever else is known of the journal
(`Carry`): the journal read back consists of entries of the journal the disk was written from.
`CInvA` is `CInvX` with the journal tied to the queues only up to the file handles.
-/
import MRL.Proofs.GRestart
import MRL.Proofs.LRead
import MRL.Proofs.LEntry
import MRL.Proofs.DropRun

namespace MRL.L
open G H Log Buf C05 C01J

/-- invariant of (log, journal, flushed disk) after crashes: the in-memory part `JInv l J` for SOME journal
    `J`, and the disk part `XInvX`: items, among them dead and junk groups, and a residue where the writer
    stands. `G.CInv` is the case of a tape without junk (`DInvF`) on which, moreover, the reader's
    attributions are the writer's (`Mono2`, `FirstOK`): `CInvX.of_cinv`. -/
structure CInvX (g : Geom) (l : Log) (J : List JE) (D : Image) : Prop where
  jinv : JInv l J
  disk : ∃ init t x res ais lead gs, XInvX g l D (l.files.headD 0) J init t x res ais lead gs

theorem TapeX.head {g : Geom} {l : Log} {D : Image} {F : Nat} {init : List Bytes} {t : Bytes} {x : Bool}
    (h : TapeX g l D F init t x) : l.files.headD 0 = F := (TapeR.of_tapeX h).head

theorem CInvX.of_cinv {g : Geom} {l : Log} {J : List JE} {D : Image} (h : CInv g l J D) : CInvX g l J D := by
  obtain ⟨init, t, afs, lead, segs, x0⟩ := XInv.of_dinv h.disk
  exact ⟨h.jinv, init, t, false, [], _, _, _, XInvX.of_xinv x0⟩

theorem tapeD_of_cinv {g : Geom} {l : Log} {J : List JE} {D : Image} (h : CInv g l J D) :
    ∃ cs x afs lead segs z0 z1,
      TapeD g D (l.files.headD 0) J cs x (plain afs) (plain lead) (plainG segs) [] z0 z1 := by
  obtain ⟨init, t, afs, lead, segs, x0⟩ := XInv.of_dinv h.disk
  obtain ⟨cs, x, z0, z1, hd⟩ := (XInvX.of_xinv x0).tapeD
  exact ⟨cs, x, afs, lead, segs, z0, z1, hd⟩

theorem cinvx_write (g : Geom) {l : Log} {J : List JE} {D : Image} (h : CInvX g l J D) (e : Entry)
    (qs' : MemQueues) (hewf : EntryWF e) (hre : replayEntry l.queues l.cur e = some qs') :
    CInvX g ({ (Log.writeEntry g l e).1 with queues := qs' } : Log) (J ++ [l.je g e])
      (applyOsOps D (directOps (Log.writeEntry g l e).2.1)) := by
  have hgrow := writeEntry_grow g l e h.jinv.h.files
  have hhead : ({ (Log.writeEntry g l e).1 with queues := qs' } : Log).files.headD 0 = l.files.headD 0 := by
    have := hgrow.head h.jinv.h.files; exact this
  refine ⟨jinv_write g h.jinv e qs' hewf hre, ?_⟩
  obtain ⟨init, t, x, res, ais, lead, gs, hx⟩ := h.disk
  obtain ⟨i', t', x', ntf, B, hx', _⟩ := entry_extX g hx e
  rw [hhead]
  exact ⟨i', t', x', [], _, lead, _, hx'.congr rfl rfl rfl⟩

theorem cur_lt_files (F n : Nat) (x : Bool) : F + n < F + (n + 1 + (if x then 1 else 0)) := by
  omega

/-- `gc_replay` for the pass `runGc` makes: the journal replays to the same queues from ANY first file `Fo`
    between the old and the new one — the first files a crash between two unlinks can leave -/
theorem rep_at0 (g : Geom) {l2 : Log} {J2 : List JE} (order : List Bytes) (hJ : JInv l2 J2) (Fo : Nat)
    (h1 : l2.files.headD 0 ≤ Fo) (h2 : Fo ≤ (runGc g l2 order).1.files.headD 0) :
    ∃ qo, replayJ Fo [] (J2 ++ gcJ g l2 order) = some qo ∧ QsEquiv qo l2.queues ∧ QsWF qo :=
  gc_replay hJ (gcPass g l2 order hJ.h) Fo h1 h2

theorem nil_append_files (l : Log) : ({ l with files := [] ++ l.files } : Log) = l := by cases l; rfl

/-- **A GC pass on the disk, stopped after `k` of its unlinks**: the log that still tracks the files not
    yet unlinked satisfies the invariant on the disk where only the first `k` files are gone. The touches
    extend the tape over the files `F … F + n` (`touches_extX`); the files to delete are an initial segment of
    them (`gcFiles_range`), so what is left after `k` unlinks is a tape from `F + k` (`gc_diskX`), and
    `rep_at0` replays the journal from there to the same queues. `k = all`: the whole pass (`cinvx_gc`);
    `open` on these states: every crash between two unlinks (`Carry.unlink_phase_crash`). -/
theorem gc_partial (g : Geom) {l2 : Log} {J2 : List JE} {D2 : Image} (h : CInvX g l2 J2 D2)
    (order : List Bytes) (names : List Bytes) (hj : gcJ g l2 order = touchesJ g l2 names)
    (hr : (runGc g l2 order).1 = { (writeTouches g l2 names).1 with
      files := (gcFiles ((writeTouches g l2 names).1.canDelete l2.cur) (writeTouches g l2 names).1.files).1 })
    (k : Nat)
    (hk : k ≤ (gcFiles ((writeTouches g l2 names).1.canDelete l2.cur) (writeTouches g l2 names).1.files).2.length) :
    CInvX g { (runGc g l2 order).1 with
        files := (gcFiles ((writeTouches g l2 names).1.canDelete l2.cur) (writeTouches g l2 names).1.files).2.drop k ++
          (runGc g l2 order).1.files }
      (J2 ++ gcJ g l2 order)
      (applyOsOps (applyOsOps D2 (directOps (writeTouches g l2 names).2.1))
        (((gcFiles ((writeTouches g l2 names).1.canDelete l2.cur) (writeTouches g l2 names).1.files).2.take k).map
          OsOp.unlink)) := by
  obtain ⟨init, t, x, res, ais, lead, gs, hx⟩ := h.disk
  obtain ⟨i3, t3, x3, r3, ais3, gs3, y3, _⟩ := touches_extX g (l2.files.headD 0) lead names l2 D2 J2 init t x res ais gs hx
  rcases hg : gcFiles ((writeTouches g l2 names).1.canDelete l2.cur) (writeTouches g l2 names).1.files
    with ⟨rem, del⟩
  rw [hg] at hk hr
  simp only at hk hr ⊢
  obtain ⟨hdl, hdel, hrem⟩ := gcFiles_range y3.tape.files y3.tape.cur l2.cur hg
  generalize del.length = d at hdl hdel hrem hk
  generalize hb : (if x3 = true then 1 else 0) = b at hrem
  subst hdel hrem
  have hkinit : k ≤ i3.length := Nat.le_trans hk hdl
  have hfiles : (List.range' (l2.files.headD 0) d).drop k ++ List.range' (l2.files.headD 0 + d) (i3.length + 1 - d + b) =
      List.range' (l2.files.headD 0 + k) (i3.length + 1 - k + b) := by
    rw [List.drop_range', Nat.mul_one, show l2.files.headD 0 + d = l2.files.headD 0 + k + (d - k) by omega,
      List.range'_append_1]
    congr 1
    omega
  rw [take_range' _ _ _ hk, hr]
  simp only
  rw [hfiles]
  obtain ⟨afs', lead', gs', c1, _⟩ := gc_diskX g y3 k hkinit
  have hJ' := jinv_gc g order h.jinv
  have hF'' : (runGc g l2 order).1.files.headD 0 = l2.files.headD 0 + d := by
    rw [hr]
    exact headD_range' (by omega)
  obtain ⟨qo, ho1, ho2, ho3⟩ := rep_at0 g order h.jinv (l2.files.headD 0 + k) (Nat.le_add_right _ _)
    (by rw [hF'']; exact Nat.add_le_add_left hk _)
  have hHr := hJ'.h
  rw [hr] at hHr
  have hchunk := hJ'.chunk
  rw [hr] at hchunk
  have hhead : (List.range' (l2.files.headD 0 + k) (i3.length + 1 - k + b)).headD 0 = l2.files.headD 0 + k :=
    headD_range' (by omega)
  refine ⟨⟨⟨⟨List.pairwise_lt_range', ?_⟩, hHr.inv, ?_⟩, hchunk, ⟨qo, ?_, ?_, ho3⟩⟩, ?_⟩
  · -- the current file is tracked
    show (writeTouches g l2 names).1.cur ∈ _
    rw [y3.tape.cur, List.mem_range'_1]
    omega
  · -- handles on tracked files
    intro kv hkv r hr' f hf
    have := hHr.handles kv hkv r hr' f hf
    show f ∈ List.range' _ _
    rw [← hfiles]
    exact List.mem_append_right _ this
  · show replayJ ((List.range' _ _).headD 0) [] _ = _
    rw [hhead]; exact ho1
  · show QsEquiv qo (writeTouches g l2 names).1.queues
    have : (writeTouches g l2 names).1.queues = l2.queues := by
      have := Step.runGc_queues g l2 order; rw [hr] at this; exact this
    rw [this]; exact ho2
  · show ∃ init t x res ais lead gs, XInvX g _ _ ((List.range' _ _).headD 0) _ init t x res ais lead gs
    subst hb
    rw [hhead, hj]
    exact ⟨_, _, _, _, _, _, _, c1⟩

theorem cinvx_gc (g : Geom) {l : Log} {J : List JE} {D : Image} (h : CInvX g l J D) (order : List Bytes) :
    CInvX g (runGc g l order).1 (J ++ gcJ g l order)
      (applyOsOps D (directOps (runGc g l order).2.1)) := by
  rcases runGc_full g l order with ⟨h1, h2⟩ | ⟨names, _, h1, h2⟩
  · rw [h1, h2, List.append_nil]; exact h
  · have := gc_partial g h order names h1 (by rw [h2]) _ (Nat.le_refl _)
    rw [List.drop_length, List.take_length, nil_append_files] at this
    rw [h2] at this ⊢
    simp only at this ⊢
    rw [directOps_append, directOps_append, applyOsOps_append, applyOsOps_append,
      syncL_apply (isSyncL_persist _ _)]
    rw [directOps_unlinks]
    exact this

theorem cinvx_step (g : Geom) {l : Log} {J : List JE} {D : Image} (h : CInvX g l J D) (c : Call)
    (tick : Bool) (order : List Bytes) :
    CInvX g (l.step g c tick order).1 (J ++ l.stepJ g c order)
      (applyOsOps D (directOps (l.step g c tick order).2.2)) := by
  rcases H.step_full g l c tick order with
    ⟨hj, hl, hsy⟩ | ⟨e, qs', sy, hok, hre, hsy, (⟨hj, hl, heff⟩ | ⟨hj, hl, heff⟩)⟩
  · rw [hj, hl, List.append_nil, H.syncL_apply hsy]; exact h
  · rw [hj, hl, heff, directOps_append, applyOsOps_append, H.syncL_apply hsy]
    exact cinvx_write g h e qs' hok.wf hre
  · rw [hj, hl, heff, directOps_append, directOps_append, applyOsOps_append, applyOsOps_append, H.syncL_apply hsy,
      List.append_cons]
    exact cinvx_gc g (cinvx_write g h e qs' hok.wf hre) order

theorem CInvX.diskX {g : Geom} {l : Log} {J : List JE} {D : Image} (h : CInvX g l J D) :
    DiskX g D (l.files.headD 0) J := by
  obtain ⟨init, t, x, res, ais, lead, gs, hx⟩ := h.disk
  exact hx.diskX

theorem CInvX.tapeD {g : Geom} {l : Log} {J : List JE} {D : Image} (h : CInvX g l J D) :
    ∃ cs x ais lead gs res z0 z1, TapeD g D (l.files.headD 0) J cs x ais lead gs res z0 z1 := by
  obtain ⟨init, t, x, res, ais, lead, gs, hx⟩ := h.disk
  obtain ⟨cs, x', z0, z1, hd⟩ := hx.tapeD
  exact ⟨cs, x', ais, lead, gs, res, z0, z1, hd⟩

theorem All2.pairwise_loc {l1 l2 : List JE} (h : All2 (fun a b : JE => a.loc = b.loc) l1 l2)
    (h2 : l2.Pairwise (fun a b => a.loc ≤ b.loc)) : l1.Pairwise (fun a b => a.loc ≤ b.loc) := by
  induction h with
  | nil => exact List.Pairwise.nil
  | @cons a b l1 l2 hab htl ih =>
    rw [List.pairwise_cons] at h2 ⊢
    refine ⟨?_, ih h2.2⟩
    intro a' ha'
    obtain ⟨b', hb', hl⟩ := htl.mem_left a' ha'
    have := h2.1 b' hb'
    omega

/-- What the crash analysis carries along the journal next to `CInvX`: a predicate `Q` on a journal and
    the queues it stands for (up to the handles) — "every entry is serialisable", "every entry was handed
    to the writer", "the journal replays as the API wrote it". `N` is what is asked of the entries a call
    or a GC pass appends. The analysis needs `Q` to survive the two things that happen to a journal. -/
structure Carry (N : Entry → Prop) (Q : List JE → MemQueues → Prop) : Prop where
  wf : ∀ {J q}, Q J q → ∀ j ∈ J, C07.WF j.e
  /-- reading back (`read_diskX`): the entries located at or after the first file, re-attributed -/
  retain : ∀ {J J' q q'} (F : Nat), Q J q → J.Pairwise (fun a b => a.loc ≤ b.loc) →
    All2 (fun a b : JE => a.e = b.e) J' (J.filter fun j => decide (F ≤ j.loc)) → AbsEq q q' → Q J' q'
  /-- writing: the entries appended are those the API writes in the state `q` -/
  append : ∀ {J Jn q q'}, Q J q → QsWF q → Drop.Run q Jn q' → (∀ j ∈ Jn, N j.e) → Q (J ++ Jn) q'

theorem Carry.ofEntries {N : Entry → Prop} (hN : ∀ e, N e → C07.WF e) :
    Carry N (fun J _ => ∀ j ∈ J, N j.e) where
  wf h j hj := hN _ (h j hj)
  retain F h _ hrel _ j hj := by
    obtain ⟨b, hb, he⟩ := hrel.mem_left j hj
    rw [he]; exact h b (List.mem_filter.mp hb).1
  append h _ _ hn j hj := (List.mem_append.mp hj).elim (h j) (hn j)

theorem Carry.wfOnly : Carry C07.WF (fun J _ => ∀ j ∈ J, C07.WF j.e) := Carry.ofEntries fun _ h => h

/-- **the `open` lemma on a `DiskX` disk**: `recoverPre` succeeds and returns a log satisfying `CInvX`
    for the journal read back, which carries `Q` again. `JInv lp J'` is built from what `read_diskX` says
    of `J'` (it replays to `lp.queues`; its entries are the retained ones of `J`, re-attributed at or after
    `F`) and from the shape of the tape (`lp.files`, `lp.cur`). `g.B ≤ 65542` = 65535 + `HEADER_LEN`: a frame
    payload fits the u16 length field. -/
theorem Carry.open_disk {N : Entry → Prop} {Q : List JE → MemQueues → Prop} (cq : Carry N Q) (g : Geom)
    (hB : g.B ≤ 65542) {X : Image} {F : Nat} {J : List JE} (hd : DiskX g X F J) (hewf : ∀ j ∈ J, EntryWF j.e)
    (hmono : J.Pairwise (fun a b => a.loc ≤ b.loc)) (qs : MemQueues) (hrep : replayJ F [] J = some qs)
    {q0 : MemQueues} (hQ : Q J q0) (h0 : AbsEq q0 qs) (policy : Policy) :
    ∃ (J' : List JE) (lp : Log) (io : Nat),
      recoverPre g X policy none = .ok (lp, [.ensureLen F g.fileBytes], io) ∧
      CInvX g lp J' X ∧ Q J' lp.queues ∧ AbsEq qs lp.queues ∧ lp.policy = policy ∧
      lp.files.headD 0 = F := by
  obtain ⟨J', lp, io, init, t, x, res, ais, lead, gs', hrec, hx, hq, hab, hpol, hrel, hcur⟩ :=
    read_diskX g hB hd (cq.wf hQ) qs hrep policy
  have hhead : lp.files.headD 0 = F := hx.tape.head
  have hInvlp : Inv lp := by
    obtain ⟨b0, rest, trail, evs, e, _, _, _, hr, _⟩ := Rec.recoverPre_ok hrec
    exact Rec.QsInv_replay _ [] _ hr Rec.QsInv_nil
  have hJ'b : ∀ j ∈ J', F ≤ j.attr ∧ j.attr ≤ j.loc ∧ j.loc ≤ lp.cur := by
    intro j hj
    obtain ⟨b, _, _, _, h3, h4⟩ := hrel.mem_left j hj
    exact ⟨h3, h4, hcur j hj⟩
  have hJ'wf : ∀ j ∈ J', EntryWF j.e := by
    intro j hj
    obtain ⟨b, hb, h1, _⟩ := hrel.mem_left j hj
    rw [h1]; exact hewf b (List.mem_filter.mp hb).1
  have hfiles := hx.tape.files
  have hcurT := hx.tape.cur
  -- goals: files sorted; `cur` tracked; handles tracked; attributions and locations in range; locations
  -- monotone; the replay; the disk
  refine ⟨J', lp, io, hrec, ⟨⟨⟨⟨?_, ?_⟩, hInvlp, ?_⟩, ⟨Nat.zero_le _, ?_, ?_, hJ'wf⟩, ?_⟩, ?_⟩,
    cq.retain F hQ hmono (hrel.imp fun a b h => h.1) (h0.trans hab), hab, hpol, hhead⟩
  · rw [hfiles]; exact List.pairwise_lt_range'
  · rw [hfiles, hcurT, List.mem_range'_1]; exact ⟨Nat.le_add_right F _, cur_lt_files F _ x⟩
  · intro kv hkv r hr f hf
    have hget : lp.queues.get? kv.1 = some kv.2 := AL.get?_of_mem_nodup hInvlp.1 hkv
    obtain ⟨j, hj, _, hfj⟩ := replay_handles F J' lp.queues hq kv.1 kv.2 hget r hr f hf
    obtain ⟨h1, h2, h3⟩ := hJ'b j hj
    rw [hfiles, List.mem_range'_1, hfj, Nat.max_eq_left h1]
    rw [hcurT] at h3
    exact ⟨h1, Nat.lt_of_le_of_lt (Nat.le_trans h2 h3) (cur_lt_files F _ x)⟩
  · intro j hj
    have := hJ'b j hj
    exact ⟨Nat.zero_le _, this.2.1, this.2.2⟩
  · exact All2.pairwise_loc (hrel.imp (fun a b h => h.2.1)) (hmono.sublist List.filter_sublist)
  · rw [hhead]
    exact ⟨lp.queues, hq, QsEquiv.refl _, replayJ_wf _ _ QsWF.nil hq⟩
  · rw [hhead]
    exact ⟨init, t, x, res, ais, lead, gs', hx⟩

theorem Carry.open_ok {N : Entry → Prop} {Q : List JE → MemQueues → Prop} (cq : Carry N Q) (g : Geom)
    (hB : g.B ≤ 65542) {l : Log} {J : List JE} {D : Image} (h : CInvX g l J D) (hQ : Q J l.queues)
    (policy : Policy) :
    ∃ (J' : List JE) (lp : Log) (io : Nat),
      recoverPre g D policy none = .ok (lp, [.ensureLen (l.files.headD 0) g.fileBytes], io) ∧
      CInvX g lp J' D ∧ Q J' lp.queues ∧ AbsEq lp.queues l.queues ∧ lp.policy = policy ∧
      lp.files.headD 0 = l.files.headD 0 := by
  obtain ⟨hH, chunk, qs, hrep, heq, hqwf⟩ := h.jinv
  obtain ⟨J', lp, io, hrec, hc, hw, hab, hpol, hhead⟩ := cq.open_disk g hB h.diskX chunk.wf chunk.mono qs hrep hQ
    (AbsEq.of_qsEquiv heq).symm policy
  exact ⟨J', lp, io, hrec, hc, hw, hab.symm.trans (AbsEq.of_qsEquiv heq), hpol, hhead⟩

theorem open_okX (g : Geom) (hB : g.B ≤ 65542) {l : Log} {J : List JE} {D : Image} (h : CInvX g l J D)
    (hwf : ∀ j ∈ J, C07.WF j.e) (policy : Policy) :
    ∃ (J' : List JE) (lp : Log) (io : Nat),
      recoverPre g D policy none = .ok (lp, [.ensureLen (l.files.headD 0) g.fileBytes], io) ∧
      CInvX g lp J' D ∧ (∀ j ∈ J', C07.WF j.e) ∧ AbsEq lp.queues l.queues ∧ lp.policy = policy ∧
      lp.files.headD 0 = l.files.headD 0 :=
  Carry.wfOnly.open_ok g hB h hwf policy

/-- `CInvX` with the journal tied to the queues only up to the file handles (`AbsEq` for `QsEquiv`, no
    claim about the handles): what the reader and the two write phases of a call need of a state. It is what
    can be kept of a log that still tracks collected files across a restart of the real log (`PDA`). -/
structure CInvA (g : Geom) (l : Log) (J : List JE) (D : Image) : Prop where
  files : FilesWF l
  inv : Inv l
  chunk : Chunk 0 J l.cur
  rep : ∃ qs, replayJ (l.files.headD 0) [] J = some qs ∧ AbsEq qs l.queues ∧ QsWF qs
  disk : ∃ init t x res ais lead gs, XInvX g l D (l.files.headD 0) J init t x res ais lead gs

theorem CInvA.of_cinvx {g : Geom} {l : Log} {J : List JE} {D : Image} (h : CInvX g l J D) : CInvA g l J D := by
  obtain ⟨qs, h1, h2, h3⟩ := h.jinv.rep
  exact ⟨h.jinv.h.files, h.jinv.h.inv, h.jinv.chunk, ⟨qs, h1, AbsEq.of_qsEquiv h2, h3⟩, h.disk⟩

theorem CInvA.hF {g : Geom} {l : Log} {J : List JE} {D : Image} (h : CInvA g l J D) : l.files.headD 0 ≤ l.cur :=
  head_le_of_mem h.files.sorted h.files.cur_mem

theorem CInvA.loc_ge {g : Geom} {l : Log} {J : List JE} {D : Image} (h : CInvA g l J D) {js : List JE} {c' : Nat}
    (hch : Chunk l.cur js c') {j : JE} (hj : j ∈ js) : l.files.headD 0 ≤ j.loc :=
  Nat.le_trans h.hF (Nat.le_trans (hch.bounds j hj).1 (hch.bounds j hj).2.1)

theorem rep_extendA {g : Geom} {l : Log} {J : List JE} {D : Image} (h : CInvA g l J D) (Jn : List JE)
    (q' : MemQueues) (hn : ∀ j ∈ Jn, l.files.headD 0 ≤ j.loc)
    (hex : replayJ (l.files.headD 0) l.queues Jn = some q') :
    ∃ r, replayJ (l.files.headD 0) [] (J ++ Jn) = some r ∧ AbsEq r q' ∧ QsWF r := by
  obtain ⟨qs, hrep, heq, hqwf⟩ := h.rep
  obtain ⟨r1, h1, h2⟩ := replayJ_abs (l.files.headD 0) (l.files.headD 0) Jn Jn qs l.queues q'
    (All2.refl (R := fun a b : JE => a.e = b.e) (fun _ => rfl) Jn) hn hn heq.symm hqwf (QsWF.of_inv h.inv) hex
  refine ⟨r1, ?_, h2.symm, replayJ_wf _ Jn hqwf h1⟩
  rw [replayJ_append, hrep]
  exact h1

theorem filesWF_queues {l : Log} (h : FilesWF l) (qs : MemQueues) : FilesWF ({ l with queues := qs } : Log) :=
  ⟨h.sorted, h.cur_mem⟩

theorem rep_entryA (g : Geom) {l : Log} {J : List JE} {D : Image} (h : CInvA g l J D) (e : Entry)
    (qs' : MemQueues) (hewf : EntryWF e) (hre : replayEntry l.queues l.cur e = some qs') :
    ∃ r, replayJ (l.files.headD 0) [] (J ++ [l.je g e]) = some r ∧ AbsEq r qs' ∧ QsWF r :=
  rep_extendA h [l.je g e] qs' (fun _ hj => h.loc_ge (je_chunk g l e h.files hewf) hj)
    (replay_je g l e qs' _ h.hF hre)

end MRL.L

namespace MRL.PDA
open H Log Buf C05 L

/-! `L.CInvA` as the lazy-directory analysis uses it: it is kept by one entry written, and `open` succeeds
on its disk (`L.Carry.open_disk` asks for no more). -/

theorem cinva_open (g : Geom) (hB : g.B ≤ 65542) {l : Log} {J : List JE} {D : Image} (h : CInvA g l J D)
    (hwf : ∀ j ∈ J, C07.WF j.e) (policy : Policy) :
    ∃ (J' : List JE) (lp : Log) (io : Nat),
      recoverPre g D policy none = .ok (lp, [.ensureLen (l.files.headD 0) g.fileBytes], io) ∧
      CInvX g lp J' D ∧ (∀ j ∈ J', C07.WF j.e) ∧ AbsEq lp.queues l.queues := by
  obtain ⟨qs, hrep, heq, _⟩ := h.rep
  obtain ⟨init, t, x, res, ais, lead, gs, hx⟩ := h.disk
  obtain ⟨J', lp, io, hrec, hc, hw, hab, _⟩ :=
    Carry.wfOnly.open_disk g hB hx.diskX h.chunk.wf h.chunk.mono qs hrep hwf (AbsEq.refl qs) policy
  exact ⟨J', lp, io, hrec, hc, hw, hab.symm.trans heq⟩

theorem cinva_write (g : Geom) {l : Log} {J : List JE} {D : Image} (h : CInvA g l J D) (e : Entry)
    (qs' : MemQueues) (hewf : EntryWF e) (hre : replayEntry l.queues l.cur e = some qs')
    (hinv : Inv ({ (Log.writeEntry g l e).1 with queues := qs' } : Log)) :
    CInvA g ({ (Log.writeEntry g l e).1 with queues := qs' } : Log) (J ++ [l.je g e])
      (applyOsOps D (directOps (Log.writeEntry g l e).2.1)) := by
  have hgrow := writeEntry_grow g l e h.files
  have hhead : ({ (Log.writeEntry g l e).1 with queues := qs' } : Log).files.headD 0 = l.files.headD 0 := by
    have := hgrow.head h.files; exact this
  refine ⟨filesWF_queues hgrow.wf qs', hinv, h.chunk.append (je_chunk g l e h.files hewf), ?_, ?_⟩
  · rw [hhead]
    exact rep_entryA g h e qs' hewf hre
  · obtain ⟨init, t, x, res, ais, lead, gs, hx⟩ := h.disk
    obtain ⟨i', t', x', ntf, B, hx', _⟩ := entry_extX g hx e
    rw [hhead]
    exact ⟨i', t', x', [], _, lead, _, hx'.congr rfl rfl rfl⟩

end MRL.PDA
