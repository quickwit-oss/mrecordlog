/-
The collision clauses on images, and the one on bytes that implies them (C08/C12 under damage).

`Img.NoAccidentalFrameImgX g W W'` quantifies over every item layout `ais` of the tape of `W`
(`ItemTape`), and `ItemTape g W []` always holds (`itemTape_nil`: the residue is unconstrained), so
the clause forces that NO position of `W'` passes the acceptance test (`CD.old_clause_forces_none`):
theorems stated under it say nothing about an image that still holds a frame.

`CleanDamage g W W'` is a clause on bytes only, checkable by evaluation on concrete images:
* `W` is clean: no more positions pass the acceptance test anywhere on the stream of `W` than the
  reader reads frames on `W` (no valid frame hidden in a payload, a junk slot or the residue);
* wherever the test passes on `W'`, it passes on `W`, at the same position, for the same frame.
A clean stream pins its layout: genuine frames pass the test where they are, and a duplicate-free list
included in a list that is not longer is that list (`accepted_iff_located`). So `CleanDamage` implies
`NoAcc` against the genuine frames of a `TapeD` tape (`noAcc_of_clean`) and the `ReachD`-level clause
`NoAccidentalFrameImg` (`noAccImg_of_clean`), and the frame layout of a clean tape is unique
(`tapeLayout_unique`), which instantiates the existential layout of `C09V.C09_recover_one_frame_all`.
-/
import MRL.Proofs.ImgTape
import MRL.Proofs.ImageOps

namespace MRL.Img
open Codec Torn G H L Gen

theorem itemTape_nil (g : Geom) (W : Image) : ItemTape g W [] :=
  ⟨trivial, trivial, 0, streamOf W, 0, by simp [flatJ, zeros]⟩

theorem glocs_in_stream (g : Geom) (ais : List AItm) : ∀ (P : Nat) (pre tail : Bytes), pre.length = P →
    Fits g (P % g.B) (frs ais) → (∀ a ∈ ais, RawLen a) → ∀ x ∈ glocs g P ais,
      ((pre ++ flatJ g (P % g.B) ais ++ tail).drop x.1).take (7 + x.2.2.length) =
        encodeFrame x.2.1 x.2.2 := by
  induction ais with
  | nil => intro P pre tail _ _ _ x hx; cases hx
  | cons a ais ih =>
    intro P pre tail hpre hF hraw x hx
    have hF' : Fits g (P % g.B) (a.1.2 :: frs ais) := hF
    rw [G.Fits_pos_cons] at hF'
    have hflat : flatJ g (P % g.B) (a :: ais) = zeros (padLen g (P % g.B)) ++ slot a ++
        flatJ g (G.nextPos g P a.1.2.2.length % g.B) ais := by
      simp only [flatJ, G.frameEndCursor_pos g P _ hF'.1]
    rw [hflat]
    simp only [glocs, List.mem_append] at hx
    rcases hx with hx | hx
    · cases ha : a.2 with
      | some r => rw [ha] at hx; simp at hx
      | none =>
        rw [ha] at hx
        simp only [Option.isNone_none, if_true, List.mem_singleton] at hx
        subst hx
        have hslot : slot a = encodeFrame a.1.2.1 a.1.2.2 := by simp [slot, ha]
        simp only [hslot, List.append_assoc]
        rw [← List.append_assoc pre, List.drop_left' (by simp [hpre, hdrPos_eq_pad]),
          List.take_left' (by simp [length_encodeFrame])]
    · have hsl := slot_length (hraw a List.mem_cons_self)
      simp only [← List.append_assoc]
      exact ih (G.nextPos g P a.1.2.2.length) _ tail
        (by simp only [G.nextPos, hdrPos_eq_pad, List.length_append, length_zeros, hsl, hpre, Nat.add_assoc]) hF'.2
        (fun b hb => hraw b (List.mem_cons_of_mem _ hb)) x hx

theorem frame_room {B x n : Nat} (h : x + 7 + n ≤ B) : 7 + n ≤ B - x :=
  Nat.le_sub_of_add_le (by rwa [Nat.add_comm, ← Nat.add_assoc])

theorem accepts_of_frame (g : Geom) (S : Bytes) (k x : Nat) (t : FrameType) (p : Bytes)
    (hfit : x + 7 + p.length ≤ g.B) (hlen : p.length < 65536)
    (hbytes : (S.drop (k * g.B + x)).take (7 + p.length) = encodeFrame t p) : Accepts g S k x t p := by
  have hr : (((S.drop (k * g.B)).take g.B).drop x).take (7 + p.length) = encodeFrame t p := by
    rw [List.drop_take, List.drop_drop, List.take_take, Nat.min_eq_left (frame_room hfit)]
    exact hbytes
  unfold Accepts
  generalize ((S.drop (k * g.B)).take g.B).drop x = r at hr ⊢
  have h7 : r.take 7 = encodeHeader t p := by
    have := congrArg (List.take 7) hr
    rw [List.take_take, Nat.min_eq_left (Nat.le_add_right 7 _)] at this
    rw [this]
    unfold encodeFrame
    rw [List.take_left' (length_encodeHeader t p)]
  have hp : (r.drop 7).take p.length = p := by
    have := congrArg (List.drop 7) hr
    rw [List.drop_take, Nat.add_sub_cancel_left] at this
    rw [this]
    unfold encodeFrame
    rw [List.drop_left' (length_encodeHeader t p)]
  refine ⟨Nat.le_trans (Nat.le_add_right 7 _) (frame_room hfit), ?_, ?_, ?_, ?_, ?_⟩
  · rw [h7]; exact isAllZero_encodeHeader t p
  · rw [h7, encodeHeader_getD6]; exact ofCode_code t
  · rw [h7, encodeHeader_len, leNat_leBytes2 _ hlen]; exact hfit
  · rw [h7, encodeHeader_len, leNat_leBytes2 _ hlen]; exact hp.symm
  · rw [h7, encodeHeader_take4, leNat_leBytes4 _ (frameCrc_lt t p)]

/-- `g.B ≤ 65542` = 65535 + HEADER_LEN: the payload of a frame that fits a block has a length the
    u16 length field holds, so the frame passes the test with its own length. -/
theorem accepted_iff_located (g : Geom) (hB : g.B ≤ 65542) (S : Bytes) (N : Nat) (LL : List (Nat × Frm)) (hL : Located g LL)
    (hin : ∀ y ∈ LL, (S.drop y.1).take (7 + y.2.2.length) = encodeFrame y.2.1 y.2.2)
    (hfit : ∀ y ∈ LL, y.1 % g.B + 7 + y.2.2.length ≤ g.B) (hlen : S.length = N * g.B)
    (hcount : (accepted g S N).length ≤ LL.length) :
    (∀ y ∈ LL, y ∈ accepted g S N) ∧ (∀ y ∈ accepted g S N, y ∈ LL) := by
  have hsub : ∀ y ∈ LL, y ∈ accepted g S N := by
    intro y hy
    have hbytes := hin y hy
    have hf := hfit y hy
    have hlt : y.1 < S.length := Nat.lt_of_not_le fun hle => by
      rw [List.drop_eq_nil_of_le hle, List.take_nil] at hbytes
      exact absurd (congrArg List.length hbytes) (by rw [length_encodeFrame, Nat.add_comm]; exact (Nat.succ_ne_zero _).symm)
    have hdm : y.1 / g.B * g.B + y.1 % g.B = y.1 := by
      rw [Nat.mul_comm]; exact Nat.div_add_mod y.1 g.B
    have hk : y.1 / g.B < N := Nat.div_lt_of_lt_mul (by rw [Nat.mul_comm, ← hlen]; exact hlt)
    have hacc := accepts_of_frame g S (y.1 / g.B) (y.1 % g.B) y.2.1 y.2.2 hf (by omega)
      (by rw [hdm]; exact hbytes)
    have := mem_accepted g S N _ _ _ _ hk hacc
    rw [hdm] at this
    exact this
  exact ⟨hsub, Log.subset_of_nodup_length (nodup_of_sorted hL.sorted) _ hsub hcount⟩

def isFrameEv : RdEv → Bool
  | .frame _ _ _ => true
  | .corrupt _ => false

def frameCount (g : Geom) (F : Nat) (S : Bytes) (N : Nat) : Nat :=
  ((scanAt g F S N 0 0).1.filter isFrameEv).length

/-- **the collision clause on bytes**: the image `W` has no valid frame besides those the reader
    reads, and the damage creates none -/
def CleanDamage (g : Geom) (W W' : Image) : Prop :=
  (accepted g (streamOf W) ((streamOf W).length / g.B)).length ≤
    frameCount g ((W.map (·.1)).headD 0) (streamOf W) ((streamOf W).length / g.B) ∧
  NoAcc g (accepted g (streamOf W) ((streamOf W).length / g.B)) (streamOf W')

theorem filter_isFrame_evsJ (ais : List AItm) :
    ((evsJ ais).filter isFrameEv).length = (gfrs ais).length := by
  induction ais with
  | nil => rfl
  | cons a ais ih =>
    simp only [evsJ_cons, gfrs, List.filter_cons] at ih ⊢
    cases ha : a.2 with
    | none => simp [evJ, ha, isFrameEv, ih]
    | some r => simp [evJ, ha, isFrameEv, ih]

theorem accepted_iff_glocs (g : Geom) (hB : g.B ≤ 65542) (F : Nat) (S : Bytes) (N : Nat) (hS : S.length = N * g.B)
    (ais : List AItm) (hfits : Fits g 0 (frs ais)) (hraw : ∀ a ∈ ais, RawLen a) (R : Bytes)
    (hflat : S = flatJ g 0 ais ++ R) (evT : List RdEv) (e : EndPos)
    (hscan : scanAt g F S N 0 0 = (evsJ ais ++ evT, e)) (hevT : evT.filter isFrameEv = [])
    (hcount : (accepted g S N).length ≤ frameCount g F S N) :
    (∀ y ∈ glocs g 0 ais, y ∈ accepted g S N) ∧ (∀ y ∈ accepted g S N, y ∈ glocs g 0 ais) := by
  have hfc : frameCount g F S N = (glocs g 0 ais).length := by
    unfold frameCount
    rw [hscan, List.filter_append, hevT, List.append_nil, filter_isFrame_evsJ, ← glocs_snd g ais 0, List.length_map]
  rw [hfc] at hcount
  refine accepted_iff_located g hB S N _ (located_glocs g ais 0) ?_
    (fun y hy => locs_fit g (frs ais) 0 (by rw [Nat.zero_mod]; exact hfits) y (glocs_mem_locs g ais 0 y hy)) hS hcount
  intro y hy
  have hbytes := glocs_in_stream g ais 0 [] R rfl (by rw [Nat.zero_mod]; exact hfits) hraw y hy
  rw [Nat.zero_mod] at hbytes
  rw [hflat, ← hbytes, List.nil_append]

theorem noAcc_of_clean (g : Geom) (hB : g.B ≤ 65542) {D : Image} {F : Nat} {J : List JE} {cs : List Bytes}
    {x : Bool} {ais lead : List AItm} {gs : List Grp} {res : Bytes} {z0 z1 : Nat}
    (hd : TapeD g D F J cs x ais lead gs res z0 z1) (W' : Image) (hc : CleanDamage g D W') :
    NoAcc g (glocs g 0 ais) (streamOf W') := by
  have ht := hd.toITape
  obtain ⟨⟨hne, hfull, hflat, hlast, hfits, htag, hjok, hres⟩, -, hX⟩ := hd
  have hB7 := G.seven_lt_B g
  have hstreamD : streamOf D = cs.flatten := by
    rw [hX, streamOf_append, streamOf_imgOf, streamOf_xtra, List.append_nil]
  have hSlen : cs.flatten.length = cs.length * g.K * g.B := by
    rw [flatten_length_full _ _ hfull, mul_fb]
  have hN : (streamOf D).length / g.B = cs.length * g.K := by
    rw [hstreamD, hSlen, Nat.mul_div_cancel _ (Nat.zero_lt_of_lt hB7)]
  have hF : (D.map (·.1)).headD 0 = F := by
    cases cs with
    | nil => exact absurd rfl hne
    | cons c0 cs' => rw [hX]; simp [imgOf]
  obtain ⟨hcount, hno⟩ := hc
  rw [hN, hF, hstreamD] at hcount
  rw [hN, hstreamD] at hno
  obtain ⟨evT, e, ke, ce, zz, hscan, hevT, _⟩ :=
    scan_diskX g hB ht
  have hall := (accepted_iff_glocs g hB F cs.flatten _ hSlen ais hfits hjok.rawLen (zeros z0 ++ res ++ zeros z1)
    (by rw [hflat]; simp only [List.append_assoc]) evT e hscan
    (by rcases hevT with rfl | ⟨f, rfl⟩ <;> rfl) hcount).2
  intro k x' t p hacc
  exact hall _ (hno k x' t p hacc)

theorem locs_mem_accepted (g : Geom) (hB : g.B ≤ 65542) (W : Image) (N : Nat)
    (hlen : (streamOf W).length = N * g.B) (hN : 0 < N)
    (hclean : (accepted g (streamOf W) N).length ≤ frameCount g ((W.map (·.1)).headD 0) (streamOf W) N)
    (fs : List Frm) (ht : TapeLayout g W fs) :
    (∀ y ∈ locs g 0 fs, y ∈ accepted g (streamOf W) N) ∧ (∀ y ∈ accepted g (streamOf W) N, y ∈ locs g 0 fs) := by
  obtain ⟨hfits, z, hst⟩ := ht
  -- the layout as a tape of items, every one a frame as written
  have hu := G.untag_tagFrom g ((W.map (·.1)).headD 0) fs 0
  have hfr : frs (plain (tagFrom g ((W.map (·.1)).headD 0) 0 fs)) = fs := by rw [frs_plain, hu]
  have hflat : streamOf W = flatJ g 0 (plain (tagFrom g ((W.map (·.1)).headD 0) 0 fs)) ++ zeros z := by
    rw [flatJ_plain, hu]; exact hst
  obtain ⟨e, hscan⟩ := readS_layoutJ g hB ((W.map (·.1)).headD 0) (streamOf W) N hlen hN _ (by rw [hfr]; exact hfits)
    (JOK_plain g _ _ 0) (by rw [tfs_plain]; exact Tagged_tagFrom g _ fs 0) z hflat
  have h := accepted_iff_glocs g hB _ (streamOf W) N hlen _ (by rw [hfr]; exact hfits)
    (fun a ha => by intro r hr; rw [mem_plain ha] at hr; cases hr) (zeros z) hflat [] e
    (by rw [List.append_nil]; exact hscan) rfl hclean
  rwa [glocs_plain, hu] at h

theorem tapeLayout_unique (g : Geom) (hB : g.B ≤ 65542) (W : Image) (N : Nat)
    (hlen : (streamOf W).length = N * g.B) (hN : 0 < N)
    (hclean : (accepted g (streamOf W) N).length ≤ frameCount g ((W.map (·.1)).headD 0) (streamOf W) N)
    (fs : List Frm) (ht : TapeLayout g W fs) : fs = (accepted g (streamOf W) N).map (·.2) := by
  obtain ⟨h1, h2⟩ := locs_mem_accepted g hB W N hlen hN hclean fs ht
  rw [← eq_of_sorted_of_mem (located_locs g fs 0).sorted (accepted_sorted g _ N) (fun x => ⟨h1 x, h2 x⟩), locs_snd]

theorem noAccImg_of_clean (g : Geom) (hB : g.B ≤ 65542) (W W' : Image) (N : Nat)
    (hlen : (streamOf W).length = N * g.B) (hN : 0 < N) (hc : CleanDamage g W W') :
    NoAccidentalFrameImg g W W' := by
  have hB7 := G.seven_lt_B g
  have hNd : (streamOf W).length / g.B = N := by rw [hlen, Nat.mul_div_cancel _ (Nat.zero_lt_of_lt hB7)]
  obtain ⟨hclean, hno⟩ := hc
  rw [hNd] at hclean hno
  intro fs ht
  obtain ⟨_, h2⟩ := locs_mem_accepted g hB W N hlen hN hclean fs ht
  intro k x t p hacc
  exact h2 _ (hno k x t p hacc)

end MRL.Img
