/-
Power loss with a lazy directory, for histories (`PX.power_reductionX` for `powerImageD`): as long as
no `fsync(file)` has made new content durable while unlinks were not covered by an `fsync(dir)`,
the image left by a power loss at any instant after a promise point (a prefix of the history that ends
with `flush, fsync(file), fsync(dir)`), WHATEVER the number `u` of pending unlinks that are durable, is the
image obtained from the flushed disk after that prefix by a whole number of the remaining effects
(`PD.power_reductionD`). At an instant where such an `fsync(file)` has happened it is that image of a prefix
with its late unlinks beyond the first `u` undone (`PDA.power_reductionD_late`).
-/
import MRL.Proofs.PDHist

namespace MRL.PD
open Buf G H L PX C17F

theorem sorted_of_dshape {fb : Nat} {l : Log} {D : Image} (h : DShape fb l D) : KeySorted D :=
  keySorted_iff_keys.mpr (h.files ▸ h.fw.sorted)

theorem _root_.MRL.PX.CutFacts.sorted {g : Geom} {cap : Nat} {D : Image} {b : BufSt} {Em Er : List Effect} {lm : Log}
    {Dm : Image} (h : CutFacts g cap D b Em Er lm Dm) : KeySorted Dm := by
  obtain ⟨Jm, hcm⟩ := h.mid
  exact sorted_of_dshape (dshape_of_cinvx hcm)

/-- `hce`: what `PDA.ce_hist` says of the effects after the cut -/
theorem _root_.MRL.PX.CutFacts.reductionD {g : Geom} {cap : Nat} {D : Image} {b : BufSt} {Em Er : List Effect} {lm : Log}
    {Dm : Image} (h : CutFacts g cap D b Em Er lm Dm)
    (hce : Disc.Each Er fun pre e => PDC.isCE e = true → (∀ p, PDC.pendAfter p pre = false) ∨
      ∃ f m, e = Effect.ensureLen f m ∧ f ∈ (applyOsOps Dm (directOps pre)).map (·.1) ∧
        applyOsOps Dm (directOps (pre ++ [e])) = applyOsOps Dm (directOps pre))
    (k : Nat) (hk : (toOsOpsP cap b Em).2.length ≤ k)
    (hns : lateSync D ((toOsOpsP cap b (Em ++ Er)).2.take k) = false) (u : Nat) :
    ∃ p, powerImageD D ((toOsOpsP cap b (Em ++ Er)).2.take k) u = applyOsOps Dm (directOps (Er.take p)) := by
  obtain ⟨n, hn, hbd⟩ := h.boundary k hk
  obtain ⟨σm, σe, _, hpdr, hdm, hnm, hIm, _⟩ := h.disc
  unfold powerImageD lateSync at *
  rw [hbd] at hns ⊢
  obtain ⟨q, _, himg⟩ := powerD_prefix g.fileBytes (fileBytes_pos g) _ σm _ hIm hdm hnm σe hpdr
    (fun i _ => by rw [h.vol]; exact h.foe i) (by rw [h.vol]; exact h.sorted)
    (by
      intro i f' n hi
      rcases hce i _ hi rfl with h1 | ⟨_, _, _, _, hv⟩
      · left; exact PDC.und_nil_of_pend _ _ (h1 false)
      · right; rw [h.vol, L.take_succ_get hi]; exact hv)
    n hn hns u
  exact ⟨q, by rw [himg, h.vol]⟩

theorem power_reductionD (g : Geom) (hB : g.B ≤ 65542) (cap : Nat) (l : Log) (J : List JE) (D : Image)
    (b : BufSt) (hc : CInvX g l J D) (hwJ : ∀ j ∈ J, C07.WF j.e) (hb : b.pend = []) (evs : List Ev)
    (hwf : ∀ j ∈ jourX g l D evs, C07.WF j.e) (htorn : TornEffs (effsX g l D evs))
    (m : Nat) (pre : List Effect) (f : Nat)
    (htail : effsX g l D (evs.take m) = pre ++ [.flush, .fsyncFile f, .fsyncDir])
    (k : Nat) (hk : (toOsOpsP cap b (effsX g l D (evs.take m))).2.length ≤ k)
    (hns : lateSync D ((toOsOpsP cap b (effsX g l D evs)).2.take k) = false) (u : Nat) :
    ∃ p, powerImageD D ((toOsOpsP cap b (effsX g l D evs)).2.take k) u =
      applyOsOps (diskXs g l D (evs.take m))
        (directOps ((effsX g (logX g l D (evs.take m)) (diskXs g l D (evs.take m)) (evs.drop m)).take p)) := by
  have hcf := cut_facts g hB cap l J D b hc hwJ hb evs hwf htorn m pre f htail
  obtain ⟨Jm, hcm, hwm, hwfr, htornr⟩ := hist_rest g hB hc hwJ evs hwf htorn m
  rw [effsX_split g l D evs m] at hns ⊢
  exact hcf.reductionD (PDA.ce_hist g hB (evs.drop m) hcm hwm hwfr htornr) k hk hns u

end MRL.PD

namespace MRL.PDA
open Buf G H L PX PDC

/-- **the reduction at an instant where `lateSync = true`**: the image with `u` durable unlinks is the volatile
    image, from the disk at the promise point, of a prefix of the later effects with its late unlinks beyond the
    first `u` undone -/
theorem power_reductionD_late (g : Geom) (hB : g.B ≤ 65542) (cap : Nat) (l : Log) (J : List JE) (D : Image)
    (b : BufSt) (hc : CInvX g l J D) (hwJ : ∀ j ∈ J, C07.WF j.e) (hb : b.pend = []) (evs : List Ev)
    (hwf : ∀ j ∈ jourX g l D evs, C07.WF j.e) (htorn : TornEffs (effsX g l D evs))
    (m : Nat) (pre : List Effect) (f : Nat)
    (htail : effsX g l D (evs.take m) = pre ++ [.flush, .fsyncFile f, .fsyncDir])
    (k : Nat) (hk : (toOsOpsP cap b (effsX g l D (evs.take m))).2.length ≤ k)
    (hns : lateSync D ((toOsOpsP cap b (effsX g l D evs)).2.take k) = true)
    (u : Nat) :
    ∃ n, powerImageD D ((toOsOpsP cap b (effsX g l D evs)).2.take k) u =
      applyOsOps (diskXs g l D (evs.take m))
        (directOps (skipLate u
          ((effsX g (logX g l D (evs.take m)) (diskXs g l D (evs.take m)) (evs.drop m)).take n))) := by
  have hcf := cut_facts g hB cap l J D b hc hwJ hb evs hwf htorn m pre f htail
  obtain ⟨n, hn, hbd⟩ := hcf.boundary k hk
  obtain ⟨σm, σe, _, hpdr, hdm, hnm, hIm, _⟩ := hcf.disc
  obtain ⟨Jm, hcm, hwm, hwfr, htornr⟩ := hist_rest g hB hc hwJ evs hwf htorn m
  obtain ⟨hce, hens, hpres, hsp⟩ := hist_discipline g hB (evs.drop m) hcm hwm hwfr htornr _ hcf.vol
  rw [← effsX_split] at hbd
  unfold powerImageD lateSync at *
  rw [hbd] at hns ⊢
  exact ⟨n, by rw [powerD_late g.fileBytes (fileBytes_pos g) _ σm _ hIm hdm hnm σe hpdr
    (fun i _ => by rw [hcf.vol]; exact hcf.foe i) (by rw [hcf.vol]; exact hcf.sorted) hce hens hpres hsp n hn hns u,
    hcf.vol]⟩

end MRL.PDA
