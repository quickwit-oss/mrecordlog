/-
Kernel-evaluable twins of the model functions, for concrete (non-vacuity) examples.

Two things keep the kernel from evaluating a closed term of the model:
* `crcStep` indexes `crcTable = Array.ofFn …`, whose 256 pushes the kernel redoes (quadratically) for
  every byte of every checksum. `crc32N` computes the same checksum on `Nat` without a table (eight
  shift-and-xor steps per byte, all of them GMP-accelerated kernel primitives); `crc32_toNat`.
* `writeEntryBufs` and `scanBlockFrom` are defined by well-founded recursion, which the kernel cannot
  unfold. `webF` and `scanF` are the same functions with fuel, on `crc32N`.
Then: the model functions that reach these (`writeEntryT` … `stepT`, `recoverPreT`, `recoverT`, `stepJT`), which
are the model's text with the twin in place of the callee, each proved EQUAL to the original for all
arguments by unfolding both sides — so a change in the shape of a model function stops the build here, not
in the examples. A concrete evaluation is `rw [step_twin]; decide +kernel` (kernel reduction only: no
compiler; the evaluation itself adds no axiom).
The `DecidableEq` instances derived below (one of them for the core type `Except`) are global; they serve
the evaluations only, no statement depends on them.
-/
import MRL.Proofs.Journal
import MRL.Model.Disk

namespace MRL.Twin
open Log Consts

deriving instance DecidableEq for MRL.Log
deriving instance DecidableEq for MRL.Recovered
deriving instance DecidableEq for Except
deriving instance DecidableEq for MRL.BufSt
deriving instance DecidableEq for MRL.Outcome
deriving instance DecidableEq for MRL.JE

/-- one bit of the reflected division by the CRC-32 polynomial -/
def crcBitN (c : Nat) : Nat := if c % 2 = 1 then 0xEDB88320 ^^^ (c / 2) else c / 2

/-- `crcTableEntry`, computed -/
def crcByteN (c : Nat) : Nat := crcBitN (crcBitN (crcBitN (crcBitN (crcBitN (crcBitN (crcBitN (crcBitN c)))))))

def crcStepN (c : Nat) (b : UInt8) : Nat := crcByteN ((c ^^^ b.toNat) % 256) ^^^ (c / 256)

def crc32N (bs : Bytes) : Nat := bs.foldl crcStepN 0xFFFFFFFF ^^^ 0xFFFFFFFF

theorem crcBit_toNat (c : UInt32) :
    (if c &&& 1 == 1 then (0xEDB88320 : UInt32) ^^^ (c >>> 1) else c >>> 1).toNat = crcBitN c.toNat := by
  have h1 : (c &&& 1 == 1) = decide (c.toNat % 2 = 1) := by
    rw [Bool.eq_iff_iff]
    simp only [beq_iff_eq, decide_eq_true_eq, ← UInt32.toNat_inj, UInt32.toNat_and]
    show c.toNat &&& 1 = 1 ↔ _
    rw [Nat.and_one_is_mod]
  have h2 : (c >>> 1).toNat = c.toNat / 2 := by
    rw [UInt32.toNat_shiftRight]; show c.toNat >>> 1 = _; rw [Nat.shiftRight_eq_div_pow]
  unfold crcBitN
  rw [h1]
  by_cases h : c.toNat % 2 = 1
  · simp only [h, decide_true, if_true, UInt32.toNat_xor, h2]; rfl
  · simp only [h, decide_false, if_false]; exact h2

theorem crcTableEntry_toNat (i : Nat) (hi : i < 256) : (crcTableEntry i).toNat = crcByteN i := by
  have h0 : i.toUInt32.toNat = i := Nat.mod_eq_of_lt (by omega)
  unfold crcTableEntry crcByteN
  simp only [crcBit_toNat, h0]

theorem crcStep_toNat (c : UInt32) (b : UInt8) : (crcStep c b).toNat = crcStepN c.toNat b := by
  have hi : ((c ^^^ b.toUInt32) &&& 0xFF).toNat = (c.toNat ^^^ b.toNat) % 256 := by
    rw [UInt32.toNat_and, UInt32.toNat_xor, UInt8.toNat_toUInt32]
    exact Nat.and_two_pow_sub_one_eq_mod _ 8
  have hlt : (c.toNat ^^^ b.toNat) % 256 < 256 := Nat.mod_lt _ (by decide)
  have h8 : (c >>> 8).toNat = c.toNat / 256 := by
    rw [UInt32.toNat_shiftRight]; show c.toNat >>> 8 = _; rw [Nat.shiftRight_eq_div_pow]
  have ht : crcTable[(c.toNat ^^^ b.toNat) % 256]! = crcTableEntry ((c.toNat ^^^ b.toNat) % 256) := by
    unfold crcTable
    rw [getElem!_pos _ _ (by simpa using hlt), Array.getElem_ofFn]
  unfold crcStep crcStepN
  rw [UInt32.toNat_xor, h8, hi, ht, crcTableEntry_toNat _ hlt]

theorem crc32_toNat (bs : Bytes) : (crc32 bs).toNat = crc32N bs := by
  have hf : ∀ (bs : Bytes) (c : UInt32), (bs.foldl crcStep c).toNat = bs.foldl crcStepN c.toNat := by
    intro bs
    induction bs with
    | nil => intro c; rfl
    | cons b bs ih => intro c; rw [List.foldl_cons, List.foldl_cons, ih, crcStep_toNat]
  unfold crc32 crc32N
  rw [UInt32.toNat_xor, hf]; rfl

/-- `frameCrc` without the table: the form in which a concrete checksum is evaluated -/
theorem frameCrc_eq (t : FrameType) (p : Bytes) : frameCrc t p = crc32N (t.code.toUInt8 :: p) :=
  crc32_toNat _

def encodeFrameN (t : FrameType) (p : Bytes) : Bytes :=
  leBytes (crc32N (t.code.toUInt8 :: p)) 4 ++ leBytes p.length 2 ++ [t.code.toUInt8] ++ p

theorem encodeFrame_eq (t : FrameType) (p : Bytes) : encodeFrame t p = encodeFrameN t p := by
  unfold encodeFrame encodeHeader encodeFrameN
  rw [frameCrc_eq]

def webF (g : Geom) : Nat → Nat → Bool → Bytes → List Bytes
  | 0, _, _, _ => []
  | fuel + 1, c, isFirst, payload =>
    let n := min (maxFrameLen g c) payload.length
    let rest := payload.drop n
    let fr := encodeFrameN (FrameType.ofFlags isFirst rest.isEmpty) (payload.take n)
    let bufs := if g.B - c < HEADER_LEN then [zeros (g.B - c), fr] else [fr]
    if rest.isEmpty then bufs else bufs ++ webF g fuel (frameEndCursor g c n) false rest

theorem web_eq (g : Geom) : ∀ (fuel c : Nat) (isFirst : Bool) (payload : Bytes) (hc : c < g.B),
    2 * payload.length + (if maxFrameLen g c = 0 then 1 else 0) < fuel →
    writeEntryBufs g c isFirst payload hc = webF g fuel c isFirst payload := by
  intro fuel
  induction fuel with
  | zero => intro c b p hc h; omega
  | succ fuel ih =>
    intro c b p hc h
    rw [writeEntryBufs]
    simp only [webF, frameWrites, encodeFrame_eq]
    by_cases hr : (p.drop (min (maxFrameLen g c) p.length)).isEmpty = true
    · simp only [hr, dite_true, if_true]
    · simp only [hr, Bool.false_eq_true, ↓reduceDIte, ↓reduceIte]
      congr 1
      apply ih
      -- the measure of `writeEntryBufs` (payload length, then "no room for a payload byte") decreases
      have hlen : (p.drop (min (maxFrameLen g c) p.length)).length = p.length - min (maxFrameLen g c) p.length :=
        List.length_drop
      have hne : (p.drop (min (maxFrameLen g c) p.length)).length ≠ 0 := by
        intro h0; apply hr; simp only [List.isEmpty_iff]; exact List.eq_nil_of_length_eq_zero h0
      by_cases hn : min (maxFrameLen g c) p.length = 0
      · have hm : maxFrameLen g c = 0 := by omega
        have h2 := maxFrameLen_adv_of_zero g c hc hm
        rw [hn] at hlen ⊢
        rw [if_neg h2]
        rw [if_pos hm] at h
        simp only [List.drop_zero] at hlen ⊢
        omega
      · have e1 : (if maxFrameLen g (frameEndCursor g c (min (maxFrameLen g c) p.length)) = 0 then 1 else 0) ≤ 1 := by
          split <;> decide
        have e2 : 2 * p.length < fuel + 1 := Nat.lt_of_le_of_lt (Nat.le_add_right _ _) h
        generalize (if maxFrameLen g (frameEndCursor g c (min (maxFrameLen g c) p.length)) = 0 then 1 else 0) = x at e1 ⊢
        omega

variable (g : Geom)

def writeEntryT (l : Log) (e : Entry) : Log × List Effect × Nat :=
  let bufs := webF g (2 * e.encode.length + 2) (l.off % g.B) true e.encode
  let (l1, effs) := writeBufs g l bufs
  (l1, effs, totalLen bufs)

theorem writeEntry_twin (l : Log) (e : Entry) : l.writeEntry g e = writeEntryT g l e := by
  unfold Log.writeEntry writeEntryT MRL.writeEntry
  rw [web_eq g (2 * e.encode.length + 2) (l.off % g.B) true e.encode _
    (Nat.add_lt_add_left (by split <;> decide) _)]

def writeTouchesT (l : Log) : List Bytes → Log × List Effect × Nat
  | [] => (l, [], 0)
  | name :: rest =>
    let next := match l.queues.get? name with
      | some q => q.nextPosition
      | none => 0
    let (l1, e1, n1) := writeEntryT g l (.touch name next)
    let (l2, e2, n2) := writeTouchesT l1 rest
    (l2, e1 ++ e2, n1 + n2)

theorem writeTouches_twin (names : List Bytes) : ∀ l : Log, writeTouches g l names = writeTouchesT g l names := by
  induction names with
  | nil => intro l; rfl
  | cons n ns ih =>
    intro l
    simp only [writeTouches, writeTouchesT, writeEntry_twin, ih]
    rfl

def runGcT (l : Log) (order : List Bytes) : Log × List Effect × Nat :=
  match l.files with
  | f :: _ :: _ =>
    if l.canDelete l.cur f then
      let pinned := l.cur
      let names := if isPermOf order l.queues.emptyNames then order else l.queues.emptyNames
      let (l1, e1, n) := writeTouchesT g l names
      let e2 := l1.persistEffects .flushAndFsync
      let (remaining, deleted) := gcFiles (l1.canDelete pinned) l1.files
      ({ l1 with files := remaining }, e1 ++ e2 ++ deleted.map Effect.unlink, n)
    else (l, [], 0)
  | _ => (l, [], 0)

theorem runGc_twin (l : Log) (order : List Bytes) : runGc g l order = runGcT g l order := by
  unfold runGc runGcT
  simp only [writeTouches_twin]
  rfl

def stepT (l : Log) (c : Call) (tick : Bool) (order : List Bytes) : Log × Outcome × List Effect :=
  match c with
  | .create q =>
    if l.queues.contains q then (l, .alreadyExists, [])
    else
      let (l1, e1, n) := writeEntryT g l (.touch q 0)
      let e2 := l1.persistEffects .flushAndFsync
      ({ l1 with queues := l1.queues.set q {} }, .created n, e1 ++ e2)
  | .delete q =>
    match l.queues.get? q with
    | none => (l, .missingQueue, [])
    | some mq =>
      let (l1, e1, n1) := writeEntryT g l (.delete q mq.nextPosition)
      let l2 := { l1 with queues := l1.queues.remove q }
      let (l3, e3, n3) := runGcT g l2 order
      (l3, .deleted (n1 + n3), e1 ++ e3 ++ l3.persistEffects .flushAndFsync)
  | .append q pos? payloads =>
    match l.queues.get? q with
    | none => (l, .missingQueue, [])
    | some mq =>
      let next := mq.nextPosition
      let noop : Log × Outcome × List Effect := (l, .appended none 0, [])
      match (match pos? with
             | some p => if p + 1 = next then some none else if p < next then none else some (some p)
             | none => some (some next)) with
      | none => (l, .past, [])
      | some none => noop
      | some (some pos) =>
        if payloads.isEmpty then noop
        else
          let recs := numberFrom pos payloads
          let file := l.cur
          let (l1, e1, n) := writeEntryT g l (.append q pos recs)
          let e2 := l1.policyEffects tick
          match appendAll mq file recs with
          | none => (l1, .past, e1 ++ e2)
          | some mq' =>
            ({ l1 with queues := l1.queues.set q mq' },
             .appended (some (pos + payloads.length - 1)) n, e1 ++ e2)
  | .truncate q p =>
    match l.queues.get? q with
    | none => (l, .missingQueue, [])
    | some mq =>
      let (l1, e1, n1) := writeEntryT g l (.truncate q p)
      let (mq', evicted) := mq.truncateHead p
      let l2 := { l1 with queues := l1.queues.set q mq' }
      let (l3, e3, n3) := runGcT g l2 order
      (l3, .truncated evicted (n1 + n3), e1 ++ e3 ++ l3.policyEffects tick)
  | .persist a => (l, .persisted, l.persistEffects a)

theorem step_twin (l : Log) (c : Call) (tick : Bool) (order : List Bytes) :
    l.step g c tick order = stepT g l c tick order := by
  unfold Log.step stepT
  simp only [writeEntry_twin, runGc_twin]
  rfl

/-- a frame takes at least `HEADER_LEN` bytes, so `g.B` is fuel enough -/
def scanF (g : Geom) : Nat → Bytes → Nat → List FrameEv × BlockEnd
  | 0, _, c => ([], .needNext c)
  | fuel + 1, rest, c =>
    if g.B - c < HEADER_LEN then ([], .needNext c)
    else
      let hdr := rest.take HEADER_LEN
      if isAllZero hdr then ([], .zeroHeader c)
      else
        match FrameType.ofCode (hdr.getD 6 0).toNat with
        | none => ([.corrupt], .needNext c)
        | some t =>
          let len := leNat ((hdr.drop 4).take 2)
          let c1 := c + HEADER_LEN
          if c1 + len > g.B then ([.corrupt], .needNext c1)
          else
            let body := rest.drop HEADER_LEN
            let p := body.take len
            let ev := if crc32N (t.code.toUInt8 :: p) = leNat (hdr.take 4) then FrameEv.frame t p else FrameEv.corrupt
            let (evs, e) := scanF g fuel (body.drop len) (c1 + len)
            (ev :: evs, e)

theorem scan_eq : ∀ (fuel : Nat) (rest : Bytes) (c : Nat), g.B - c < fuel →
    scanBlockFrom g rest c = scanF g fuel rest c := by
  intro fuel
  induction fuel with
  | zero => intro rest c h; omega
  | succ fuel ih =>
    intro rest c h
    have hb : ¬ g.B - c < HEADER_LEN →
        g.B - (c + HEADER_LEN + leNat (((rest.take HEADER_LEN).drop 4).take 2)) < fuel := by
      simp only [HEADER_LEN] at *; omega
    rw [scanBlockFrom]
    simp only [scanF, frameCrc_eq]
    by_cases h7 : g.B - c < HEADER_LEN
    · simp only [h7, dite_true, if_true]
    · simp only [h7, dite_false, if_false, ih _ _ (hb h7)]
      rfl

def scanBlocksT (failAt : Option Nat) (trail : Nat) : Nat → Blk → Nat → List Blk → Option (List RdEv × EndPos × Nat)
  | io, cur, c, rest =>
    match scanF g (g.B + 1) (cur.data.drop c) c with
    | (evs, .zeroHeader c') => some (tagEvs cur.file evs, ⟨cur.file, cur.idx, c'⟩, io)
    | (evs, .needNext c') =>
      match rest with
      | [] =>
        if ioFails failAt io (io + trail) then none
        else some (tagEvs cur.file evs, ⟨cur.file, cur.idx, c'⟩, io + trail)
      | b :: rest' =>
        if ioFails failAt io (io + b.cost) then none
        else
          match scanBlocksT failAt trail (io + b.cost) b 0 rest' with
          | none => none
          | some (evs2, e, io') => some (tagEvs cur.file evs ++ evs2, e, io')

theorem scanBlocks_twin (failAt : Option Nat) (trail : Nat) (rest : List Blk) : ∀ (io : Nat) (cur : Blk) (c : Nat),
    scanBlocks g failAt trail io cur c rest = scanBlocksT g failAt trail io cur c rest := by
  induction rest with
  | nil =>
    intro io cur c
    rw [scanBlocks, scanBlocksT, scanBlock, scan_eq g (g.B + 1) _ c (by omega)]
    rfl
  | cons b rest ih =>
    intro io cur c
    rw [scanBlocks, scanBlocksT, scanBlock, scan_eq g (g.B + 1) _ c (by omega)]
    simp only [ih]
    rfl

def recoverPreT (img : Image) (policy : Policy) (failAt : Option Nat) : Except OpenErr (Log × List Effect × Nat) :=
  let (img1, e0) := prepareImage g img
  match blocksOf g img1 1 with
  | ([], _) => .error .io
  | (b0 :: rest, trail) =>
    if ioFails failAt 0 b0.cost then .error .io
    else
      match scanBlocksT g failAt trail b0.cost b0 0 rest with
      | none => .error .io
      | some (evs, endPos, io) =>
        match replay [] (assemble { within := false, buf := [], attr := b0.file } evs) with
        | none => .error .corruption
        | some qs =>
          .ok ({ files := img1.map (·.1), cur := endPos.file,
                 off := endPos.idx * g.B + endPos.cursor, queues := qs, policy := policy }, e0, io)

theorem recoverPre_twin (img : Image) (policy : Policy) (failAt : Option Nat) :
    recoverPre g img policy failAt = recoverPreT g img policy failAt := by
  unfold recoverPre recoverPreT
  simp only [scanBlocks_twin]
  rfl

def recoverT (img : Image) (policy : Policy) (order : List Bytes) (failAt : Option Nat) :
    Except OpenErr Recovered :=
  match recoverPreT g img policy failAt with
  | .error e => .error e
  | .ok (l, e0, io) =>
    let (l', e1, _) := runGcT g l order
    let nOpen := (e1.filter fun e => match e with | .openFile _ => true | _ => false).length
    if ioFails failAt io (io + nOpen) then .error .io
    else .ok { log := l', effects := e0 ++ e1, ioCalls := io + nOpen }

theorem recover_twin (img : Image) (policy : Policy) (order : List Bytes) (failAt : Option Nat) :
    recover g img policy order failAt = recoverT g img policy order failAt := by
  unfold recover recoverT
  simp only [runGc_twin, recoverPre_twin]
  rfl

def touchesJT (l : Log) : List Bytes → List JE
  | [] => []
  | name :: rest =>
    let next := match l.queues.get? name with
      | some q => q.nextPosition
      | none => 0
    let e := Entry.touch name next
    l.je g e :: touchesJT (writeEntryT g l e).1 rest

theorem touchesJ_twin (names : List Bytes) : ∀ l : Log, touchesJ g l names = touchesJT g l names := by
  induction names with
  | nil => intro l; rfl
  | cons n ns ih =>
    intro l
    simp only [touchesJ, touchesJT, writeEntry_twin, ih]
    rfl

def gcJT (l : Log) (order : List Bytes) : List JE :=
  match l.files with
  | f :: _ :: _ =>
    if l.canDelete l.cur f then
      let names := if isPermOf order l.queues.emptyNames then order else l.queues.emptyNames
      touchesJT g l names
    else []
  | _ => []

theorem gcJ_twin (l : Log) (order : List Bytes) : gcJ g l order = gcJT g l order := by
  unfold gcJ gcJT
  simp only [touchesJ_twin]
  rfl

def stepJT (l : Log) (c : Call) (order : List Bytes) : List JE :=
  match c with
  | .create q => if l.queues.contains q then [] else [l.je g (.touch q 0)]
  | .delete q =>
    match l.queues.get? q with
    | none => []
    | some mq =>
      let e := Entry.delete q mq.nextPosition
      let l1 := (writeEntryT g l e).1
      let l2 := { l1 with queues := l1.queues.remove q }
      l.je g e :: gcJT g l2 order
  | .append q pos? payloads =>
    match l.queues.get? q with
    | none => []
    | some mq =>
      let next := mq.nextPosition
      match (match pos? with
             | some p => if p + 1 = next then some none else if p < next then none else some (some p)
             | none => some (some next)) with
      | none => []
      | some none => []
      | some (some pos) =>
        if payloads.isEmpty then [] else [l.je g (.append q pos (numberFrom pos payloads))]
  | .truncate q p =>
    match l.queues.get? q with
    | none => []
    | some mq =>
      let e := Entry.truncate q p
      let l1 := (writeEntryT g l e).1
      let l2 := { l1 with queues := l1.queues.set q (mq.truncateHead p).1 }
      l.je g e :: gcJT g l2 order
  | .persist _ => []

theorem stepJ_twin (l : Log) (c : Call) (order : List Bytes) : l.stepJ g c order = stepJT g l c order := by
  unfold Log.stepJ stepJT
  simp only [writeEntry_twin, gcJ_twin]
  rfl

end MRL.Twin
