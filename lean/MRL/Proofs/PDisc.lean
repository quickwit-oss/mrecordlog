/-
The effects of every call, and of every run of calls, obey the power-loss discipline `pd` (with
the file being written as current file), as long as no tracked file lies beyond the current one
(`NoNext`: true of every log reached without crashes — an interrupted roll-over leaves one, the case of
`PX.pd` —; a roll-over then creates the next file). The discipline is
followed along the call (`Step.AlongCall`); what is particular to it is one buffer written
(`pd_write`) and the unlinks of a GC pass. `pd_effsD` stands on its own: the C03 theorems, those for runs
of calls included, go through `PX.pd` (`PXDisc.lean`, `PXRun.lean`), which needs no `NoNext`.
-/
import MRL.Proofs.PSem
import MRL.Proofs.KRun

namespace MRL.P
open Log K

def NoNext (l : Log) : Prop := nextFile l.files l.cur = none

/-- the discipline state matches the log: the current file is the one written, it is not empty -/
structure PDL (σ : PD) (l : Log) : Prop where
  wf : σ.wf = l.cur
  wrt : σ.wrt = true
  nn : NoNext l

theorem nextFile_none_iff (files : List Nat) (cur : Nat) : nextFile files cur = none ↔ ∀ f ∈ files, ¬ cur < f := by
  unfold nextFile
  rw [List.find?_eq_none]
  simp

def Obeys : Log → List Effect → Log → Prop := Disc.Obeys pd1 PDL

theorem roll_none {files : List Nat} {cur : Nat} (h : nextFile files cur = none) :
    ∀ f ∈ files ++ [cur + 1], ¬ cur + 1 < f := by
  intro f hf
  rcases List.mem_append.mp hf with hf | hf
  · exact Nat.not_lt.mpr (Nat.le_succ_of_le (nextFile_none h f hf))
  · rw [List.mem_singleton.mp hf]; exact Nat.lt_irrefl _

theorem pd_persist (l : Log) (a : PersistAction) (σ : PD) (h : PDL σ l) :
    ∃ σ', Disc.run pd1 σ (l.persistEffects a) = some σ' ∧ PDL σ' l ∧ σ'.clean = true ∧
      (a = .flushAndFsync → σ'.dirty = false ∧ σ'.named = true) := by
  obtain ⟨hw, hwrt, hnn⟩ := h
  cases a with
  | flush =>
    exact ⟨{ σ with clean := true }, rfl, ⟨hw, hwrt, hnn⟩, rfl, fun hx => by cases hx⟩
  | flushAndFsync =>
    exact ⟨{ σ with clean := true, dirty := false, named := true }, by simp [persistEffects, Disc.run, pd1, hw, hwrt],
      ⟨hw, hwrt, hnn⟩, rfl, fun _ => ⟨rfl, rfl⟩⟩

/-- the write path; a roll-over first does `flush, fsync(file), fsync(dir)`, and with no tracked file
    beyond the current one it creates the next -/
theorem pd_write (g : Geom) : Step.Along g fun l es _ l' => Obeys l es l' :=
  .of_shapes (fun _ σ h => ⟨σ, rfl, h⟩) Disc.Obeys.trans
    (fun l buf hb _ σ ⟨hw, _, hnn⟩ =>
      ⟨{ σ with dirty := true, wrt := true, clean := false },
        by simp only [Disc.run, pd1, hw, ne_eq, hb, not_false_eq_true, and_self, if_true, Option.bind_some], hw, rfl, hnn⟩)
    (fun l _ nf _ hn σ h => nomatch h.nn.symm.trans hn)
    (fun l buf hb hnn σ h => by
      obtain ⟨σ2, q2, ⟨hw2, _, _⟩, c2, a2⟩ := pd_persist l .flushAndFsync σ h
      obtain ⟨hd2, hn2⟩ := a2 rfl
      have q2 : Disc.run pd1 σ [.flush, .fsyncFile l.cur, .fsyncDir] = some σ2 := q2
      refine ⟨{ σ2 with wf := l.cur + 1, dirty := true, named := false, wrt := true, clean := false }, ?_, rfl, rfl,
        (nextFile_none_iff _ _).mpr (roll_none hnn)⟩
      show Disc.run pd1 σ ([.flush, .fsyncFile l.cur, .fsyncDir] ++ [_, _, _]) = _
      rw [Disc.run_append, q2]
      simp only [Disc.run, pd1, hw2, hd2, hn2, c2, ne_eq, hb, not_false_eq_true, Option.bind_some, and_self, if_true,
        Nat.lt_add_one])

theorem PDL.congr {σ : PD} {l l' : Log} (h : PDL σ l) (hf : l'.files = l.files) (hc : l'.cur = l.cur) : PDL σ l' :=
  ⟨by rw [hc]; exact h.wf, h.wrt, by unfold NoNext; rw [hf, hc]; exact h.nn⟩

theorem pd_unlinks (fs : List Nat) (σ : PD) (hne : ∀ f ∈ fs, f ≠ σ.wf) (hd : σ.dirty = false) (hn : σ.named = true)
    (hc : σ.clean = true) : Disc.run pd1 σ (fs.map Effect.unlink) = some σ := by
  induction fs with
  | nil => rfl
  | cons f fs ih =>
    simp only [List.map_cons, Disc.run, pd1]
    rw [if_pos ⟨hne f List.mem_cons_self, hd, hn, hc⟩]
    exact ih (fun f' hf' => hne f' (List.mem_cons_of_mem _ hf'))

/-- the discipline is followed along a call; at the end of a GC pass everything is durable when the
    unlinks come, none of them is the current file, and no tracked file is added -/
theorem along_obeys (g : Geom) : Step.AlongCall g fun l es _ l' => Obeys l es l' where
  nil := (pd_write g).nil
  app := Disc.Obeys.trans
  entry := (pd_write g).writeEntry
  sync := fun l a σ h => by obtain ⟨σ', h1, h2, _⟩ := pd_persist l a σ h; exact ⟨σ', h1, h2⟩
  queues := fun _ _ σ h => ⟨σ, rfl, h.congr rfl rfl⟩
  unlinks := fun l pinned σ h => by
    obtain ⟨σ2, q2, p2, c2, a2⟩ := pd_persist l .flushAndFsync σ h
    obtain ⟨hd, hn⟩ := a2 rfl
    have hdel : ∀ f ∈ (gcFiles (l.canDelete pinned) l.files).2, f ≠ σ2.wf := by
      intro f hf e
      have := Step.gcFiles_deleted _ _ f hf
      rw [e, p2.wf] at this
      simp [canDelete] at this
    refine ⟨σ2, ?_, ⟨p2.wf, p2.wrt, ?_⟩⟩
    · rw [Disc.run_append, q2]
      exact pd_unlinks _ σ2 hdel hd hn c2
    · show nextFile (gcFiles (l.canDelete pinned) l.files).1 l.cur = none
      rw [nextFile_none_iff]
      intro f hf
      exact (nextFile_none_iff _ _).mp p2.nn f
        (by rw [← Step.gcFiles_split (l.canDelete pinned) l.files]; exact List.mem_append_right _ hf)

theorem pd_step (g : Geom) (l : Log) (c : Call) (tick : Bool) (order : List Bytes) (σ : PD) (h : PDL σ l) :
    ∃ σ', Disc.run pd1 σ (l.step g c tick order).2.2 = some σ' ∧ PDL σ' (l.step g c tick order).1 :=
  (along_obeys g).step l c tick order σ h

theorem pd_effsD (g : Geom) (cs : List (Call × Bool × List Bytes)) : ∀ (l : Log) (σ : PD), PDL σ l →
    ∃ σ', pd σ (effsD g l cs) = some σ' ∧ PDL σ' (logD g l cs) := by
  simp only [pd_eq]
  induction cs with
  | nil => intro l σ h; exact ⟨σ, rfl, h⟩
  | cons x cs ih =>
    intro l σ h
    obtain ⟨c, tick, order⟩ := x
    obtain ⟨σ1, q1, p1⟩ := pd_step g l c tick order σ h
    obtain ⟨σ2, q2, p2⟩ := ih _ σ1 p1
    refine ⟨σ2, ?_, p2⟩
    simp only [effsD]
    rw [Disc.run_append, q1]
    exact q2

end MRL.P
