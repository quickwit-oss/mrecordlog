/-
Equivalence of queue maps up to the file handles (`AbsEq`, the abstraction of C05). Replay is a
congruence for it even when the two replays attribute the entries to different files.
-/
import MRL.Proofs.JCongr
import MRL.Proofs.GAssemble

namespace MRL.H
open C05 Log

/-- same names, and per queue the same abstract state `MemQueue.abs` (next position, positions
    and payloads); the file handles are left out -/
def AbsEq (a b : MemQueues) : Prop := ∀ n, (a.get? n).map MemQueue.abs = (b.get? n).map MemQueue.abs

theorem AbsEq.refl (a : MemQueues) : AbsEq a a := fun _ => rfl
theorem AbsEq.symm {a b : MemQueues} (h : AbsEq a b) : AbsEq b a := fun n => (h n).symm
theorem AbsEq.trans {a b c : MemQueues} (h1 : AbsEq a b) (h2 : AbsEq b c) : AbsEq a c :=
  fun n => (h1 n).trans (h2 n)

theorem AbsEq.of_qsEquiv {a b : MemQueues} (h : QsEquiv a b) : AbsEq a b :=
  h.map_get MemQueue.abs fun _ _ => QEquiv.abs_eq

theorem AbsEq.get_some {a b : MemQueues} (h : AbsEq a b) {n : Bytes} {x : MemQueue}
    (hx : a.get? n = some x) : ∃ y, b.get? n = some y ∧ x.abs = y.abs := by
  have := h n
  rw [hx] at this
  cases hb : b.get? n with
  | none => rw [hb] at this; cases this
  | some y => rw [hb] at this; exact ⟨y, rfl, by simpa using this⟩

theorem AbsEq.get_none {a b : MemQueues} (h : AbsEq a b) {n : Bytes} (hx : a.get? n = none) :
    b.get? n = none := by
  have := h n
  rw [hx] at this
  cases hb : b.get? n with
  | none => rfl
  | some y => rw [hb] at this; cases this

theorem AbsEq.contains {a b : MemQueues} (h : AbsEq a b) (n : Bytes) : a.contains n = b.contains n := by
  rw [MemQueues.contains_isSome, MemQueues.contains_isSome]
  cases ha : a.get? n with
  | none => rw [h.get_none ha]
  | some x => obtain ⟨y, hy, _⟩ := h.get_some ha; rw [hy]; rfl

theorem AbsEq.remove {a b : MemQueues} (h : AbsEq a b) (n : Bytes) : AbsEq (a.remove n) (b.remove n) :=
  AL.rel_remove (R := fun u v => u.map MemQueue.abs = v.map MemQueue.abs) h n rfl

theorem abs_next {x y : MemQueue} (h : x.abs = y.abs) : x.nextPosition = y.nextPosition := by
  have := congrArg SQueue.next h; exact this

theorem abs_recs {x y : MemQueue} (h : x.abs = y.abs) :
    x.recs.map (fun r => (r.pos, r.payload)) = y.recs.map (fun r => (r.pos, r.payload)) := by
  have := congrArg SQueue.recs h; exact this

theorem abs_appendRecord {a b a' : MemQueue} (h : a.abs = b.abs) {f f' p : Nat} {pl : Bytes}
    (ha : a.appendRecord f p pl = some a') :
    ∃ b', b.appendRecord f' p pl = some b' ∧ a'.abs = b'.abs := by
  have hle := appendRecord_some_le ha
  unfold MemQueue.appendRecord at ha ⊢
  have h1 : ¬ p < a.nextPosition := by omega
  have h2 : ¬ p < b.nextPosition := by rw [← abs_next h]; exact h1
  simp only [h1, if_false, Option.some.injEq] at ha
  simp only [h2, if_false]
  refine ⟨_, rfl, ?_⟩
  subst ha
  unfold MemQueue.abs
  rw [MemQueue.nextPosition_append, MemQueue.nextPosition_append]
  simp only [List.map_append, MemQueue.dropLastHandle_map, abs_recs h]
  rfl

theorem abs_appendAll (f f' : Nat) (rs : List (Nat × Bytes)) : ∀ {a b a' : MemQueue}, a.abs = b.abs →
    appendAll a f rs = some a' → ∃ b', appendAll b f' rs = some b' ∧ a'.abs = b'.abs := by
  induction rs with
  | nil => intro a b a' h ha; cases ha; exact ⟨b, rfl, h⟩
  | cons r rs ih =>
    intro a b a' h ha
    obtain ⟨p, pl⟩ := r
    simp only [appendAll] at ha ⊢
    cases h1 : a.appendRecord f p pl with
    | none => rw [h1] at ha; cases ha
    | some a1 =>
      rw [h1] at ha
      obtain ⟨b1, hb1, he1⟩ := abs_appendRecord (f' := f') h h1
      rw [hb1]
      exact ih he1 ha

theorem abs_truncateHead {a b : MemQueue} (h : a.abs = b.abs) (ha : QInv a) (hb : QInv b) (p : Nat) :
    (a.truncateHead p).1.abs = (b.truncateHead p).1.abs := by
  obtain ⟨a1, a2, _, _, _⟩ := MemQueue.truncateHead_spec a p ha.1 ha.2
  obtain ⟨b1, b2, _, _, _⟩ := MemQueue.truncateHead_spec b p hb.1 hb.2
  unfold MemQueue.abs
  rw [a1, a2, b1, b2, abs_next h]
  have hf : ∀ rs : List Rec, (rs.filter (fun r => decide (p < r.pos))).map (fun r => (r.pos, r.payload)) =
      (rs.map (fun r => (r.pos, r.payload))).filter (fun x => decide (p < x.1)) := by
    intro rs; rw [List.filter_map]; rfl
  rw [hf, hf, abs_recs h]

theorem replayEntry_abs {a b a' : MemQueues} {f f' : Nat} {e : Entry} (h : AbsEq a b)
    (ha : QsWF a) (hb : QsWF b) (hr : replayEntry a f e = some a') :
    ∃ b', replayEntry b f' e = some b' ∧ AbsEq a' b' :=
  replayEntry_rel (R := fun u v => u.map MemQueue.abs = v.map MemQueue.abs) rfl
    (fun {u v} huv => by cases u <;> cases v <;> simp_all)
    (fun _ => rfl)
    (fun p hxy hx hy => congrArg some (abs_truncateHead (Option.some.inj hxy) hx hy p))
    (fun recs hxy hx => by
      obtain ⟨y', h1, h2⟩ := abs_appendAll f f' recs (Option.some.inj hxy) hx
      exact ⟨y', h1, congrArg some h2⟩)
    h ha hb hr

end MRL.H
