/-
C08 (genuineness): locations. The absolute header positions of the frames of a layout (`locs`); what
the reader needs of such a list (`Located`: positions strictly increase, and the frame after the one
at `q` is at or after the next header position behind it; `locs` and, later, `Img.glocs` are
instances); the located frames at or after a position (`ahead`), and `TightAt`: none of them lies in
the padding the reader is about to skip.
-/
import MRL.Proofs.GPos

namespace MRL.Gen
open Codec

/-- the frames of a layout written from absolute position `P`, each with the absolute position of
    its header (`G.hdrPos`: after the padding, if any) -/
def locs (g : Geom) : Nat → List Frm → List (Nat × Frm)
  | _, [] => []
  | P, fr :: fs => (G.hdrPos g P, fr) :: locs g (G.nextPos g P fr.2.length) fs

theorem locs_snd (g : Geom) (fs : List Frm) : ∀ P, (locs g P fs).map (·.2) = fs := by
  induction fs with
  | nil => intro P; rfl
  | cons fr fs ih => intro P; simp [locs, ih]

theorem lt_after (q n : Nat) : q < q + 7 + n :=
  Nat.lt_of_lt_of_le (Nat.lt_add_of_pos_right (by decide)) (Nat.le_add_right _ _)

theorem locs_ge (g : Geom) (fs : List Frm) : ∀ P, ∀ y ∈ locs g P fs, G.hdrPos g P ≤ y.1 := by
  induction fs with
  | nil => intro P y hy; cases hy
  | cons fr fs ih =>
    intro P y hy
    simp only [locs, List.mem_cons] at hy
    rcases hy with rfl | hy
    · exact Nat.le_refl _
    · exact Nat.le_trans (Nat.le_of_lt (lt_after _ _))
        (Nat.le_trans (G.le_hdrPos g (G.nextPos g P fr.2.length)) (ih _ y hy))

structure Located (g : Geom) (LL : List (Nat × Frm)) : Prop where
  sorted : LL.Pairwise (fun a b => a.1 < b.1)
  gap : ∀ A x Bl, LL = A ++ x :: Bl → ∀ y ∈ Bl, G.hdrPos g (x.1 + 7 + x.2.2.length) ≤ y.1

theorem Located.cons {g : Geom} {x : Nat × Frm} {LL : List (Nat × Frm)} (hL : Located g LL)
    (hge : ∀ y ∈ LL, G.hdrPos g (x.1 + 7 + x.2.2.length) ≤ y.1) : Located g (x :: LL) := by
  constructor
  · rw [List.pairwise_cons]
    exact ⟨fun y hy => Nat.lt_of_lt_of_le (lt_after _ _)
      (Nat.le_trans (G.le_hdrPos g (x.1 + 7 + x.2.2.length)) (hge y hy)), hL.sorted⟩
  · intro A z Bl h y hy
    cases A with
    | nil =>
      obtain ⟨rfl, rfl⟩ := List.cons.inj h
      exact hge y hy
    | cons a A => exact hL.gap A z Bl (List.cons.inj h).2 y hy

theorem located_locs (g : Geom) (fs : List Frm) : ∀ P, Located g (locs g P fs) := by
  induction fs with
  | nil => intro P; exact ⟨List.Pairwise.nil, fun A x Bl h => by cases A <;> simp [locs] at h⟩
  | cons fr fs ih => intro P; exact (ih _).cons (locs_ge g fs (G.nextPos g P fr.2.length))

def ahead (LL : List (Nat × Frm)) (P : Nat) : List (Nat × Frm) := LL.filter fun y => decide (P ≤ y.1)

def TightAt (g : Geom) (LL : List (Nat × Frm)) (Q : Nat) : Prop := ∀ y ∈ ahead LL Q, G.hdrPos g Q ≤ y.1

theorem mem_ahead {LL : List (Nat × Frm)} {P : Nat} {y : Nat × Frm} : y ∈ ahead LL P ↔ y ∈ LL ∧ P ≤ y.1 := by
  unfold ahead; rw [List.mem_filter, decide_eq_true_iff]

theorem ahead_append (A B : List (Nat × Frm)) (P : Nat) : ahead (A ++ B) P = ahead A P ++ ahead B P :=
  List.filter_append ..

theorem ahead_eq_self {LL : List (Nat × Frm)} {P : Nat} (h : ∀ y ∈ LL, P ≤ y.1) : ahead LL P = LL :=
  List.filter_eq_self.mpr fun y hy => decide_eq_true (h y hy)

theorem ahead_eq_nil {LL : List (Nat × Frm)} {P : Nat} (h : ∀ y ∈ LL, y.1 < P) : ahead LL P = [] :=
  List.filter_eq_nil_iff.mpr fun y hy => by rw [decide_eq_false (Nat.not_le.mpr (h y hy))]; decide

theorem ahead_mono (LL : List (Nat × Frm)) (hs : LL.Pairwise (fun a b => a.1 < b.1)) (P P' : Nat) (h : P ≤ P') :
    ∃ sk, ahead LL P = sk ++ ahead LL P' := by
  induction LL with
  | nil => exact ⟨[], rfl⟩
  | cons a l ih =>
    rw [List.pairwise_cons] at hs
    by_cases h1 : P' ≤ a.1
    · -- everything from `a` on is ahead of both
      have e : ∀ Q, Q ≤ a.1 → ahead (a :: l) Q = a :: l := fun Q hQ => ahead_eq_self fun y hy => by
        rcases List.mem_cons.mp hy with rfl | hy
        · exact hQ
        · exact Nat.le_of_lt (Nat.lt_of_le_of_lt hQ (hs.1 y hy))
      exact ⟨[], by rw [e P' h1, e P (Nat.le_trans h h1)]; rfl⟩
    · obtain ⟨sk, hsk⟩ := ih hs.2
      have e1 : ahead (a :: l) P' = ahead l P' := by
        rw [← List.singleton_append, ahead_append, ahead_eq_nil (fun y hy => List.mem_singleton.mp hy ▸ Nat.not_le.mp h1), List.nil_append]
      rw [e1, ← List.singleton_append, ahead_append, hsk, ← List.append_assoc]
      exact ⟨_, rfl⟩

theorem ahead_hit (g : Geom) (LL : List (Nat × Frm)) (hL : Located g LL) (x : Nat × Frm) (hx : x ∈ LL) :
    ahead LL x.1 = x :: ahead LL (x.1 + 7 + x.2.2.length) ∧ TightAt g LL (x.1 + 7 + x.2.2.length) := by
  obtain ⟨A, Bl, hsplit⟩ := List.append_of_mem hx
  have hs := hL.sorted
  rw [hsplit, List.pairwise_append] at hs
  have hA : ∀ a ∈ A, a.1 < x.1 := fun a ha => hs.2.2 a ha x (by simp)
  have hB : ∀ y ∈ Bl, G.hdrPos g (x.1 + 7 + x.2.2.length) ≤ y.1 := hL.gap A x Bl hsplit
  have hxn := lt_after x.1 x.2.2.length
  have hB' : ∀ y ∈ Bl, x.1 + 7 + x.2.2.length ≤ y.1 := fun y hy =>
    Nat.le_trans (G.le_hdrPos g (x.1 + 7 + x.2.2.length)) (hB y hy)
  -- after the frame, what is ahead is `Bl`
  have e2 : ahead LL (x.1 + 7 + x.2.2.length) = Bl := by
    rw [hsplit, ahead_append, ahead_eq_nil (fun a ha => Nat.lt_trans (hA a ha) hxn), ← List.singleton_append,
      ahead_append, ahead_eq_nil (fun y hy => List.mem_singleton.mp hy ▸ hxn), ahead_eq_self hB']
    rfl
  refine ⟨?_, fun y hy => hB y (e2 ▸ hy)⟩
  rw [e2, hsplit, ahead_append, ahead_eq_nil hA, ← List.singleton_append, ahead_append,
    ahead_eq_self (fun y hy => List.mem_singleton.mp hy ▸ Nat.le_refl _),
    ahead_eq_self (fun y hy => Nat.le_of_lt (Nat.lt_of_lt_of_le hxn (hB' y hy)))]
  rfl

theorem ahead_tight (g : Geom) (LL : List (Nat × Frm)) (Q : Nat) (h : TightAt g LL Q) :
    ahead LL Q = ahead LL (G.hdrPos g Q) := by
  apply List.filter_congr
  intro y hy
  have hle := G.le_hdrPos g Q
  show decide (Q ≤ y.1) = decide (G.hdrPos g Q ≤ y.1)
  by_cases h1 : Q ≤ y.1
  · rw [decide_eq_true h1, decide_eq_true (h y (mem_ahead.mpr ⟨hy, h1⟩))]
  · rw [decide_eq_false h1, decide_eq_false fun h2 => h1 (Nat.le_trans hle h2)]

theorem tightAt_good (g : Geom) (LL : List (Nat × Frm)) (Q : Nat) (h : G.hdrPos g Q = Q) : TightAt g LL Q :=
  fun y hy => by rw [h]; exact (mem_ahead.mp hy).2

end MRL.Gen
