/-
Ghost level: queues whose records all know the file they are attributed to. `GQ.toMem` forgets
the attribution except where the code keeps a handle (last record of a run of equal attributions).
The queue operations used by replay, hence what an entry does to a queue (`GQ.slot_toMem`), commute
with `toMem`; a file is referenced by a handle iff some record is attributed to it. Last, the
invariant `GInv` and what `appendAll` / `truncateHead` do to the annotated records, from the
`MemQueue` lemmas through `toMem`.
-/
import MRL.Proofs.QSlot

namespace MRL

structure GRec where
  pos : Nat
  payload : Bytes
  attr : Nat
  deriving Repr, DecidableEq

structure GQ where
  start : Nat
  recs : List GRec
  deriving Repr, DecidableEq

def handles : List GRec → List Rec
  | [] => []
  | [r] => [⟨r.pos, r.payload, some r.attr⟩]
  | r :: r' :: rs =>
    ⟨r.pos, r.payload, if r.attr = r'.attr then none else some r.attr⟩ :: handles (r' :: rs)

theorem handles_cons_cons (r r' : GRec) (rs : List GRec) :
    handles (r :: r' :: rs) =
      ⟨r.pos, r.payload, if r.attr = r'.attr then none else some r.attr⟩ :: handles (r' :: rs) := rfl

theorem handles_length : ∀ rs : List GRec, (handles rs).length = rs.length
  | [] => rfl
  | [_] => rfl
  | r :: r' :: rs => by rw [handles_cons_cons, List.length_cons, handles_length (r' :: rs)]; rfl

theorem handles_eq_nil {rs : List GRec} : handles rs = [] ↔ rs = [] := by
  rw [← List.length_eq_zero_iff, handles_length, List.length_eq_zero_iff]

theorem handles_ne_nil_cons (r : GRec) (rs : List GRec) : handles (r :: rs) ≠ [] := by
  rw [Ne, handles_eq_nil]; simp

theorem handles_pos : ∀ rs : List GRec, (handles rs).map (·.pos) = rs.map (·.pos)
  | [] => rfl
  | [_] => rfl
  | r :: r' :: rs => by
    rw [handles_cons_cons, List.map_cons, handles_pos (r' :: rs)]; rfl

theorem handles_kv : ∀ rs : List GRec,
    (handles rs).map (fun r => (r.pos, r.payload)) = rs.map (fun r => (r.pos, r.payload))
  | [] => rfl
  | [_] => rfl
  | r :: r' :: rs => by
    rw [handles_cons_cons, List.map_cons, handles_kv (r' :: rs)]; rfl

theorem handles_getLast? : ∀ rs : List GRec,
    (handles rs).getLast? = rs.getLast?.map fun r => ⟨r.pos, r.payload, some r.attr⟩
  | [] => rfl
  | [_] => rfl
  | r :: r' :: rs => by
    rw [handles_cons_cons]
    cases hh : handles (r' :: rs) with
    | nil => exact absurd hh (handles_ne_nil_cons _ _)
    | cons a as =>
      rw [List.getLast?_cons_cons, ← hh, handles_getLast? (r' :: rs), List.getLast?_cons_cons]

theorem handles_drop : ∀ (k : Nat) (rs : List GRec), handles (rs.drop k) = (handles rs).drop k
  | 0, rs => rfl
  | k + 1, [] => rfl
  | k + 1, [_] => by simp [handles]
  | k + 1, r :: r' :: rs => by
    rw [handles_cons_cons, List.drop_succ_cons, List.drop_succ_cons, handles_drop k (r' :: rs)]

theorem dropLastHandle_cons (h : Rec) (L : List Rec) (hL : L ≠ []) (f : Nat) :
    MemQueue.dropLastHandle (h :: L) f = h :: MemQueue.dropLastHandle L f := by
  cases L with
  | nil => exact absurd rfl hL
  | cons a as =>
    unfold MemQueue.dropLastHandle
    rw [List.getLast?_cons_cons]
    cases (a :: as).getLast? with
    | none => rfl
    | some r =>
      simp only
      split
      · rw [List.dropLast_cons_cons]; rfl
      · rfl

/-- `append_record` moves the handle exactly as the ghost attribution says -/
theorem handles_append_one : ∀ (rs : List GRec) (f p : Nat) (pl : Bytes),
    MemQueue.dropLastHandle (handles rs) f ++ [⟨p, pl, some f⟩] = handles (rs ++ [⟨p, pl, f⟩])
  | [], f, p, pl => rfl
  | [r], f, p, pl => by
    simp only [handles, MemQueue.dropLastHandle, List.getLast?_singleton, List.cons_append,
      List.nil_append, Option.some.injEq]
    by_cases h : r.attr = f
    · simp [h]
    · simp [h]
  | r :: r' :: rs, f, p, pl => by
    rw [handles_cons_cons, dropLastHandle_cons _ _ (handles_ne_nil_cons _ _), List.cons_append,
      handles_append_one (r' :: rs) f p pl]
    rfl

namespace GQ

def toMem (x : GQ) : MemQueue := { start := x.start, recs := handles x.recs }

def nextPosition (x : GQ) : Nat :=
  match x.recs.getLast? with
  | some r => r.pos + 1
  | none => x.start

def withNextPosition (p : Nat) : GQ := { start := p, recs := [] }

def appendRecord (x : GQ) (file pos : Nat) (payload : Bytes) : Option GQ :=
  if pos < x.nextPosition then none
  else
    some { start := if x.start = 0 ∧ x.recs.isEmpty then pos else x.start,
           recs := x.recs ++ [{ pos := pos, payload := payload, attr := file }] }

def appendAll (x : GQ) (file : Nat) : List (Nat × Bytes) → Option GQ
  | [] => some x
  | (p, pl) :: rs => (x.appendRecord file p pl).bind fun x' => appendAll x' file rs

def truncateHead (x : GQ) (p : Nat) : GQ :=
  if x.start > p then x
  else if p + 1 ≥ x.nextPosition then { start := p + 1, recs := [] }
  else { start := p + 1, recs := x.recs.drop (x.recs.takeWhile (·.pos ≤ p)).length }

theorem toMem_nextPosition (x : GQ) : x.toMem.nextPosition = x.nextPosition := by
  unfold MemQueue.nextPosition nextPosition toMem
  simp only [handles_getLast?]
  cases x.recs.getLast? <;> rfl

theorem toMem_isEmpty (x : GQ) : x.toMem.recs.isEmpty = x.recs.isEmpty := by
  unfold toMem
  cases h : x.recs with
  | nil => rfl
  | cons r rs =>
    cases h2 : handles (r :: rs) with
    | nil => exact absurd h2 (handles_ne_nil_cons _ _)
    | cons _ _ => rfl

theorem toMem_withNextPosition (p : Nat) :
    (withNextPosition p).toMem = MemQueue.withNextPosition p := rfl

theorem toMem_appendRecord (x : GQ) (file pos : Nat) (pl : Bytes) :
    x.toMem.appendRecord file pos pl = (x.appendRecord file pos pl).map toMem := by
  unfold MemQueue.appendRecord appendRecord
  rw [toMem_nextPosition]
  by_cases h : pos < x.nextPosition
  · rw [if_pos h, if_pos h]; rfl
  · rw [if_neg h, if_neg h]
    simp only [Option.map_some, Option.some.injEq]
    have he : x.toMem.recs.isEmpty = x.recs.isEmpty := toMem_isEmpty x
    unfold toMem at he ⊢
    simp only [he, MemQueue.mk.injEq]
    exact ⟨trivial, handles_append_one _ _ _ _⟩

theorem toMem_appendAll (file : Nat) (rs : List (Nat × Bytes)) : ∀ x : GQ,
    Log.appendAll x.toMem file rs = (x.appendAll file rs).map toMem := by
  induction rs with
  | nil => intro x; rfl
  | cons r rs ih =>
    intro x
    obtain ⟨p, pl⟩ := r
    simp only [Log.appendAll, appendAll, toMem_appendRecord]
    cases x.appendRecord file p pl with
    | none => rfl
    | some x' => simp only [Option.map_some, Option.bind_some]; exact ih x'

theorem toMem_truncateHead (x : GQ) (p : Nat) :
    (x.toMem.truncateHead p).1 = (x.truncateHead p).toMem := by
  unfold MemQueue.truncateHead truncateHead
  rw [toMem_nextPosition]
  have hs : x.toMem.start = x.start := rfl
  rw [hs]
  by_cases h1 : x.start > p
  · rw [if_pos h1, if_pos h1]
  · rw [if_neg h1, if_neg h1]
    by_cases h2 : p + 1 ≥ x.nextPosition
    · rw [if_pos h2, if_pos h2]; rfl
    · rw [if_neg h2, if_neg h2]
      have h1 := List.takeWhile_map (f := fun r : Rec => r.pos) (p := fun n => decide (n ≤ p))
        (l := handles x.recs)
      have h2 := List.takeWhile_map (f := fun r : GRec => r.pos) (p := fun n => decide (n ≤ p))
        (l := x.recs)
      have e1 := congrArg List.length h1
      have e2 := congrArg List.length h2
      rw [List.length_map] at e1 e2
      rw [handles_pos] at e1
      simp only [toMem, handles_drop]
      exact congrArg (fun k => MemQueue.mk (p + 1) ((handles x.recs).drop k)) (e1.symm.trans e2)

end GQ

theorem handle_is_attr : ∀ (rs : List GRec) (h : Rec) (f : Nat), h ∈ handles rs → h.file = some f →
    ∃ r ∈ rs, r.attr = f
  | [], h, f, hm, _ => by cases hm
  | [r], h, f, hm, hf => by
    simp only [handles, List.mem_singleton] at hm
    subst hm
    exact ⟨r, List.mem_cons_self, Option.some.inj hf⟩
  | r :: r' :: rs, h, f, hm, hf => by
    rw [handles_cons_cons, List.mem_cons] at hm
    rcases hm with rfl | hm
    · simp only at hf
      by_cases he : r.attr = r'.attr
      · rw [if_pos he] at hf; cases hf
      · rw [if_neg he] at hf
        exact ⟨r, List.mem_cons_self, Option.some.inj hf⟩
    · obtain ⟨r0, h0, h1⟩ := handle_is_attr (r' :: rs) h f hm hf
      exact ⟨r0, List.mem_cons_of_mem _ h0, h1⟩

theorem attr_has_handle : ∀ (rs : List GRec) (r0 : GRec), r0 ∈ rs →
    ∃ h ∈ handles rs, h.file = some r0.attr
  | [], r0, hm => by cases hm
  | [r], r0, hm => by
    simp only [List.mem_singleton] at hm
    subst hm
    exact ⟨⟨r0.pos, r0.payload, some r0.attr⟩, List.mem_cons_self, rfl⟩
  | r :: r' :: rs, r0, hm => by
    rw [handles_cons_cons]
    rcases List.mem_cons.mp hm with rfl | hm
    · by_cases he : r0.attr = r'.attr
      · obtain ⟨h, h1, h2⟩ := attr_has_handle (r' :: rs) r' List.mem_cons_self
        exact ⟨h, List.mem_cons_of_mem _ h1, by rw [h2, he]⟩
      · exact ⟨_, List.mem_cons_self, if_neg he⟩
    · obtain ⟨h, h1, h2⟩ := attr_has_handle (r' :: rs) r0 hm
      exact ⟨h, List.mem_cons_of_mem _ h1, h2⟩

theorem handle_iff_record (x : GQ) (f : Nat) :
    x.toMem.refsFile f = true ↔ ∃ r ∈ x.recs, r.attr = f := by
  unfold MemQueue.refsFile GQ.toMem
  simp only [List.any_eq_true, beq_iff_eq]
  constructor
  · rintro ⟨h, hm, hf⟩
    exact handle_is_attr x.recs h f hm hf
  · rintro ⟨r, hm, hf⟩
    obtain ⟨h, h1, h2⟩ := attr_has_handle x.recs r hm
    exact ⟨h, h1, by rw [h2, hf]⟩

def GQ.slot (f : Nat) : Entry → Option GQ → Option (Option GQ)
  | .append _ pos recs, u => ((u.getD (GQ.withNextPosition pos)).appendAll f recs).map some
  | .truncate _ p, u => some (u.map fun y => y.truncateHead p)
  | .touch _ p, _ => some (some (GQ.withNextPosition p))
  | .delete _ _, _ => some none

theorem GQ.slot_toMem (f : Nat) (e : Entry) (u : Option GQ) :
    e.slot f (u.map GQ.toMem) = (GQ.slot f e u).map (·.map GQ.toMem) := by
  cases e with
  | touch q p => rfl
  | delete q p => rfl
  | truncate q p =>
    cases u with
    | none => rfl
    | some x => simp only [Entry.slot, GQ.slot, Option.map_some, GQ.toMem_truncateHead]
  | append q pos recs =>
    have h : (u.map GQ.toMem).getD (MemQueue.withNextPosition pos) =
        (u.getD (GQ.withNextPosition pos)).toMem := by cases u <;> rfl
    simp only [Entry.slot, GQ.slot, h, GQ.toMem_appendAll, Option.map_map]
    rfl

section
open C05

def GInv (x : GQ) : Prop :=
  x.recs.Pairwise (fun a b => a.pos < b.pos) ∧ ∀ r ∈ x.recs, x.start ≤ r.pos

/-- the queue invariant speaks of the list of positions only -/
theorem inv_iff_pos {α} (f : α → Nat) (s : Nat) (l : List α) :
    (l.Pairwise (fun a b => f a < f b) ∧ ∀ r ∈ l, s ≤ f r) ↔
      ((l.map f).Pairwise (· < ·) ∧ ∀ n ∈ l.map f, s ≤ n) := by
  rw [List.pairwise_map, List.forall_mem_map]

theorem ginv_iff (x : GQ) : GInv x ↔ QInv x.toMem := by
  refine (inv_iff_pos GRec.pos x.start x.recs).trans ?_
  rw [← handles_pos]
  exact (inv_iff_pos Rec.pos x.start (handles x.recs)).symm

theorem GInv_withNextPosition (p : Nat) : GInv (GQ.withNextPosition p) :=
  ⟨List.Pairwise.nil, fun _ h => by cases h⟩

theorem GQ.nextPosition_withNextPosition (p : Nat) : (GQ.withNextPosition p).nextPosition = p := rfl

theorem GQ.lt_nextPosition (x : GQ) (hx : GInv x) : ∀ r ∈ x.recs, r.pos < x.nextPosition := by
  intro r hr
  have hq := (ginv_iff x).mp hx
  have : r.pos ∈ (handles x.recs).map (·.pos) := by
    rw [handles_pos]; exact List.mem_map_of_mem hr
  obtain ⟨h, hh, he⟩ := List.mem_map.mp this
  have := MemQueue.lt_nextPosition x.toMem hq.1 h hh
  rw [GQ.toMem_nextPosition] at this
  omega

def mkG (f : Nat) (r : Nat × Bytes) : GRec := { pos := r.1, payload := r.2, attr := f }

theorem GQ.appendRecord_some {x x' : GQ} {f p : Nat} {pl : Bytes} (h : x.appendRecord f p pl = some x') :
    x.nextPosition ≤ p ∧ x'.recs = x.recs ++ [{ pos := p, payload := pl, attr := f }] := by
  unfold GQ.appendRecord at h
  by_cases hp : p < x.nextPosition
  · rw [if_pos hp] at h; cases h
  · rw [if_neg hp] at h; cases h; exact ⟨Nat.le_of_not_lt hp, rfl⟩

theorem GQ.appendAll_recs (f : Nat) (rs : List (Nat × Bytes)) : ∀ {x x' : GQ},
    x.appendAll f rs = some x' → x'.recs = x.recs ++ rs.map (mkG f) := by
  induction rs with
  | nil => intro x x' h; cases h; simp
  | cons r rs ih =>
    intro x x' h
    obtain ⟨p, pl⟩ := r
    simp only [GQ.appendAll] at h
    cases h1 : x.appendRecord f p pl with
    | none => rw [h1] at h; cases h
    | some x1 =>
      rw [h1] at h
      rw [ih h, (GQ.appendRecord_some h1).2, List.append_assoc]; rfl

theorem GQ.appendAll_some_le {x x' : GQ} {f pos : Nat} {pl : Bytes} {pls : List Bytes}
    (h : x.appendAll f (Log.numberFrom pos (pl :: pls)) = some x') : x.nextPosition ≤ pos := by
  simp only [Log.numberFrom, GQ.appendAll] at h
  cases h1 : x.appendRecord f pos pl with
  | none => rw [h1] at h; cases h
  | some x1 => exact (GQ.appendRecord_some h1).1

theorem GQ.appendAll_succeeds {y : GQ} (hy : GInv y) {pos : Nat} (hp : y.nextPosition ≤ pos)
    (f : Nat) (pls : List Bytes) : ∃ y', y.appendAll f (Log.numberFrom pos pls) = some y' := by
  have hq := (ginv_iff y).mp hy
  obtain ⟨mq', h1, _⟩ := Log.appendAll_spec f pls y.toMem pos hq.1 hq.2
    (by rw [GQ.toMem_nextPosition]; exact hp)
  rw [GQ.toMem_appendAll] at h1
  cases h2 : y.appendAll f (Log.numberFrom pos pls) with
  | none => rw [h2] at h1; cases h1
  | some y' => exact ⟨y', rfl⟩

theorem GQ.appendAll_ok {x x' : GQ} (hx : GInv x) {f pos : Nat} {pls : List Bytes} (hne : pls ≠ [])
    (h : x.appendAll f (Log.numberFrom pos pls) = some x') :
    x'.recs = x.recs ++ (Log.numberFrom pos pls).map (mkG f) ∧
    x'.nextPosition = pos + pls.length ∧ GInv x' ∧ x.nextPosition ≤ pos := by
  have hle : x.nextPosition ≤ pos := by
    cases pls with
    | nil => exact absurd rfl hne
    | cons pl pls => exact GQ.appendAll_some_le h
  have hq := (ginv_iff x).mp hx
  obtain ⟨mq', h1, _, h3, h4, h5⟩ := Log.appendAll_spec f pls x.toMem pos hq.1 hq.2
    (by rw [GQ.toMem_nextPosition]; exact hle)
  rw [GQ.toMem_appendAll, h] at h1
  simp only [Option.map_some, Option.some.injEq] at h1
  subst h1
  refine ⟨GQ.appendAll_recs f _ h, ?_, (ginv_iff x').mpr ⟨h4, h5⟩, hle⟩
  rw [← GQ.toMem_nextPosition]; exact h3 hne

theorem GQ.truncateHead_ok {x : GQ} (hx : GInv x) (p : Nat) :
    (x.truncateHead p).recs = x.recs.filter (fun r => p < r.pos) ∧
    (x.truncateHead p).nextPosition = max x.nextPosition (p + 1) ∧ GInv (x.truncateHead p) := by
  have hq := (ginv_iff x).mp hx
  obtain ⟨_, m2, _, m4, m5⟩ := MemQueue.truncateHead_spec x.toMem p hq.1 hq.2
  rw [GQ.toMem_truncateHead] at m2 m4 m5
  refine ⟨?_, ?_, (ginv_iff _).mpr ⟨m4, m5⟩⟩
  · have hlt := GQ.lt_nextPosition x hx
    unfold GQ.truncateHead
    by_cases h : x.start > p
    · rw [if_pos h, eq_comm, List.filter_eq_self]
      intro r hr; exact decide_eq_true (Nat.lt_of_lt_of_le h (hx.2 r hr))
    rw [if_neg h]
    by_cases h2 : p + 1 ≥ x.nextPosition
    · rw [if_pos h2, eq_comm, List.filter_eq_nil_iff]
      intro r hr; exact fun hp => Nat.lt_irrefl _ (Nat.lt_of_lt_of_le (hlt r hr) (Nat.le_trans h2 (of_decide_eq_true hp)))
    · rw [if_neg h2]; exact drop_takeWhile_le GRec.pos hx.1 p
  · rw [← GQ.toMem_nextPosition, m2, GQ.toMem_nextPosition]

end

end MRL
