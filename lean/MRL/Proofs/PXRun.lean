/-
Histories with restarts. An event is a call or a `reopen` (drop the log = flush the `BufWriter`,
then `open` the directory again: `ensureLen` on the first file, the GC pass). `effsX` is the effect
list of a history — a reopen contributes `flush :: (the effects of recover)`; since `flush` leaves
the `BufWriter` model in its initial state `{}`, the refined operations of the whole history are
`toOsOpsP cap b (effsX …)`. From a state satisfying the relaxed invariant `CInvX` (every state
reachable with crashes) every cut state of a history opens to a state of the history (`runX_cut`), and
the image left by a power loss after a promise point is such a cut state (`power_reductionX`). A run of
calls is a history without restarts (`PX.calls_eq`).
-/
import MRL.Proofs.PXDisc
import MRL.Proofs.PDBuf
import MRL.Proofs.LCrash
import MRL.Proofs.LShape

namespace MRL.PX
open Buf G H L Log K P PD

/-- an event of a history: a call with its clock bit and GC-order oracle (as in `K.runD`), or a
    clean restart (`Drop`, then `open` with the given policy and GC order) -/
inductive Ev
  | call (c : Call) (tick : Bool) (order : List Bytes)
  | reopen (policy : Policy) (order : List Bytes)

/-- the log after the event; `D` is the flushed disk before it. A `reopen` whose `recover` fails leaves the log as
    it is (and `evEffs` only the `flush` of the drop): the definitions are total, and no theorem meets that branch,
    `recover` succeeding on every disk under `CInvX` (`reopen_eval`). -/
def evLog (g : Geom) (l : Log) (D : Image) : Ev → Log
  | .call c tick order => (l.step g c tick order).1
  | .reopen policy order =>
    match recover g D policy order none with
    | .ok r => r.log
    | .error _ => l

/-- the effects of the event; dropping the log flushes the `BufWriter` -/
def evEffs (g : Geom) (l : Log) (D : Image) : Ev → List Effect
  | .call c tick order => (l.step g c tick order).2.2
  | .reopen policy order =>
    match recover g D policy order none with
    | .ok r => .flush :: r.effects
    | .error _ => [.flush]

/-- the journal entries the event appends (those that must be serialisable) -/
def evJ (g : Geom) (l : Log) (D : Image) : Ev → List JE
  | .call c _ order => l.stepJ g c order
  | .reopen policy order =>
    match recoverPre g D policy none with
    | .ok (lp, _, _) => lp.gcJ g order
    | .error _ => []

def evDisk (g : Geom) (l : Log) (D : Image) (e : Ev) : Image := applyOsOps D (directOps (evEffs g l D e))

/-- log, flushed disk, effects and appended journal entries of a history started with log `l` on the
    flushed disk `D` (the disk is threaded because a `reopen` reads it) -/
def logX (g : Geom) : Log → Image → List Ev → Log
  | l, _, [] => l
  | l, D, e :: es => logX g (evLog g l D e) (evDisk g l D e) es

def diskXs (g : Geom) : Log → Image → List Ev → Image
  | _, D, [] => D
  | l, D, e :: es => diskXs g (evLog g l D e) (evDisk g l D e) es

def effsX (g : Geom) : Log → Image → List Ev → List Effect
  | _, _, [] => []
  | l, D, e :: es => evEffs g l D e ++ effsX g (evLog g l D e) (evDisk g l D e) es

def jourX (g : Geom) : Log → Image → List Ev → List JE
  | _, _, [] => []
  | l, D, e :: es => evJ g l D e ++ jourX g (evLog g l D e) (evDisk g l D e) es

theorem logX_append (g : Geom) (a b : List Ev) : ∀ (l : Log) (D : Image),
    logX g l D (a ++ b) = logX g (logX g l D a) (diskXs g l D a) b := by
  induction a with
  | nil => intro l D; rfl
  | cons e a ih => intro l D; simp only [List.cons_append, logX, diskXs, ih]

theorem diskXs_append (g : Geom) (a b : List Ev) : ∀ (l : Log) (D : Image),
    diskXs g l D (a ++ b) = diskXs g (logX g l D a) (diskXs g l D a) b := by
  induction a with
  | nil => intro l D; rfl
  | cons e a ih => intro l D; simp only [List.cons_append, logX, diskXs, ih]

theorem effsX_append (g : Geom) (a b : List Ev) : ∀ (l : Log) (D : Image),
    effsX g l D (a ++ b) = effsX g l D a ++ effsX g (logX g l D a) (diskXs g l D a) b := by
  induction a with
  | nil => intro l D; rfl
  | cons e a ih => intro l D; simp only [List.cons_append, logX, diskXs, effsX, ih, List.append_assoc]

theorem jourX_append (g : Geom) (a b : List Ev) : ∀ (l : Log) (D : Image),
    jourX g l D (a ++ b) = jourX g l D a ++ jourX g (logX g l D a) (diskXs g l D a) b := by
  induction a with
  | nil => intro l D; rfl
  | cons e a ih => intro l D; simp only [List.cons_append, logX, diskXs, jourX, ih, List.append_assoc]

theorem diskXs_eq (g : Geom) (evs : List Ev) : ∀ (l : Log) (D : Image),
    diskXs g l D evs = applyOsOps D (directOps (effsX g l D evs)) := by
  induction evs with
  | nil => intro l D; rfl
  | cons e es ih =>
    intro l D
    simp only [diskXs, effsX, ih, directOps_append, applyOsOps_append]
    rfl

theorem calls_eq (g : Geom) (cs : List (Call × Bool × List Bytes)) : ∀ (l : Log) (D : Image),
    effsX g l D (cs.map fun x => Ev.call x.1 x.2.1 x.2.2) = effsD g l cs ∧
    logX g l D (cs.map fun x => Ev.call x.1 x.2.1 x.2.2) = logD g l cs ∧
    jourX g l D (cs.map fun x => Ev.call x.1 x.2.1 x.2.2) = jourD g l cs := by
  induction cs with
  | nil => intro l D; exact ⟨rfl, rfl, rfl⟩
  | cons x cs ih =>
    intro l D
    obtain ⟨c, tick, order⟩ := x
    simp only [List.map_cons, effsX, logX, jourX, evEffs, evLog, evJ, effsD, logD, jourD]
    exact ⟨by rw [(ih _ _).1], (ih _ _).2.1, by rw [(ih _ _).2.2]⟩

theorem foe_of_dshape {fb : Nat} {l : Log} {D : Image} (h : DShape fb l D) : FullOrEmpty fb D := by
  intro kv hkv
  rcases Nat.lt_or_ge l.cur kv.1 with h1 | h1
  · exact Or.inr (h.empty kv hkv h1)
  · exact Or.inl (h.full kv hkv h1)

/-- discipline state in which everything is durable -/
def pd0X (l : Log) : PDX := ⟨l.cur, false, true, true, true, nextFile l.files l.cur⟩

theorem pdl0X {fb : Nat} {l : Log} {D : Image} (h : DShape fb l D) : PDLX (pd0X l) l :=
  ⟨rfl, rfl, rfl, dshape_next h, h.fw⟩

theorem pinv0X {fb : Nat} (hfb : 0 < fb) {l : Log} {D : Image} (h : DShape fb l D) :
    PInvX (pd0X l) (PState.init D) := by
  have hnd : (D.map (·.1)).Nodup := by
    rw [← h.files]
    exact h.fw.sorted.imp (fun hab => Nat.ne_of_lt hab)
  have hcm : l.cur ∈ D.map (·.1) := by rw [← h.files]; exact h.fw.cur_mem
  have hcont : ∀ k, k ∈ D.map (·.1) → (D.map (·.1)).contains k = true := by
    intro k hk; exact List.contains_iff_mem.mpr hk
  have hnext : ∀ kv ∈ D, kv.1 ≤ l.cur ∨ nextFile l.files l.cur = some kv.1 := by
    intro kv hkv
    rcases Nat.lt_or_ge l.cur kv.1 with h1 | h1
    · right
      exact dshape_next h kv.1 (by rw [h.files]; exact mem_keys hkv) h1
    · exact Or.inl h1
  have hne : ∀ kv ∈ D, kv.1 ≤ l.cur → kv.2 ≠ [] := by
    intro kv hkv hle he
    have := h.full kv hkv hle
    rw [he] at this
    exact Nat.ne_of_lt hfb this
  refine ⟨hnd, hcm, hnext, ?_, fun nf hx => (nextFile_some hx).2, ?_, fun kv hkv _ => ⟨hcont _ (mem_keys hkv),
    lookupF_of_mem hnd hkv⟩, fun _ => hcont _ hcm, (fun hx => by cases hx),
    (fun _ kv hkv hw => by rw [← hw]; exact lookupF_of_mem hnd hkv), fun _ kv hkv hw => hne kv hkv (Nat.le_of_eq hw),
    fun _ => rfl, fun kv hkv hlt => hne kv hkv (Nat.le_of_lt hlt)⟩
  · intro k hk
    obtain ⟨kv, hkv, rfl⟩ := List.mem_map.mp hk
    exact hnext kv hkv
  · intro nf hx
    have := (nextFile_some hx).1
    rw [h.files] at this
    exact this

theorem reopen_eval (g : Geom) (hB : g.B ≤ 65542) {l : Log} {J : List JE} {D : Image} (h : CInvX g l J D)
    (hw : ∀ j ∈ J, C07.WF j.e) (policy : Policy) (order : List Bytes) :
    ∃ (J' : List JE) (lp : Log) (io : Nat) (r : Recovered),
      recoverPre g D policy none = .ok (lp, [.ensureLen (lp.files.headD 0) g.fileBytes], io) ∧
      recover g D policy order none = .ok r ∧
      r.effects = [.ensureLen (lp.files.headD 0) g.fileBytes] ++ (runGc g lp order).2.1 ∧
      CInvX g lp J' D ∧ (∀ j ∈ J', C07.WF j.e) ∧ AbsEq lp.queues l.queues ∧
      evLog g l D (.reopen policy order) = (runGc g lp order).1 ∧
      evEffs g l D (.reopen policy order) =
        .flush :: ([.ensureLen (lp.files.headD 0) g.fileBytes] ++ (runGc g lp order).2.1) ∧
      evJ g l D (.reopen policy order) = gcJ g lp order := by
  obtain ⟨J', lp, io, r, hpre, hrec, hlog, heff, hc0, hw0, hab, _⟩ := recover_okX g hB h hw policy order
  refine ⟨J', lp, io, r, hpre, hrec, heff, hc0, hw0, hab, ?_, ?_, ?_⟩
  · simp only [evLog, hrec, hlog]
  · simp only [evEffs, hrec, heff]
  · simp only [evJ, hpre]

theorem ev_facts (g : Geom) (hB : g.B ≤ 65542) {l : Log} {J : List JE} {D : Image} (h : CInvX g l J D)
    (hw : ∀ j ∈ J, C07.WF j.e) (e : Ev) (hwe : ∀ j ∈ evJ g l D e, C07.WF j.e)
    (htorn : TornEffs (evEffs g l D e)) :
    (∃ J', CInvX g (evLog g l D e) J' (evDisk g l D e) ∧ ∀ j ∈ J', C07.WF j.e) ∧
    (∀ σ, PDLX σ l → ∃ σ', pd g.fileBytes σ (evEffs g l D e) = some σ' ∧ PDLX σ' (evLog g l D e)) ∧
    C14.Disc l (evEffs g l D e) (evLog g l D e) ∧
    (∀ (w : Bool) X, CutW w D (evEffs g l D e) X → XInvRes g l.queues (evLog g l D e).queues X) := by
  cases e with
  | call c tick order =>
    have hfits : ∀ j ∈ J ++ l.stepJ g c order, C07.WF j.e := by
      intro j hj
      rcases List.mem_append.mp hj with hj | hj
      · exact hw j hj
      · exact hwe j hj
    exact ⟨⟨_, cinvx_step g h c tick order, hfits⟩, fun σ hσ => pd_step g l c tick order σ hσ,
      C14.step_Disc g l c tick order, fun w X hX => Carry.wfOnly.call_cut g hB h c tick order hw hwe htorn w X hX⟩
  | reopen policy order =>
    obtain ⟨J', lp, io, r, hpre, hrec, heff, hc0, hw0, hab, e1, e2, e3⟩ := reopen_eval g hB h hw policy order
    rw [e3] at hwe
    have hfits : ∀ j ∈ J' ++ gcJ g lp order, C07.WF j.e := by
      intro j hj
      rcases List.mem_append.mp hj with hj | hj
      · exact hw0 j hj
      · exact hwe j hj
    have hsame := dshape_same (fileBytes_pos g) (dshape_of_cinvx h) (dshape_of_cinvx hc0)
    refine ⟨⟨J' ++ gcJ g lp order, ?_, hfits⟩, ?_, ?_, ?_⟩
    · unfold evDisk
      rw [e1, e2, directOps_cons, directOps_append, applyOsOps_append, applyOsOps_append]
      have hfl : applyOsOps D (direct Effect.flush) = D := rfl
      rw [hfl, ensureLen_head g hc0]
      exact cinvx_gc g hc0 order
    · intro σ hσ
      rw [e1, e2]
      exact pd_reopen g l lp order σ hσ hsame.1 hsame.2
    · rw [e1, e2]
      intro st _
      obtain ⟨st', hrun, hcl⟩ := C14.runGc_Disc g lp order none (Or.inl rfl)
      refine ⟨st', ?_, hcl⟩
      simp only [List.cons_append, List.nil_append, Buf.run, Buf.run1, if_true, Option.bind_some]
      exact hrun
    · intro w X hX
      rw [e2] at hX htorn
      have htorn' : TornEffs r.effects := by
        rw [heff]
        exact fun t p f off hm => htorn t p f off (List.mem_cons_of_mem _ hm)
      obtain ⟨_, hcut⟩ := Carry.wfOnly.recover_boundary g hB h hw policy order lp _ io r hpre hrec hwe htorn'
      have hX' : CutW w D r.effects X := by
        rw [heff]
        rcases hX.cons_inv with h1 | ⟨_, _, _, _, _, hw1, _⟩ | h1
        · rw [h1]; exact CutW.stop _ _ _
        · cases hw1
        · exact h1
      exact (hcut w X hX').of_same (.inl (.refl _))

theorem torn_left {a b : List Effect} (h : TornEffs (a ++ b)) : TornEffs a :=
  H.TornEffs.mono h fun _ => List.mem_append_left _

theorem torn_right {a b : List Effect} (h : TornEffs (a ++ b)) : TornEffs b :=
  H.TornEffs.mono h fun _ => List.mem_append_right _

/-- One induction over histories, as `Step.AlongCall` is for the call tree: a relation between the log before,
    the disk, the effects and the log after that holds of `[]`, is kept by `++` (the second list read from the
    disk the first one leaves) and holds of one event from a state satisfying the relaxed invariant, holds of
    the effects of a history. -/
theorem hist_rel (g : Geom) (hB : g.B ≤ 65542) (R : Log → Image → List Effect → Log → Prop)
    (hnil : ∀ l D, R l D [] l)
    (happ : ∀ {D a b l l1 l2}, R l D a l1 → R l1 (applyOsOps D (directOps a)) b l2 → R l D (a ++ b) l2)
    (hev : ∀ {l : Log} {J : List JE} {D : Image} (e : Ev), CInvX g l J D → (∀ j ∈ J, C07.WF j.e) →
      (∀ j ∈ evJ g l D e, C07.WF j.e) → TornEffs (evEffs g l D e) → R l D (evEffs g l D e) (evLog g l D e))
    (evs : List Ev) : ∀ {l : Log} {J : List JE} {D : Image}, CInvX g l J D → (∀ j ∈ J, C07.WF j.e) →
      (∀ j ∈ jourX g l D evs, C07.WF j.e) → TornEffs (effsX g l D evs) →
      R l D (effsX g l D evs) (logX g l D evs) := by
  induction evs with
  | nil => intro l J D _ _ _ _; exact hnil l D
  | cons e es ih =>
    intro l J D h hw hwf htorn
    simp only [jourX, effsX, logX] at hwf htorn ⊢
    have hwe := fun j hj => hwf j (List.mem_append_left _ hj)
    obtain ⟨⟨J1, hc1, hw1⟩, _, _, _⟩ := ev_facts g hB h hw e hwe (torn_left htorn)
    exact happ (hev e h hw hwe (torn_left htorn))
      (ih hc1 hw1 (fun j hj => hwf j (List.mem_append_right _ hj)) (torn_right htorn))

/-- the case of a pattern of every effect and the effects before it, seen from the disk at the start -/
theorem hist_each (g : Geom) (hB : g.B ≤ 65542) (Q : Image → List Effect → Effect → Prop)
    (hlift : ∀ D a pre e, Q (applyOsOps D (directOps a)) pre e → Q D (a ++ pre) e)
    (hev : ∀ {l : Log} {J : List JE} {D : Image} (e : Ev), CInvX g l J D → (∀ j ∈ J, C07.WF j.e) →
      (∀ j ∈ evJ g l D e, C07.WF j.e) → TornEffs (evEffs g l D e) → Disc.Each (evEffs g l D e) (Q D))
    (evs : List Ev) {l : Log} {J : List JE} {D : Image} (h : CInvX g l J D) (hw : ∀ j ∈ J, C07.WF j.e)
    (hwf : ∀ j ∈ jourX g l D evs, C07.WF j.e) (ht : TornEffs (effsX g l D evs)) :
    Disc.Each (effsX g l D evs) (Q D) :=
  hist_rel g hB (fun _ D es _ => Disc.Each es (Q D)) (fun _ _ => Disc.Each.nil _)
    (fun ha hb => ha.append hb (hlift _ _)) hev evs h hw hwf ht

theorem runX_inv (g : Geom) (hB : g.B ≤ 65542) (evs : List Ev) {l : Log} {J : List JE} {D : Image}
    (h : CInvX g l J D) (hw : ∀ j ∈ J, C07.WF j.e) (hwf : ∀ j ∈ jourX g l D evs, C07.WF j.e)
    (ht : TornEffs (effsX g l D evs)) :
    (∃ J', CInvX g (logX g l D evs) J' (diskXs g l D evs) ∧ ∀ j ∈ J', C07.WF j.e) ∧
    (∀ σ, PDLX σ l → ∃ σ', pd g.fileBytes σ (effsX g l D evs) = some σ' ∧ PDLX σ' (logX g l D evs)) ∧
    C14.Disc l (effsX g l D evs) (logX g l D evs) := by
  refine ⟨?_, hist_rel g hB (fun l _ es l' => PX.Obeys g.fileBytes l es l') (fun l _ => Disc.Obeys.nil l)
      Disc.Obeys.trans (fun e h hw hwe ht => (ev_facts g hB h hw e hwe ht).2.1) evs h hw hwf ht,
    hist_rel g hB (fun l _ es l' => C14.Disc l es l') (fun _ _ => C14.Disc.same rfl rfl) C14.Disc.trans
      (fun e h hw hwe ht => (ev_facts g hB h hw e hwe ht).2.2.1) evs h hw hwf ht⟩
  rw [diskXs_eq]
  exact hist_rel g hB
    (fun l D es l' => (∃ J, CInvX g l J D ∧ ∀ j ∈ J, C07.WF j.e) →
      ∃ J', CInvX g l' J' (applyOsOps D (directOps es)) ∧ ∀ j ∈ J', C07.WF j.e)
    (fun _ _ h => h) (fun h1 h2 h0 => by rw [directOps_append, applyOsOps_append]; exact h2 (h1 h0))
    (fun e h hw hwe ht _ => (ev_facts g hB h hw e hwe ht).1) evs h hw hwf ht ⟨J, h, hw⟩

/-- **every cut state of a history opens to a state of the history** -/
theorem runX_cut (g : Geom) (hB : g.B ≤ 65542) (evs : List Ev) : ∀ {l : Log} {J : List JE} {D : Image},
    CInvX g l J D → (∀ j ∈ J, C07.WF j.e) → (∀ j ∈ jourX g l D evs, C07.WF j.e) → TornEffs (effsX g l D evs) →
    ∀ (w : Bool) X, CutW w D (effsX g l D evs) X → ∀ policy, ∃ (i : Nat) (J' : List JE) (lp : Log)
      (e0 : List Effect) (io : Nat), i ≤ evs.length ∧ recoverPre g X policy none = .ok (lp, e0, io) ∧
      CInvX g lp J' X ∧ AbsEq lp.queues (logX g l D (evs.take i)).queues := by
  induction evs with
  | nil =>
    intro l J D h hw _ _ w X hX policy
    have : X = D := by simpa [effsX] using hX.nil_inv
    rw [this]
    obtain ⟨J', lp, io, a1, a3, _, a6, _, _⟩ := open_okX g hB h hw policy
    exact ⟨0, J', lp, _, io, Nat.le_refl _, a1, a3, a6⟩
  | cons e es ih =>
    intro l J D h hw hwf htorn w X hX policy
    simp only [jourX, effsX] at hwf htorn hX
    obtain ⟨⟨J1, hc1, hw1⟩, _, _, hcut⟩ := ev_facts g hB h hw e
      (fun j hj => hwf j (List.mem_append_left _ hj)) (torn_left htorn)
    rcases CutW.of_append _ hX with hX | hX
    · obtain ⟨J', lp, io, F', a1, _, a3, _, _, a6⟩ := hcut w X hX policy
      rcases a6 with a6 | a6
      · exact ⟨0, J', lp, _, io, Nat.zero_le _, a1, a3, a6⟩
      · exact ⟨1, J', lp, _, io, Nat.succ_le_succ (Nat.zero_le _), a1, a3, a6⟩
    · obtain ⟨i, J', lp, e0, io, hi, a1, a3, a6⟩ := ih hc1 hw1 (fun j hj => hwf j (List.mem_append_right _ hj))
        (torn_right htorn) w X hX policy
      exact ⟨i + 1, J', lp, e0, io, Nat.succ_le_succ hi, a1, a3, a6⟩

theorem runX_foe (g : Geom) (hB : g.B ≤ 65542) (evs : List Ev) {l : Log} {J : List JE} {D : Image}
    (h : CInvX g l J D) (hw : ∀ j ∈ J, C07.WF j.e) (hwf : ∀ j ∈ jourX g l D evs, C07.WF j.e)
    (htorn : TornEffs (effsX g l D evs)) (w : Bool) (X : Image) (hX : CutW w D (effsX g l D evs) X) :
    FullOrEmpty g.fileBytes X := by
  obtain ⟨_, J', lp, _, _, _, _, hcx, _⟩ := runX_cut g hB evs h hw hwf htorn w X hX .doNothing
  exact foe_of_dshape (dshape_of_cinvx hcx)

theorem effsX_split (g : Geom) (l : Log) (D : Image) (evs : List Ev) (m : Nat) :
    effsX g l D evs = effsX g l D (evs.take m) ++
      effsX g (logX g l D (evs.take m)) (diskXs g l D (evs.take m)) (evs.drop m) := by
  rw [← effsX_append, List.take_append_drop]

theorem jourX_split (g : Geom) (l : Log) (D : Image) (evs : List Ev) (m : Nat) :
    jourX g l D evs = jourX g l D (evs.take m) ++
      jourX g (logX g l D (evs.take m)) (diskXs g l D (evs.take m)) (evs.drop m) := by
  rw [← jourX_append, List.take_append_drop]

theorem hist_rest (g : Geom) (hB : g.B ≤ 65542) {l : Log} {J : List JE} {D : Image} (hc : CInvX g l J D)
    (hwJ : ∀ j ∈ J, C07.WF j.e) (evs : List Ev) (hfits : ∀ j ∈ jourX g l D evs, C07.WF j.e)
    (htorn : TornEffs (effsX g l D evs)) (m : Nat) :
    ∃ Jm, CInvX g (logX g l D (evs.take m)) Jm (diskXs g l D (evs.take m)) ∧ (∀ j ∈ Jm, C07.WF j.e) ∧
      (∀ j ∈ jourX g (logX g l D (evs.take m)) (diskXs g l D (evs.take m)) (evs.drop m), C07.WF j.e) ∧
      TornEffs (effsX g (logX g l D (evs.take m)) (diskXs g l D (evs.take m)) (evs.drop m)) := by
  rw [jourX_split g l D evs m] at hfits
  rw [effsX_split g l D evs m] at htorn
  obtain ⟨⟨Jm, hcm, hwm⟩, _, _⟩ := runX_inv g hB (evs.take m) hc hwJ
    (fun j hj => hfits j (List.mem_append_left _ hj)) (torn_left htorn)
  exact ⟨Jm, hcm, hwm, fun j hj => hfits j (List.mem_append_right _ hj), torn_right htorn⟩

theorem recover_rest (g : Geom) (l : Log) (D : Image) (evs : List Ev) (m : Nat) (hm : m ≤ evs.length)
    {X : Image} {policy' : Policy} (order' : List Bytes) {i : Nat} {lp : Log} {e0 : List Effect} {io : Nat}
    (hi : i ≤ (evs.drop m).length) (hrec : recoverPre g X policy' none = .ok (lp, e0, io))
    (hq : H.AbsEq lp.queues
      (logX g (logX g l D (evs.take m)) (diskXs g l D (evs.take m)) ((evs.drop m).take i)).queues) :
    ∃ rec i, m ≤ i ∧ i ≤ evs.length ∧ recover g X policy' order' none = .ok rec ∧
      H.AbsEq rec.log.queues (logX g l D (evs.take i)).queues := by
  obtain ⟨r, hr, hrq⟩ := recover_of_pre g _ policy' order' lp e0 io hrec
  refine ⟨r, m + i, Nat.le_add_right _ _, Nat.add_le_of_le_sub' hm (List.length_drop ▸ hi), hr, ?_⟩
  rw [hrq, List.take_add, logX_append]
  exact hq

/-- **every cut state of the events after the first `m` opens to a state `i ≥ m` of the history** -/
theorem runX_cut_after (g : Geom) (hB : g.B ≤ 65542) {l : Log} {J : List JE} {D : Image} (hc : CInvX g l J D)
    (hwJ : ∀ j ∈ J, C07.WF j.e) (evs : List Ev) (hfits : ∀ j ∈ jourX g l D evs, C07.WF j.e)
    (htorn : TornEffs (effsX g l D evs)) (m : Nat) (hm : m ≤ evs.length) (w : Bool) (X : Image)
    (hX : CutW w (diskXs g l D (evs.take m))
      (effsX g (logX g l D (evs.take m)) (diskXs g l D (evs.take m)) (evs.drop m)) X)
    (policy' : Policy) (order' : List Bytes) :
    ∃ rec i, m ≤ i ∧ i ≤ evs.length ∧ recover g X policy' order' none = .ok rec ∧
      H.AbsEq rec.log.queues (logX g l D (evs.take i)).queues := by
  obtain ⟨Jm, hcm, hwm, hfR, htR⟩ := hist_rest g hB hc hwJ evs hfits htorn m
  obtain ⟨i, _, lp, e0, io, hi, hrec, _, hq⟩ := runX_cut g hB (evs.drop m) hcm hwm hfR htR w X hX policy'
  exact recover_rest g l D evs m hm order' hi hrec hq

/-- what is known once a history is cut after a prefix that ends with `flush, fsync(file),
    fsync(dir)` — a PROMISE POINT: the call that ends there has promised stable storage —: `Em`, `Er`
    are the effects before and after the cut, `lm`, `Dm` the log and the flushed disk at the cut. There
    everything is durable, no unlink is pending and the `BufWriter` is empty; the remaining effects obey
    both disciplines and keep the files full-size or empty. -/
structure CutFacts (g : Geom) (cap : Nat) (D : Image) (b : BufSt) (Em Er : List Effect) (lm : Log) (Dm : Image) :
    Prop where
  mid : ∃ Jm, CInvX g lm Jm Dm
  disk : Dm = applyOsOps D (directOps Em)
  disc : ∃ σm σe str, pd g.fileBytes σm Er = some σe ∧ σm.dirty = false ∧ σm.named = true ∧
    PInvX σm (prun (PState.init D) (directOpsP Em)) ∧ runS none Er = some str
  buf : Buf.Inv cap (toOsOpsP cap b Em).1 none
  state : prunD (DState.init D) (toOsOpsP cap b Em).2 = ⟨prun (PState.init D) (directOpsP Em), [], false⟩
  foe : ∀ i, FullOrEmpty g.fileBytes (applyOsOps Dm (directOps (Er.take i)))

theorem cut_facts (g : Geom) (hB : g.B ≤ 65542) (cap : Nat) (l : Log) (J : List JE) (D : Image)
    (b : BufSt) (hc : CInvX g l J D) (hwJ : ∀ j ∈ J, C07.WF j.e) (hb : b.pend = []) (evs : List Ev)
    (hwf : ∀ j ∈ jourX g l D evs, C07.WF j.e) (htorn : TornEffs (effsX g l D evs))
    (m : Nat) (pre : List Effect) (f : Nat)
    (htail : effsX g l D (evs.take m) = pre ++ [.flush, .fsyncFile f, .fsyncDir]) :
    CutFacts g cap D b (effsX g l D (evs.take m))
      (effsX g (logX g l D (evs.take m)) (diskXs g l D (evs.take m)) (evs.drop m))
      (logX g l D (evs.take m)) (diskXs g l D (evs.take m)) := by
  have hfb := fileBytes_pos g
  obtain ⟨Jm, hcm, hwm, hwfr, htornr⟩ := hist_rest g hB hc hwJ evs hwf htorn m
  have hwfm : ∀ j ∈ jourX g l D (evs.take m), C07.WF j.e :=
    fun j hj => hwf j (by rw [jourX_split g l D evs m]; exact List.mem_append_left _ hj)
  have htornm : TornEffs (effsX g l D (evs.take m)) := torn_left (by rw [← effsX_split g l D evs m]; exact htorn)
  -- the first `m` events
  obtain ⟨_, hpdM, hdiscM⟩ := runX_inv g hB (evs.take m) hc hwJ hwfm htornm
  obtain ⟨_, hpdR, hdiscR⟩ := runX_inv g hB (evs.drop m) hcm hwm hwfr htornr
  have hfoeM := fun (w : Bool) X => runX_foe g hB (evs.take m) hc hwJ hwfm htornm w X
  have hfoeR := fun (w : Bool) X => runX_foe g hB (evs.drop m) hcm hwm hwfr htornr w X
  have hDm : diskXs g l D (evs.take m) = applyOsOps D (directOps (effsX g l D (evs.take m))) := diskXs_eq g _ l D
  generalize hEm : effsX g l D (evs.take m) = Em at *
  generalize hEr : effsX g (logX g l D (evs.take m)) (diskXs g l D (evs.take m)) (evs.drop m) = Er at *
  have hsh := dshape_of_cinvx hc
  -- the discipline
  obtain ⟨σm, hpdm, hpdlm⟩ := hpdM (pd0X l) (pdl0X hsh)
  obtain ⟨σe, hpdr, _⟩ := hpdR σm hpdlm
  obtain ⟨hdm, hnm, hclean⟩ : σm.dirty = false ∧ σm.named = true ∧ σm.clean = true := by
    rw [htail] at hpdm; exact pd_triple_end _ _ _ pre f hpdm
  -- the buffer discipline
  obtain ⟨stm, hrunm, _⟩ := hdiscM none (Or.inl rfl)
  obtain ⟨hrunSm, hstm⟩ := runS_of_pd g.fileBytes Em none stm (pd0X l) σm hrunm hpdm (fun _ => rfl)
  have hstm0 : stm = none := hstm hclean
  subst hstm0
  obtain ⟨str, hrunr, _⟩ := hdiscR none (Or.inl rfl)
  obtain ⟨hrunSr, _⟩ := runS_of_pd g.fileBytes Er none str σm σe hrunr hpdr (fun _ => rfl)
  have hinv0 : Buf.Inv cap b none := ⟨Or.inl hb, by rw [hb]; exact Nat.zero_le _⟩
  obtain ⟨hinvm, hokm⟩ := toOsOpsD_ok cap Em b none none hinv0 hrunSm
  have hbm : (toOsOpsP cap b Em).1.pend = [] := hinvm.1.resolve_right (fun h => by cases h)
  have hSm : prunD (DState.init D) (toOsOpsP cap b Em).2 = ⟨prun (PState.init D) (directOpsP Em), [], false⟩ := by
    have := hokm (DState.init D)
    rw [flushOps_nil _ hbm, flushOps_nil b hb] at this
    rw [htail] at this ⊢
    exact this.trans (prunD_triple_end _ pre f)
  -- the invariant after the first `m` events
  obtain ⟨_, σn, _, hpdn, hIm, _⟩ := power_prefix g.fileBytes hfb Em (pd0X l) (PState.init D) (pinv0X hfb hsh) rfl rfl
    σm hpdm (fun i _ => hfoeM true _ (CutW.of_take true Em i D)) Em.length (Nat.le_refl _)
  rw [List.take_length] at hpdn hIm
  rw [hpdm] at hpdn
  injection hpdn with hpdn
  subst hpdn
  exact ⟨⟨Jm, hcm⟩, hDm, ⟨σm, σe, str, hpdr, hdm, hnm, hIm, hrunSr⟩, hinvm, hSm,
    fun i => hfoeR true _ (CutW.of_take true Er i _)⟩

/-- A power loss at operation `k`, at or after the cut: the state of the lazy-directory model (hence the
    plain power-loss state, which is part of it) is the one reached from the volatile state at the cut,
    with nothing pending, by a whole number of the later effects. -/
theorem CutFacts.boundary {g : Geom} {cap : Nat} {D : Image} {b : BufSt} {Em Er : List Effect} {lm : Log}
    {Dm : Image} (h : CutFacts g cap D b Em Er lm Dm) (k : Nat) (hk : (toOsOpsP cap b Em).2.length ≤ k) :
    ∃ n, n ≤ Er.length ∧ prunD (DState.init D) ((toOsOpsP cap b (Em ++ Er)).2.take k) =
      prunD ⟨prun (PState.init D) (directOpsP Em), [], false⟩ (directOpsP (Er.take n)) := by
  obtain ⟨_, _, _, _, _, _, _, hrunSr⟩ := h.disc
  have hbm : (toOsOpsP cap b Em).1.pend = [] := h.buf.1.resolve_right (fun h => by cases h)
  obtain ⟨n', hn'⟩ := op_boundaryD cap Er (toOsOpsP cap b Em).1 none _
    ⟨prun (PState.init D) (directOpsP Em), [], false⟩ h.buf hrunSr (k - (toOsOpsP cap b Em).2.length)
  refine ⟨min n' Er.length, Nat.min_le_right _ _, ?_⟩
  rw [toOsOpsP_append]
  simp only
  rw [List.take_append, List.take_of_length_le hk, prunD_append, h.state, hn', pendW_nil _ hbm, List.nil_append,
    ← List.take_eq_take_min]

theorem CutFacts.vol {g : Geom} {cap : Nat} {D : Image} {b : BufSt} {Em Er : List Effect} {lm : Log}
    {Dm : Image} (h : CutFacts g cap D b Em Er lm Dm) : (prun (PState.init D) (directOpsP Em)).vol = Dm := by
  rw [h.disk]; exact prun_vol_direct _ _

theorem CutFacts.reduction {g : Geom} {cap : Nat} {D : Image} {b : BufSt} {Em Er : List Effect} {lm : Log}
    {Dm : Image} (h : CutFacts g cap D b Em Er lm Dm) (k : Nat) (hk : (toOsOpsP cap b Em).2.length ≤ k) :
    ∃ p, powerImage D ((toOsOpsP cap b (Em ++ Er)).2.take k) = applyOsOps Dm (directOps (Er.take p)) := by
  obtain ⟨n, hn, hbd⟩ := h.boundary k hk
  obtain ⟨σm, σe, _, hpdr, hdm, hnm, hIm, _⟩ := h.disc
  obtain ⟨p, _, _, _, _, himg⟩ := power_prefix g.fileBytes (fileBytes_pos g) _ σm _ hIm hdm hnm σe hpdr
    (fun i _ => by rw [h.vol]; exact h.foe i) n hn
  have hs := congrArg DState.s hbd
  rw [prunD_s, prunD_s] at hs
  exact ⟨p, by unfold powerImage; rw [show (DState.init D).s = PState.init D from rfl] at hs; rw [hs, himg, h.vol]⟩

/-- **the reduction, for histories with restarts, from any state satisfying the relaxed invariant**:
    the image left by a power loss at any instant after a prefix of the history that ends with
    `flush, fsync(file), fsync(dir)` is the image obtained from the flushed disk after that prefix
    by a whole number of the remaining effects -/
theorem power_reductionX (g : Geom) (hB : g.B ≤ 65542) (cap : Nat) (l : Log) (J : List JE) (D : Image)
    (b : BufSt) (hc : CInvX g l J D) (hwJ : ∀ j ∈ J, C07.WF j.e) (hb : b.pend = []) (evs : List Ev)
    (hwf : ∀ j ∈ jourX g l D evs, C07.WF j.e) (htorn : TornEffs (effsX g l D evs))
    (m : Nat) (pre : List Effect) (f : Nat)
    (htail : effsX g l D (evs.take m) = pre ++ [.flush, .fsyncFile f, .fsyncDir])
    (k : Nat) (hk : (toOsOpsP cap b (effsX g l D (evs.take m))).2.length ≤ k) :
    ∃ p, powerImage D ((toOsOpsP cap b (effsX g l D evs)).2.take k) =
      applyOsOps (diskXs g l D (evs.take m))
        (directOps ((effsX g (logX g l D (evs.take m)) (diskXs g l D (evs.take m)) (evs.drop m)).take p)) := by
  rw [effsX_split g l D evs m]
  exact (cut_facts g hB cap l J D b hc hwJ hb evs hwf htorn m pre f htail).reduction k hk

end MRL.PX

namespace MRL.P
open Buf G H L K

/-- **the reduction** for a run of calls: a history without restarts -/
theorem power_reduction (g : Geom) (hB : g.B ≤ 65542) (cap : Nat) (l : Log) (J : List JE) (img : Image)
    (b : BufSt) (hc : CInv g l J img) (hb : b.pend = []) (cs : List (Call × Bool × List Bytes))
    (hwf : ∀ j ∈ J ++ jourD g l cs, C07.WF j.e) (htorn : TornEffs (effsD g l cs))
    (m : Nat) (pre : List Effect) (f : Nat)
    (htail : effsD g l (cs.take m) = pre ++ [.flush, .fsyncFile f, .fsyncDir])
    (k : Nat) (hk : (toOsOpsP cap b (effsD g l (cs.take m))).2.length ≤ k) :
    ∃ p, powerImage img ((toOsOpsP cap b (effsD g l cs)).2.take k) =
      applyOsOps (applyOsOps img (directOps (effsD g l (cs.take m))))
        (directOps ((effsD g (logD g l (cs.take m)) (cs.drop m)).take p)) := by
  have h := PX.power_reductionX g hB cap l J img b (CInvX.of_cinv hc) (fun j hj => hwf j (List.mem_append_left _ hj)) hb
    (cs.map fun x => PX.Ev.call x.1 x.2.1 x.2.2)
    (by rw [(PX.calls_eq g cs l img).2.2]; exact fun j hj => hwf j (List.mem_append_right _ hj))
    (by rw [(PX.calls_eq g cs l img).1]; exact htorn) m pre f
    (by rw [← List.map_take, (PX.calls_eq g _ l img).1]; exact htail) k
    (by rw [← List.map_take, (PX.calls_eq g _ l img).1]; exact hk)
  rw [← List.map_take, ← List.map_drop, PX.diskXs_eq, (PX.calls_eq g cs l img).1, (PX.calls_eq g (cs.take m) l img).1,
    (PX.calls_eq g (cs.take m) l img).2.1, (PX.calls_eq g (cs.drop m) _ _).1] at h
  exact h

end MRL.P
