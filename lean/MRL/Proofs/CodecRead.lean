/-
The reader, step by step (C07): `scanB` is `scanBlocks` without the I/O accounting; one step of it
for each way the scan of the current block can end; the blocks of a single file (`readFrom`).
-/
import MRL.Proofs.CodecFrame
import MRL.Model.Recovery

namespace MRL.Codec

/-- `scanBlocks` with no I/O failure, without the I/O counter -/
def scanB (g : Geom) : Blk → Nat → List Blk → List RdEv × EndPos
  | cur, c, rest =>
    match scanBlock g cur.data c with
    | (evs, .zeroHeader c') => (tagEvs cur.file evs, ⟨cur.file, cur.idx, c'⟩)
    | (evs, .needNext c') =>
      match rest with
      | [] => (tagEvs cur.file evs, ⟨cur.file, cur.idx, c'⟩)
      | b :: rest' =>
        let r := scanB g b 0 rest'
        (tagEvs cur.file evs ++ r.1, r.2)

theorem scanBlocks_eq_scanB (g : Geom) (trail : Nat) (io : Nat) (cur : Blk) (c : Nat) (rest : List Blk) :
    ∃ io', scanBlocks g none trail io cur c rest = some ((scanB g cur c rest).1, (scanB g cur c rest).2, io') := by
  induction rest generalizing io cur c with
  | nil =>
    unfold scanBlocks scanB
    rcases scanBlock g cur.data c with ⟨evs, e⟩
    cases e <;> simp [ioFails]
  | cons b rest ih =>
    unfold scanBlocks scanB
    rcases scanBlock g cur.data c with ⟨evs, e⟩
    cases e with
    | zeroHeader c' => simp
    | needNext c' =>
      obtain ⟨io', h⟩ := ih (io + b.cost) b 0
      simp [ioFails, h]

theorem scanB_zeroHeader (g : Geom) (cur : Blk) (c : Nat) (rest : List Blk) (evs : List FrameEv) (c' : Nat)
    (h : scanBlock g cur.data c = (evs, .zeroHeader c')) :
    scanB g cur c rest = (tagEvs cur.file evs, ⟨cur.file, cur.idx, c'⟩) := by
  unfold scanB; rw [h]

theorem scanB_needNext_nil (g : Geom) (cur : Blk) (c : Nat) (evs : List FrameEv) (c' : Nat)
    (h : scanBlock g cur.data c = (evs, .needNext c')) :
    scanB g cur c [] = (tagEvs cur.file evs, ⟨cur.file, cur.idx, c'⟩) := by
  unfold scanB; rw [h]

theorem scanB_needNext_cons (g : Geom) (cur b : Blk) (c : Nat) (rest : List Blk) (evs : List FrameEv)
    (c' : Nat) (h : scanBlock g cur.data c = (evs, .needNext c')) :
    scanB g cur c (b :: rest) = (tagEvs cur.file evs ++ (scanB g b 0 rest).1, (scanB g b 0 rest).2) := by
  conv => lhs; unfold scanB
  rw [h]

theorem tagEvs_append (f : Nat) (a b : List FrameEv) : tagEvs f (a ++ b) = tagEvs f a ++ tagEvs f b := by
  induction a with
  | nil => rfl
  | cons x a ih => cases x <;> simp [tagEvs, ih]

theorem scanB_cons (g : Geom) (cur : Blk) (c c' : Nat) (rest : List Blk) (ev : FrameEv)
    (h : scanBlock g cur.data c = (ev :: (scanBlock g cur.data c').1, (scanBlock g cur.data c').2)) :
    scanB g cur c rest =
      (tagEvs cur.file [ev] ++ (scanB g cur c' rest).1, (scanB g cur c' rest).2) := by
  rcases hs : scanBlock g cur.data c' with ⟨evs, e⟩
  rw [hs] at h
  have ht : tagEvs cur.file (ev :: evs) = tagEvs cur.file [ev] ++ tagEvs cur.file evs :=
    tagEvs_append cur.file [ev] evs
  cases e with
  | zeroHeader c2 => rw [scanB_zeroHeader g cur c rest _ c2 h, scanB_zeroHeader g cur c' rest _ c2 hs, ht]
  | needNext c2 =>
    cases rest with
    | nil => rw [scanB_needNext_nil g cur c _ c2 h, scanB_needNext_nil g cur c' _ c2 hs, ht]
    | cons b rest =>
      rw [scanB_needNext_cons g cur b c rest _ c2 h, scanB_needNext_cons g cur b c' rest _ c2 hs, ht,
        List.append_assoc]

theorem scanB_skip (g : Geom) (cur b : Blk) (c : Nat) (rest : List Blk) (h : g.B - c < 7) :
    scanB g cur c (b :: rest) = scanB g b 0 rest :=
  scanB_needNext_cons g cur b c rest [] c (scanBlockFrom_short g _ c h)

theorem scanB_short_nil (g : Geom) (cur : Blk) (c : Nat) (h : g.B - c < 7) :
    scanB g cur c [] = ([], ⟨cur.file, cur.idx, c⟩) :=
  scanB_needNext_nil g cur c [] c (scanBlockFrom_short g _ c h)

theorem scanB_zeros (g : Geom) (cur : Blk) (c : Nat) (rest : List Blk) (m : Nat)
    (hd : cur.data.drop c = zeros m) (h : 7 ≤ g.B - c) :
    scanB g cur c rest = ([], ⟨cur.file, cur.idx, c⟩) := by
  apply scanB_zeroHeader g cur c rest [] c
  rw [scanBlock, hd]
  exact scanBlockFrom_zero g _ c h (by rw [take_zeros]; exact isAllZero_zeros _)

/-- where the reader ends, given the absolute end `w` of the written bytes: the same position as
    `G.hdrPos g w` (GPos), by `rfl`; the statements of C02, C07 and C09 are written with this one -/
def finalPos (g : Geom) (w : Nat) : Nat :=
  if g.B - w % g.B < 7 then w + (g.B - w % g.B) else w

/-- the reader at cursor `c` of block `k`, whose content and successors are cut from `T0`
    (`n` more blocks after the current one). The blocks are those of `fileBlocks` with first cost 1,
    hence the `if` with equal branches; the I/O cost plays no role for `scanB`. -/
def readFrom (g : Geom) (f : Nat) (T0 : Bytes) (k n c : Nat) : List RdEv × EndPos :=
  scanB g ⟨f, k, T0.take g.B, if k = 0 then 1 else 1⟩ c (fileBlocks g f (T0.drop g.B) 1 (k + 1) n)

theorem fileBlocks_succ (g : Geom) (f : Nat) (T : Bytes) (k n : Nat) :
    fileBlocks g f T 1 k (n + 1) =
      ⟨f, k, T.take g.B, if k = 0 then 1 else 1⟩ :: fileBlocks g f (T.drop g.B) 1 (k + 1) n := rfl

theorem fileBlocks_map (g : Geom) (f fc : Nat) (T0 : Bytes) (k : Nat) : ∀ (n i : Nat),
    fileBlocks g f (T0.drop (i * g.B)) fc (k + i) n =
      (List.range' i n).map fun j =>
        (⟨f, k + j, (T0.drop (j * g.B)).take g.B, if k + j = 0 then fc else 1⟩ : Blk)
  | 0, i => rfl
  | n + 1, i => by
    have h := fileBlocks_map g f fc T0 k n (i + 1)
    have e : (T0.drop (i * g.B)).drop g.B = T0.drop ((i + 1) * g.B) := by
      rw [List.drop_drop, Nat.add_mul, Nat.one_mul]
    rw [fileBlocks, e, Nat.add_assoc, h, List.range'_succ, List.map_cons]

end MRL.Codec
