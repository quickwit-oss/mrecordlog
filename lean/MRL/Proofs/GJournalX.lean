/-
Journal-level facts needed by the restart theorem on top of `JInv`: consecutive entries are
chained (`Mono2`), some retained entry is attributed to the first tracked file or earlier, unless
the writer still stands in that file (`FirstOK`); every file handle of a replayed queue is the
attribution of a retained entry (`replay_handles`, from `Log.replayEntry_handles`); a GC pass alone keeps
`JInv` (`jinv_gc`) and `FirstOK` (`firstOK_gc`).
-/
import MRL.Proofs.JInv

namespace MRL.G
open Log C01J

/-- Chained journal: an entry is attributed (`attr`, the file in which the previous entry ended)
    at or after the location (`loc`, the file of its first frame) of every earlier entry. The
    order on two fields, where `Chunk.mono` orders `loc` alone. -/
def Mono2 (J : List JE) : Prop := J.Pairwise (fun a b => a.loc ≤ b.attr)

theorem mono2_touches (g : Geom) (names : List Bytes) : ∀ l : Log, FilesWF l → Mono2 (touchesJ g l names) := by
  induction names with
  | nil => intro l _; exact List.Pairwise.nil
  | cons n ns ih =>
    intro l hwf
    rw [touchesJ_cons]
    have hg := writeEntry_grow g l (.touch n (touchNext l n)) hwf
    refine List.Pairwise.cons ?_ (ih _ hg.wf)
    intro b hb
    have h1 := writeEntry_cur_ge_nextLoc g l (.touch n (touchNext l n)) hwf
    have h2 := (touchesJ_chunk g ns _ hg.wf).bounds b hb
    simp only [je]; omega

theorem mono2_gcJ (g : Geom) (l : Log) (order : List Bytes) (h : HInv l) : Mono2 (gcJ g l order) := by
  rcases runGc_shape g l order h.inv.1 with ⟨hj, _⟩ | ⟨names, _, _, hj, _⟩
  · rw [hj]; exact List.Pairwise.nil
  · rw [hj]; exact mono2_touches g names l h.files

theorem gcJ_chunk (g : Geom) (l : Log) (order : List Bytes) (h : HInv l) :
    Chunk l.cur (gcJ g l order) (runGc g l order).1.cur :=
  (gcPass g l order h).chunk

theorem stepJ_chunk (g : Geom) (l : Log) (h : HInv l) (c : Call) (tick : Bool) (order : List Bytes) :
    Chunk l.cur (l.stepJ g c order) (l.step g c tick order).1.cur := by
  rcases H.step_full g l c tick order with
    ⟨hj, hl, _⟩ | ⟨e, qs', _, hewf, hre, _, (⟨hj, hl, _⟩ | ⟨hj, hl, _⟩)⟩ <;> rw [hj, hl]
  · exact Chunk.nil (Nat.le_refl _)
  · exact je_chunk g l e h.files hewf.wf
  · have h2 := write_hinv g l e qs' h hre
    exact (je_chunk g l e h.files hewf.wf).append (gcJ_chunk g _ order h2)

theorem mono2_extend {J js : List JE} {c c' : Nat} (hJ : Mono2 J) (hc : Chunk 0 J c)
    (hjs : Chunk c js c') (hm : Mono2 js) : Mono2 (J ++ js) := by
  refine List.pairwise_append.mpr ⟨hJ, hm, fun a ha b hb => ?_⟩
  have := hc.bounds a ha
  have := hjs.bounds b hb
  omega

/-- What makes the reader attribute the first retained entry as the journal does: an entry
    located at or after the first file `F` is attributed to `F` or earlier (the reader clamps its
    attribution to `F`), or nothing was written since `F` became the current file. -/
def FirstOK (F : Nat) (J : List JE) (cur : Nat) : Prop := (∃ j ∈ J, F ≤ j.loc ∧ j.attr ≤ F) ∨ cur = F

theorem filter_head_rel {α} (R : α → α → Prop) (p : α → Bool) : ∀ (l : List α), l.Pairwise R →
    ∀ a b, (l.filter p).head? = some a → b ∈ l → p b = true → a = b ∨ R a b := by
  intro l
  induction l with
  | nil => intro _ a b _ hb; cases hb
  | cons x l ih =>
    intro hp a b ha hb hpb
    rw [List.pairwise_cons] at hp
    rw [List.filter_cons] at ha
    by_cases hx : p x = true
    · simp only [hx, if_true, List.head?_cons, Option.some.injEq] at ha
      subst ha
      rcases List.mem_cons.mp hb with rfl | hb
      · exact Or.inl rfl
      · exact Or.inr (hp.1 b hb)
    · simp only [hx, Bool.false_eq_true, if_false] at ha
      rcases List.mem_cons.mp hb with rfl | hb
      · exact absurd hpb hx
      · exact ih hp.2 a b ha hb hpb

theorem hfirst_of {F cur : Nat} {J : List JE} (hm : Mono2 J) (hc : Chunk 0 J cur) (hf : FirstOK F J cur) :
    ∀ j0, (J.filter (fun j => decide (F ≤ j.loc))).head? = some j0 → j0.attr ≤ F := by
  intro j0 h0
  have hmem : j0 ∈ J := by
    have : j0 ∈ J.filter (fun j => decide (F ≤ j.loc)) := List.mem_of_head? h0
    exact (List.mem_filter.mp this).1
  have hb0 := hc.bounds j0 hmem
  rcases hf with ⟨j, hj, h1, h2⟩ | hcur
  · rcases filter_head_rel _ _ J hm j0 j h0 hj (by simpa using h1) with rfl | hr
    · exact h2
    · omega
  · omega

theorem firstOK_extend {F cur cur' : Nat} {J js : List JE} (hf : FirstOK F J cur)
    (hnil : js = [] → cur' = cur)
    (hhead : ∀ j1, js.head? = some j1 → j1.attr = cur ∧ cur ≤ j1.loc) : FirstOK F (J ++ js) cur' := by
  rcases hf with ⟨j, hj, h1, h2⟩ | hcur
  · exact Or.inl ⟨j, List.mem_append_left _ hj, h1, h2⟩
  · cases js with
    | nil => right; rw [hnil rfl]; exact hcur
    | cons j1 rest =>
      obtain ⟨a1, a2⟩ := hhead j1 rfl
      exact Or.inl ⟨j1, List.mem_append_right _ List.mem_cons_self, hcur ▸ a2, Nat.le_of_eq (a1.trans hcur)⟩

theorem replay_handles (F : Nat) (J : List JE) (qs : MemQueues) (h : replayJ F [] J = some qs)
    (n : Bytes) (x : MemQueue) (hx : qs.get? n = some x) (r : Rec) (hr : r ∈ x.recs) (f : Nat)
    (hf : r.file = some f) : ∃ j ∈ J, F ≤ j.loc ∧ f = max j.attr F := by
  rw [replayJ_eq] at h
  have hin : HandlesIn (fun a => ∃ j ∈ J, F ≤ j.loc ∧ a = max j.attr F) qs := by
    refine Rec.replayEntries_induct (P := HandlesIn _) _ (fun fe hfe hH hr => ?_) (fun kv h => by cases h) h
    obtain ⟨j, hj, rfl⟩ := List.mem_map.mp hfe
    exact replayEntry_handles hH ⟨j, (List.mem_filter.mp hj).1, of_decide_eq_true (List.mem_filter.mp hj).2, rfl⟩ hr
  exact hin (n, x) (AL.get?_mem hx) r hr f hf

theorem jinv_gc (g : Geom) {l2 : Log} {J : List JE} (order : List Bytes) (hJ : JInv l2 J) :
    JInv (runGc g l2 order).1 (J ++ gcJ g l2 order) :=
  C01J.jinv_gc hJ (gcPass g l2 order hJ.h)

theorem gcJ_nil_cur (g : Geom) (l : Log) (order : List Bytes) (hn : (l.queues.map (·.1)).Nodup)
    (h : gcJ g l order = []) : (runGc g l order).1.cur = l.cur := by
  rcases runGc_shape g l order hn with ⟨_, hl⟩ | ⟨names, rem, del, hj, hl, _, _⟩
  · rw [hl]
  · rw [hl]
    rw [h] at hj
    cases names with
    | nil => rfl
    | cons n ns => rw [touchesJ_cons] at hj; cases hj

/-- the new first tracked file is one where an entry starts being attributed, or the current one -/
theorem firstOK_gc (g : Geom) {l2 : Log} {J : List JE} (order : List Bytes) (hJ2 : JInv l2 J)
    (hf : FirstOK (l2.files.headD 0) J l2.cur) :
    FirstOK ((runGc g l2 order).1.files.headD 0) (J ++ gcJ g l2 order) (runGc g l2 order).1.cur := by
  have hJ' := jinv_gc g order hJ2
  rcases runGc_shape g l2 order hJ2.h.inv.1 with ⟨hj, hl⟩ | ⟨names, rem, del, hj, hl, hgc, _⟩
  · rw [hj, hl, List.append_nil]; exact hf
  · have hcm := hJ'.h.files.cur_mem
    rw [hl] at hcm ⊢
    rw [hj] at hJ' ⊢
    rw [hl] at hJ'
    simp only at hcm ⊢
    cases hrem : rem with
    | nil => rw [hrem] at hcm; cases hcm
    | cons f r' =>
      rw [hrem] at hcm hJ'
      simp only [List.headD_cons]
      rcases (gcFiles_spec _ _ _ _ hgc).2.2 f r' hrem with hnd | hr'
      · unfold canDelete at hnd
        simp only [Bool.and_eq_false_iff, bne_eq_false_iff_eq, Bool.not_eq_eq_eq_not, Bool.not_false] at hnd
        rcases hnd with (h1 | h1) | h1
        · right; exact h1.symm
        · -- the pinned file: the cursor at the start of the pass
          cases names with
          | nil => right; exact h1.symm
          | cons n ns =>
            left
            rw [touchesJ_cons]
            refine ⟨l2.je g (.touch n (touchNext l2 n)), by simp, ?_, ?_⟩
            · have := nextLoc_ge g l2; simp only [je]; omega
            · simp only [je]; omega
        · -- referenced by a handle
          left
          unfold MemQueues.refsFile MemQueue.refsFile at h1
          simp only [List.any_eq_true, beq_iff_eq] at h1
          obtain ⟨kv, hkv, r, hr, hrf⟩ := h1
          obtain ⟨qs, q1, q2, _⟩ := hJ'.rep
          simp only [List.headD_cons] at q1
          have hget : ({ (writeTouches g l2 names).1 with files := f :: r' } : Log).queues.get? kv.1 = some kv.2 :=
            AL.get?_of_mem_nodup hJ'.h.inv.1 hkv
          obtain ⟨y, hy, hxy⟩ := q2.symm.get_some hget
          rw [hxy.1] at hr
          obtain ⟨j, hjm, hj1, hj2⟩ := replay_handles f _ qs q1 kv.1 y hy r hr f hrf
          exact ⟨j, hjm, hj1, by omega⟩
      · subst hr'
        simp only [List.mem_singleton] at hcm
        right; exact hcm

end MRL.G
