/-
Byte-level lemmas for the codec proofs (C07): little-endian integers, runs of zeros (one family of
lemmas for a cut within zeros), `totalLen`.
-/
import MRL.Model.Frame

namespace MRL.Codec

theorem length_leBytes (n k : Nat) : (leBytes n k).length = k := by
  induction k generalizing n with
  | zero => rfl
  | succ k ih => simp [leBytes, ih]

theorem toNat_mod256 (n : Nat) : (n % 256).toUInt8.toNat = n % 256 := by simp

theorem leNat_leBytes (k n : Nat) (h : n < 256 ^ k) : leNat (leBytes n k) = n := by
  induction k generalizing n with
  | zero => simp at h; subst h; rfl
  | succ k ih =>
    have h2 : n / 256 < 256 ^ k := by
      rw [Nat.div_lt_iff_lt_mul (by decide)]; rw [Nat.pow_succ] at h; exact h
    simp only [leBytes, leNat, toNat_mod256, ih _ h2]
    omega

theorem leNat_leBytes2 (n : Nat) (h : n < 65536) : leNat (leBytes n 2) = n :=
  leNat_leBytes 2 n (by simpa using h)

theorem leNat_leBytes4 (n : Nat) (h : n < 2 ^ 32) : leNat (leBytes n 4) = n :=
  leNat_leBytes 4 n (by simpa using h)

theorem leNat_leBytes8 (n : Nat) (h : n < 2 ^ 64) : leNat (leBytes n 8) = n :=
  leNat_leBytes 8 n (by simpa using h)

@[simp] theorem length_zeros (n : Nat) : (zeros n).length = n := by simp [zeros]

theorem zeros_add (a b : Nat) : zeros (a + b) = zeros a ++ zeros b := by
  simp [zeros, List.replicate_append_replicate]

theorem take_zeros (m n : Nat) : (zeros n).take m = zeros (min m n) := by
  simp [zeros, List.take_replicate]

theorem drop_zeros (m n : Nat) : (zeros n).drop m = zeros (n - m) := by
  simp [zeros, List.drop_replicate]

theorem take_in_zeros (X T : Bytes) {E : Nat} (z n : Nat) (hX : X.length = E) (h1 : E ≤ n) (h2 : n ≤ E + z) :
    (X ++ (zeros z ++ T)).take n = X ++ zeros (n - E) := by
  have h : n - E ≤ z := Nat.sub_le_iff_le_add'.mpr h2
  rw [List.take_append, hX, List.take_of_length_le (hX ▸ h1),
    List.take_append_of_le_length (by rw [length_zeros]; exact h), take_zeros, Nat.min_eq_left h]

theorem drop_in_zeros (X T : Bytes) {E : Nat} (z n : Nat) (hX : X.length = E) (h1 : E ≤ n) (h2 : n ≤ E + z) :
    (X ++ (zeros z ++ T)).drop n = zeros (z - (n - E)) ++ T := by
  rw [List.drop_append, hX, List.drop_of_length_le (hX ▸ h1), List.nil_append,
    List.drop_append_of_le_length (by rw [length_zeros]; exact Nat.sub_le_iff_le_add'.mpr h2), drop_zeros]

theorem take_past_zeros (X T : Bytes) {E : Nat} (z c : Nat) (hX : X.length = E) :
    (X ++ (zeros z ++ T)).take (E + z + c) = X ++ zeros z ++ T.take c := by
  have h := List.take_length_add_append (l₁ := X ++ zeros z) (l₂ := T) (i := c)
  rwa [List.length_append, length_zeros, hX, List.append_assoc] at h

theorem isAllZero_zeros (n : Nat) : isAllZero (zeros n) = true := by
  simp [isAllZero, zeros]

theorem isAllZero_append (a b : Bytes) : isAllZero (a ++ b) = (isAllZero a && isAllZero b) := by
  simp [isAllZero]

theorem isAllZero_eq_zeros (l : Bytes) (h : isAllZero l = true) : l = zeros l.length :=
  List.eq_replicate_iff.mpr ⟨rfl, fun b hb => beq_iff_eq.mp (List.all_eq_true.mp h b hb)⟩

theorem totalLen_eq (bufs : List Bytes) : totalLen bufs = bufs.flatten.length := by
  simp [totalLen, List.length_flatten]

theorem totalLen_append (a b : List Bytes) : totalLen (a ++ b) = totalLen a + totalLen b := by
  simp [totalLen]

@[simp] theorem totalLen_nil : totalLen [] = 0 := rfl

@[simp] theorem totalLen_cons (a : Bytes) (b : List Bytes) : totalLen (a :: b) = a.length + totalLen b := by
  simp [totalLen]

theorem flatMap_split {α β : Type} (f : α → List β) : ∀ (L : List α) (A1 : List β) (a : β) (A2 : List β),
    L.flatMap f = A1 ++ a :: A2 →
    ∃ g1 x g2 pre post, L = g1 ++ x :: g2 ∧ f x = pre ++ a :: post ∧ A1 = g1.flatMap f ++ pre ∧
      A2 = post ++ g2.flatMap f := by
  intro L
  induction L with
  | nil => intro A1 a A2 h; simp at h
  | cons y L ih =>
    intro A1 a A2 h
    rw [List.flatMap_cons] at h
    rcases List.append_eq_append_iff.mp h with ⟨c, h1, h2⟩ | ⟨c, h1, h2⟩
    · obtain ⟨g1, x, g2, pre, post, e1, e2, e3, e4⟩ := ih c a A2 h2
      exact ⟨y :: g1, x, g2, pre, post, by rw [e1]; rfl, e2, by rw [h1, e3, List.flatMap_cons, List.append_assoc], e4⟩
    · cases c with
      | nil =>
        simp only [List.nil_append] at h2
        obtain ⟨g1, x, g2, pre, post, e1, e2, e3, e4⟩ := ih [] a A2 h2.symm
        refine ⟨y :: g1, x, g2, pre, post, by rw [e1]; rfl, e2, ?_, e4⟩
        rw [List.flatMap_cons, List.append_assoc, ← e3, List.append_nil]
        simpa using h1.symm
      | cons c0 c =>
        simp only [List.cons_append, List.cons.injEq] at h2
        obtain ⟨rfl, h2⟩ := h2
        exact ⟨[], y, L, A1, c, rfl, h1, by simp, h2⟩

theorem drop_len_lt (S : Bytes) (n : Nat) (X : Bytes) (h : S.drop n = X) (hX : 0 < X.length) : n < S.length := by
  have := congrArg List.length h
  rw [List.length_drop] at this
  omega

end MRL.Codec

namespace MRL.Torn

theorem Bpos (g : Geom) : 0 < g.B := Nat.lt_trans (by decide : 0 < Consts.HEADER_LEN) g.hB

end MRL.Torn
