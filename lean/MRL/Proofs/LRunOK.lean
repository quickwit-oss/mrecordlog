/-
The replay-level discipline of a journal, up to the file handles. `RunOK J q`: the journal `J`
replays, entry by entry (`Drop.Run`: every entry is one the API writes in the state it is written
in), from SOME well-formed start `L0` — the queues as they were when the oldest retained entry was
written — to queues with the abstract state of `q`. This is what the drop-one simulation of C09
needs (`C09R.drop_core` starts from any well-formed queues), and it is stable under what a
restart or a crash-recovery does to the hidden journal of a state: dropping the entries of
unlinked files and re-attributing the retained ones (`RunOK.retained`).
-/
import MRL.Proofs.DropReach

namespace MRL.LR
open Log C05 C01J Rec Drop H L

theorem run_abs {a a' : MemQueues} {js : List JE} (h : Run a js a') : ∀ {js' : List JE} {b : MemQueues},
    All2 (fun x y : JE => x.e = y.e) js' js → AbsEq a b → QsWF a → QsWF b →
    ∃ b', Run b js' b' ∧ AbsEq a' b' ∧ QsWF b' := by
  induction h with
  | nil =>
    intro js' b hrel he _ hb
    cases hrel
    exact ⟨b, Run.nil, he, hb⟩
  | @cons lq lq' lq'' j js ho hr _ ih =>
    intro js' b hrel he ha hb
    cases hrel with
    | @cons j' _ js'' _ hjj hrest =>
      obtain ⟨b1, hb1, he1⟩ := replayEntry_abs (f' := j'.attr) he ha hb hr
      obtain ⟨b', hrun, he', hw'⟩ := ih hrest he1 (replayEntry_wf ha hr) (replayEntry_wf hb hb1)
      refine ⟨b', Run.cons (by rw [hjj]; exact okEntry_abs he ho) (by rw [hjj]; exact hb1) hrun, he', hw'⟩

def RunOK (J : List JE) (q : MemQueues) : Prop :=
  ∃ L0 Lf, QsWF L0 ∧ Run L0 J Lf ∧ QsWF Lf ∧ AbsEq Lf q

theorem RunOK.congr {J : List JE} {q q' : MemQueues} (h : RunOK J q) (he : AbsEq q q') : RunOK J q' := by
  obtain ⟨L0, Lf, h0, hr, hf, ha⟩ := h
  exact ⟨L0, Lf, h0, hr, hf, ha.trans he⟩

theorem RunOK.append {J Jn : List JE} {q q' : MemQueues} (h : RunOK J q) (hq : QsWF q) (hn : Run q Jn q') :
    RunOK (J ++ Jn) q' := by
  obtain ⟨L0, Lf, h0, hr, hf, ha⟩ := h
  obtain ⟨Lf', hr', ha', hf'⟩ := run_abs hn (All2.refl (R := fun x y : JE => x.e = y.e) (fun _ => rfl) Jn) ha.symm hq hf
  exact ⟨L0, Lf', h0, hr.append hr', hf', ha'.symm⟩

theorem RunOK.nil : RunOK [] [] := ⟨[], [], QsWF.nil, Run.nil, QsWF.nil, AbsEq.refl _⟩

theorem RunOK.retained {Jx J' : List JE} {q : MemQueues} (F : Nat) (h : RunOK Jx q)
    (hmono : Jx.Pairwise (fun a b => a.loc ≤ b.loc))
    (hrel : All2 (fun a b : JE => a.e = b.e) J' (Jx.filter fun j => decide (F ≤ j.loc))) : RunOK J' q := by
  obtain ⟨L0, Lf, h0, hr, hf, ha⟩ := h
  obtain ⟨J1, J2, hJ, h1, h2⟩ := MRL.split_loc F Jx hmono
  subst hJ
  rw [MRL.filter_split_loc F J1 J2 h1 h2] at hrel
  obtain ⟨Lk, hr1, hr2⟩ := Run.split (c := Lf) J1 J2 hr
  have hwk : QsWF Lk := hr1.wf h0
  obtain ⟨Lf', hr', ha', hf'⟩ := run_abs hr2 hrel (AbsEq.refl Lk) hwk hwk
  exact ⟨Lk, Lf', hwk, hr', hf', ha'.symm.trans ha⟩

end MRL.LR
