/-
Keys and members of the queue map after `set` / `remove`, and facts about lists sorted by a `Nat`
key (`takeWhile` / `dropWhile` / `drop` are filters). `Log.abs` is `AL.mapV MemQueue.abs`, so it
commutes with the association-list operations by the lemmas of `QAssoc`.
-/
import MRL.Spec.QueueMap

namespace MRL

/-- the function mapped over `queues` by `Log.abs` -/
abbrev absKV (kv : Bytes × MemQueue) : Bytes × SQueue := (kv.1, kv.2.abs)

theorem Log.abs_eq (l : Log) : l.abs = l.queues.map absKV := rfl

theorem bytes_beq {a b : Bytes} : (a == b) = true ↔ a = b := beq_iff_eq

theorem set_keys (qs : MemQueues) (n : Bytes) (q : MemQueue) :
    (qs.set n q).map (·.1) =
      if qs.contains n then qs.map (·.1) else qs.map (·.1) ++ [n] := by
  unfold MemQueues.set
  by_cases hc : qs.contains n
  · rw [if_pos hc, if_pos hc, List.map_map]
    apply List.map_congr_left
    intro kv _
    show (if kv.1 == n then (n, q) else kv).1 = kv.1
    by_cases h : kv.1 == n
    · rw [if_pos h]; exact (bytes_beq.mp h).symm
    · rw [if_neg h]
  · rw [if_neg hc, if_neg hc, List.map_append]; rfl

theorem contains_iff_mem_keys (qs : MemQueues) (n : Bytes) :
    qs.contains n = true ↔ n ∈ qs.map (·.1) := by
  rw [MemQueues.contains, List.any_eq_true, List.mem_map]
  exact exists_congr fun kv => and_congr_right fun _ => bytes_beq

theorem set_keys_nodup (qs : MemQueues) (n : Bytes) (q : MemQueue)
    (h : (qs.map (·.1)).Nodup) : ((qs.set n q).map (·.1)).Nodup := by
  rw [set_keys]
  split
  · exact h
  · rename_i hc
    rw [contains_iff_mem_keys] at hc
    rw [List.nodup_append]
    refine ⟨h, by simp, ?_⟩
    intro a ha b hb
    simp only [List.mem_singleton] at hb
    subst hb
    intro hab; subst hab; exact hc ha

theorem mem_set_ne {qs : MemQueues} {n : Bytes} {q : MemQueue} {kv : Bytes × MemQueue}
    (h : kv ∈ qs.set n q) : (kv ∈ qs ∧ kv.1 ≠ n) ∨ kv = (n, q) := by
  unfold MemQueues.set at h
  by_cases hc : qs.contains n
  · rw [if_pos hc, List.mem_map] at h
    obtain ⟨a, ha, rfl⟩ := h
    by_cases hk : a.1 == n
    · rw [if_pos hk]; exact Or.inr rfl
    · rw [if_neg hk]; exact Or.inl ⟨ha, fun e => hk (by rw [e]; exact beq_self_eq_true n)⟩
  · rw [if_neg hc, List.mem_append, List.mem_singleton] at h
    rcases h with h | h
    · refine Or.inl ⟨h, fun e => hc ?_⟩
      rw [contains_iff_mem_keys]; exact e ▸ List.mem_map_of_mem h
    · exact Or.inr h

theorem mem_set {qs : MemQueues} {n : Bytes} {q : MemQueue} {kv : Bytes × MemQueue}
    (h : kv ∈ qs.set n q) : kv ∈ qs ∨ kv = (n, q) := (mem_set_ne h).imp And.left id

theorem remove_keys_nodup (qs : MemQueues) (n : Bytes)
    (h : (qs.map (·.1)).Nodup) : ((qs.remove n).map (·.1)).Nodup := by
  unfold MemQueues.remove
  exact (List.filter_sublist.map _).nodup h

theorem mem_remove {qs : MemQueues} {n : Bytes} {kv : Bytes × MemQueue}
    (h : kv ∈ qs.remove n) : kv ∈ qs := by
  unfold MemQueues.remove at h
  exact (List.mem_filter.mp h).1

theorem takeWhile_eq_filter_of_pairwise {α} (P : α → Bool) : ∀ (l : List α),
    l.Pairwise (fun a b => P b = true → P a = true) → l.takeWhile P = l.filter P := by
  intro l
  induction l with
  | nil => intro _; rfl
  | cons a l ih =>
    intro h
    rw [List.pairwise_cons] at h
    simp only [List.takeWhile_cons, List.filter_cons]
    split
    · rw [ih h.2]
    · rename_i hP
      symm
      rw [List.filter_eq_nil_iff]
      intro b hb hPb
      exact hP (h.1 b hb hPb)

theorem mem_takeWhile_sat {α} (P : α → Bool) : ∀ (l : List α) (x : α), x ∈ l.takeWhile P → P x = true := by
  intro l
  induction l with
  | nil => intro x h; cases h
  | cons a l ih =>
    intro x h
    rw [List.takeWhile_cons] at h
    split at h
    · rename_i ha
      rcases List.mem_cons.mp h with rfl | h
      · exact ha
      · exact ih x h
    · cases h

theorem drop_takeWhile_length {α} (P : α → Bool) (l : List α) :
    l.drop (l.takeWhile P).length = l.dropWhile P := by
  induction l with
  | nil => rfl
  | cons a l ih =>
    simp only [List.takeWhile_cons, List.dropWhile_cons]
    split
    · simpa using ih
    · rfl

theorem dropWhile_eq_filter_of_pairwise {α} (P : α → Bool) : ∀ (l : List α),
    l.Pairwise (fun a b => P b = true → P a = true) →
    l.dropWhile P = l.filter (fun a => !P a) := by
  intro l
  induction l with
  | nil => intro _; rfl
  | cons a l ih =>
    intro h
    rw [List.pairwise_cons] at h
    simp only [List.dropWhile_cons, List.filter_cons]
    split
    · rename_i hP; simp only [hP, Bool.not_true, Bool.false_eq_true, if_false]; exact ih h.2
    · rename_i hP
      simp only [hP, Bool.not_false, if_true]
      congr 1
      symm
      rw [List.filter_eq_self]
      intro b hb
      cases hPb : P b
      · rfl
      · exact absurd (h.1 b hb hPb) hP

theorem sorted_le_closed {α} (f : α → Nat) {l : List α} (hs : l.Pairwise (fun a b => f a < f b))
    (p : Nat) : l.Pairwise (fun a b => decide (f b ≤ p) = true → decide (f a ≤ p) = true) :=
  hs.imp fun {a b} hab => by simp only [decide_eq_true_eq]; omega

theorem drop_takeWhile_le {α} (f : α → Nat) {l : List α} (hs : l.Pairwise (fun a b => f a < f b))
    (p : Nat) :
    l.drop (l.takeWhile fun a => decide (f a ≤ p)).length = l.filter fun a => decide (p < f a) := by
  rw [drop_takeWhile_length, dropWhile_eq_filter_of_pairwise _ _ (sorted_le_closed f hs p)]
  apply List.filter_congr
  intro a _
  rw [← decide_not]
  exact decide_eq_decide.mpr Nat.not_le

end MRL
