/-
Cutting the tape at a file boundary (a GC pass unlinked the first `k` tracked files): the
relaxed invariant holds again with first file `F + k`. The frames left are the tail of the group
straddling the cut (now lead frames) and the groups located at or after `F + k`. The files a GC pass
deletes are such an initial segment of the tracked ones (`gcFiles_range`).
-/
import MRL.Proofs.LDisk

namespace MRL.L
open Codec Consts G Log Torn

theorem flatMap_cut {α β : Type} (f : α → List β) : ∀ (l : List α) (n : Nat),
    (∃ A B, l = A ++ B ∧ (l.flatMap f).take n = A.flatMap f ∧ (l.flatMap f).drop n = B.flatMap f) ∨
    (∃ A x B part rest, l = A ++ x :: B ∧ f x = part ++ rest ∧ part ≠ [] ∧ rest ≠ [] ∧
      (l.flatMap f).take n = A.flatMap f ++ part ∧ (l.flatMap f).drop n = rest ++ B.flatMap f) := by
  intro l
  induction l with
  | nil => intro n; left; exact ⟨[], [], rfl, by simp only [List.flatMap_nil, List.take_nil], by simp only [List.flatMap_nil, List.drop_nil]⟩
  | cons y l ih =>
    intro n
    by_cases hn : (f y).length ≤ n
    · rcases ih (n - (f y).length) with ⟨A, B, h1, h2, h3⟩ | ⟨A, x, B, part, rest, h1, h2, h3, h4, h5, h6⟩
      · left
        refine ⟨y :: A, B, by rw [h1]; rfl, ?_, ?_⟩
        · rw [List.flatMap_cons, List.take_append, List.take_of_length_le hn, h2, List.flatMap_cons]
        · rw [List.flatMap_cons, List.drop_append, List.drop_of_length_le hn, h3]; simp only [List.nil_append]
      · right
        refine ⟨y :: A, x, B, part, rest, by rw [h1]; rfl, h2, h3, h4, ?_, ?_⟩
        · rw [List.flatMap_cons, List.take_append, List.take_of_length_le hn, h5, List.flatMap_cons,
            List.append_assoc]
        · rw [List.flatMap_cons, List.drop_append, List.drop_of_length_le hn, h6]; simp only [List.nil_append]
    · by_cases h0 : n = 0
      · left; subst h0; exact ⟨[], y :: l, rfl, by simp only [List.flatMap_cons, List.take_zero, List.flatMap_nil], by simp only [List.flatMap_cons, List.drop_zero]⟩
      · right
        refine ⟨[], y, l, (f y).take n, (f y).drop n, rfl, (List.take_append_drop n _).symm, ?_, ?_, ?_, ?_⟩
        · exact fun h => (List.take_eq_nil_iff.mp h).elim h0 fun e => hn (by rw [e]; exact Nat.zero_le n)
        · exact fun h => hn (List.drop_eq_nil_iff.mp h)
        · rw [List.flatMap_cons, List.take_append_of_le_length (Nat.le_of_not_le hn)]; rfl
        · rw [List.flatMap_cons, List.drop_append_of_le_length (Nat.le_of_not_le hn)]

theorem grp_rest_nonfirst {x : Grp} (hx : GrpOK x) {part rest : List AItm} (hsp : x.2 = part ++ rest)
    (hpart : part ≠ []) (hrest : rest ≠ []) : ∀ a ∈ rest, a.2 = none ∧ a.1.2.1.isFirst = false := by
  obtain ⟨oj, fs⟩ := x
  simp only at hsp
  cases part with
  | nil => exact absurd rfl hpart
  | cons hd tl =>
    intro a ha
    have key : ∀ more : List Frm, EntryFrames true (frs fs ++ more) → a.1.2.1.isFirst = false := by
      intro more hE
      rw [hsp] at hE
      simp only [frs, tfs, untag, List.cons_append, List.map_cons, List.map_append] at hE
      apply entryFrames_after [] true _ _ hE a.1.2
      simp only [List.mem_append, List.mem_map]
      exact Or.inl (Or.inr ⟨a.1, ⟨a, ha, rfl⟩, rfl⟩)
    have hmem : a ∈ fs := by rw [hsp]; exact List.mem_append_right _ ha
    cases oj with
    | none =>
      rcases hx with ⟨more, _, hE, hnone⟩ | ⟨a0, r, hfs, _⟩
      · exact ⟨hnone a hmem, key more hE⟩
      · exfalso
        simp only at hfs
        rw [hsp] at hfs
        have := congrArg List.length hfs
        simp only [List.length_append, List.length_cons, List.length_nil] at this
        have : 0 < rest.length := List.length_pos_iff.mpr hrest
        omega
    | some j =>
      obtain ⟨hso, hnone⟩ : SegOK (j, tfs fs) ∧ ∀ a ∈ fs, a.2 = none := hx
      exact ⟨hnone a hmem, key [] (by simpa only [frs, List.append_nil] using hso.frames)⟩

theorem live_head {gs : List Grp} (hok : ∀ y ∈ gs, GrpOK y) {s : Seg} (hs : s ∈ liveOf gs) :
    ∃ its, (some s.1, its) ∈ gs ∧ tfs its = s.2 ∧ ∃ a, s.2.head? = some a ∧ a.1 = s.1.loc := by
  simp only [liveOf, List.mem_filterMap] at hs
  obtain ⟨y, hy, hys⟩ := hs
  obtain ⟨oj, fs⟩ := y
  cases oj with
  | none => simp at hys
  | some j =>
    simp only [Option.map_some, Option.some.injEq] at hys
    subst hys
    have hso : SegOK (j, tfs fs) := (hok _ hy).1
    refine ⟨fs, hy, rfl, ?_⟩
    cases hfs : tfs fs with
    | nil =>
      have := hso.frames.ne_nil
      simp only [hfs, untag, List.map_nil] at this
      exact absurd rfl this
    | cons a tl => exact ⟨a, rfl, hso.first a (by rw [hfs]; rfl)⟩

theorem mem_tfs_flatMap {gs : List Grp} {y : Grp} (hy : y ∈ gs) {a : TFrm} (ha : a ∈ tfs y.2) :
    a ∈ tfs (gs.flatMap (·.2)) := by
  simp only [tfs, List.mem_map] at ha ⊢
  obtain ⟨b, hb, rfl⟩ := ha
  exact ⟨b, List.mem_flatMap.mpr ⟨y, hy, hb⟩, rfl⟩

theorem live_tags {gs : List Grp} (hok : ∀ y ∈ gs, GrpOK y) {s : Seg} (hs : s ∈ liveOf gs) :
    ∃ a, a ∈ tfs (gs.flatMap (·.2)) ∧ a.1 = s.1.loc := by
  obtain ⟨its, hm, hts, a, ha, hal⟩ := live_head hok hs
  refine ⟨a, mem_tfs_flatMap hm ?_, hal⟩
  show a ∈ tfs its
  rw [hts]; exact List.mem_of_head? ha

theorem live_split {F F' : Nat} (hF : F ≤ F') {J : List JE} {A B : List Grp}
    (hmap : (liveOf (A ++ B)).map (·.1) = J.filter (fun j => decide (F ≤ j.loc)))
    (hA : ∀ s ∈ liveOf A, s.1.loc < F') (hB : ∀ s ∈ liveOf B, F' ≤ s.1.loc) :
    (liveOf B).map (·.1) = J.filter (fun j => decide (F' ≤ j.loc)) := by
  have hJ : J.filter (fun j => decide (F' ≤ j.loc)) =
      (J.filter (fun j => decide (F ≤ j.loc))).filter (fun j => decide (F' ≤ j.loc)) := by
    rw [List.filter_filter]
    apply List.filter_congr
    intro j _
    by_cases h1 : F' ≤ j.loc
    · simp only [h1, decide_true, Nat.le_trans hF h1, Bool.and_self]
    · simp only [h1, decide_false, Bool.false_and]
  rw [hJ, ← hmap, liveOf_append, List.map_append, List.filter_append]
  have h1 : ((liveOf A).map (·.1)).filter (fun j => decide (F' ≤ j.loc)) = [] := by
    rw [List.filter_eq_nil_iff]
    intro j hj
    obtain ⟨s, hs, rfl⟩ := List.mem_map.mp hj
    have := hA s hs
    simp only [decide_eq_true_eq]; omega
  have h2 : ((liveOf B).map (·.1)).filter (fun j => decide (F' ≤ j.loc)) = (liveOf B).map (·.1) := by
    rw [List.filter_eq_self]
    intro j hj
    obtain ⟨s, hs, rfl⟩ := List.mem_map.mp hj
    simpa only [decide_eq_true_eq] using hB s hs
  rw [h1, h2, List.nil_append]

theorem mem_tfs {ais : List AItm} {a : AItm} (h : a ∈ ais) : a.1 ∈ tfs ais := List.mem_map_of_mem (f := (·.1)) h

/-- The cut `fa ++ fb` at a file boundary falls in the lead frames, between two groups, or inside a group. In
    the last case the tail of that group joins the lead frames (it holds no first frame: `grp_rest_nonfirst`)
    and its entry, located below `F'`, is not among the retained ones (`live_split`) -/
theorem segs_cutX {F F' : Nat} {J : List JE} {ais fa fb lead : List AItm} {gs : List Grp} (hF : F ≤ F')
    (h : SegsW F J ais lead gs) (hsplit : ais = fa ++ fb)
    (hfa : ∀ a ∈ fa, a.1.1 < F') (hfb : ∀ a ∈ fb, F' ≤ a.1.1) :
    ∃ (lead' : List AItm) (gs' : List Grp), SegsW F' J fb lead' gs' ∧ ∃ A, gs = A ++ gs' := by
  obtain ⟨hais, hlead, hmap, hok⟩ := h
  have hfaeq : fa = ais.take fa.length := by rw [hsplit, List.take_left' rfl]
  have hfbeq : fb = ais.drop fa.length := by rw [hsplit, List.drop_left' rfl]
  have htfa : ∀ a ∈ tfs fa, a.1 < F' := by
    intro a ha
    obtain ⟨b, hb, rfl⟩ := List.mem_map.mp ha
    exact hfa b hb
  have htfb : ∀ a ∈ tfs fb, F' ≤ a.1 := by
    intro a ha
    obtain ⟨b, hb, rfl⟩ := List.mem_map.mp ha
    exact hfb b hb
  by_cases hn : fa.length ≤ lead.length
  · have hfb' : fb = lead.drop fa.length ++ gs.flatMap (·.2) := by
      rw [hfbeq, hais, List.drop_append_of_le_length hn]
    refine ⟨lead.drop fa.length, gs, ⟨hfb', fun a ha => hlead a (List.mem_of_mem_drop ha), ?_, hok⟩, [], rfl⟩
    have := live_split (A := []) (B := gs) hF (by simpa only [List.nil_append] using hmap) (fun s hs => by simp only [liveOf, List.filterMap_nil, List.not_mem_nil] at hs)
      (fun s hs => by
        obtain ⟨a, ha, hal⟩ := live_tags hok hs
        rw [← hal]
        apply htfb a
        rw [hfb', tfs_append]; exact List.mem_append_right _ ha)
    exact this
  · have hnl : lead.length ≤ fa.length := Nat.le_of_not_le hn
    have htk : fa = lead ++ (gs.flatMap (·.2)).take (fa.length - lead.length) := by
      conv => lhs; rw [hfaeq, hais, List.take_append, List.take_of_length_le hnl]
    have hdr : fb = (gs.flatMap (·.2)).drop (fa.length - lead.length) := by
      rw [hfbeq, hais, List.drop_append, List.drop_of_length_le hnl]; simp only [List.nil_append]
    rcases flatMap_cut (fun y : Grp => y.2) gs (fa.length - lead.length) with
      ⟨A, B, h1, h2, h3⟩ | ⟨A, x, B, part, rest, h1, h2, h3, h4, h5, h6⟩
    · subst h1
      have hokB : ∀ y ∈ B, GrpOK y := fun y hy => hok y (List.mem_append_right _ hy)
      have hokA : ∀ y ∈ A, GrpOK y := fun y hy => hok y (List.mem_append_left _ hy)
      refine ⟨[], B, ⟨by rw [hdr, h3]; rfl, (fun a ha => by cases ha), ?_, hokB⟩, A, rfl⟩
      apply live_split (A := A) hF hmap
      · intro s hs
        obtain ⟨a, ha, hal⟩ := live_tags hokA hs
        rw [← hal]
        apply htfa a
        rw [htk, h2, tfs_append]; exact List.mem_append_right _ ha
      · intro s hs
        obtain ⟨a, ha, hal⟩ := live_tags hokB hs
        rw [← hal]
        apply htfb a
        rw [hdr, h3]; exact ha
    · subst h1
      rw [List.append_cons] at hok hmap
      have hokB : ∀ y ∈ B, GrpOK y := fun y hy => hok y (List.mem_append_right _ hy)
      have hokA : ∀ y ∈ A ++ [x], GrpOK y := fun y hy => hok y (List.mem_append_left _ hy)
      have hokx : GrpOK x := hokA x (List.mem_append_right _ (List.mem_singleton.mpr rfl))
      refine ⟨rest, B, ⟨by rw [hdr, h6], grp_rest_nonfirst hokx h2 h3 h4, ?_, hokB⟩, A ++ [x], List.append_cons A x B⟩
      apply live_split (A := A ++ [x]) hF hmap
      · intro s hs
        obtain ⟨its, hm, hts, a, ha, hal⟩ := live_head hokA hs
        rw [← hal]
        apply htfa a
        rw [htk, h5, tfs_append, tfs_append]
        apply List.mem_append_right
        rcases List.mem_append.mp hm with h | h
        · apply List.mem_append_left
          apply mem_tfs_flatMap h
          show a ∈ tfs its
          rw [hts]; exact List.mem_of_head? ha
        · simp only [List.mem_singleton] at h
          apply List.mem_append_right
          -- the head of the straddling group lies in `part`
          have hx2 : x.2 = its := by rw [← h]
          rw [hx2] at h2
          cases part with
          | nil => exact absurd rfl h3
          | cons p0 ptl =>
            rw [← hts, h2] at ha
            simp only [List.cons_append, tfs_cons, List.head?_cons, Option.some.injEq] at ha
            rw [← ha]; simp only [tfs_cons, List.mem_cons, true_or]
      · intro s hs
        obtain ⟨a, ha, hal⟩ := live_tags hokB hs
        rw [← hal]
        apply htfb a
        rw [hdr, h6, tfs_append]; exact List.mem_append_right _ ha

theorem unlinks_append (A : Image) (x : Bool) (nf : Nat) (fs : List Nat) (h : ∀ f ∈ fs, f ≠ nf) :
    applyOsOps (A ++ xtra x nf) (fs.map OsOp.unlink) = applyOsOps A (fs.map OsOp.unlink) ++ xtra x nf := by
  induction fs generalizing A with
  | nil => rfl
  | cons f fs ih =>
    simp only [List.map_cons, applyOsOps, List.foldl_cons]
    have h1 : applyOs (A ++ xtra x nf) (.unlink f) = applyOs A (.unlink f) ++ xtra x nf := by
      simp only [applyOs, List.filter_append]
      congr 1
      rw [List.filter_eq_self]
      intro kv hkv
      have := xtra_keys x nf f (Ne.symm (h f List.mem_cons_self)) kv hkv
      simpa only [bne_iff_ne, ne_eq] using this
    rw [h1]
    exact ih _ (fun f' hf' => h f' (List.mem_cons_of_mem _ hf'))

theorem tag_lt (g : Geom) {F h k : Nat} (hlt : h < k * g.fileBytes) : F + h / g.fileBytes < F + k :=
  Nat.add_lt_add_left ((Nat.div_lt_iff_lt_mul (fileBytes_pos g)).mpr hlt) F

theorem drop_past_slot (g : Geom) (p m : Nat) (x : AItm) (hx : RawLen x) (rest : Bytes)
    (hq : nextPos g p x.1.2.2.length ≤ m) :
    (zeros (padLen g (p % g.B)) ++ slot x ++ rest).drop (m - p) = rest.drop (m - nextPos g p x.1.2.2.length) := by
  have hl : p + (zeros (padLen g (p % g.B)) ++ slot x).length = nextPos g p x.1.2.2.length := by
    rw [List.length_append, length_zeros, slot_length hx, padLen_mod, ← Nat.add_assoc, ← Nat.add_assoc,
      Nat.add_sub_cancel' (le_hdrPos g p)]
    rfl
  rw [← hl] at hq ⊢
  rw [List.drop_append, List.drop_of_length_le (Nat.le_sub_of_add_le' hq), Nat.sub_add_eq, List.nil_append]

theorem layout_cutJ (g : Geom) (F k L : Nat) (ais : List AItm) : ∀ p, p ≤ k * g.fileBytes →
    k * g.fileBytes ≤ endPos g p (frs ais) → Fits g (p % g.B) (frs ais) → Tagged g F p (tfs ais) →
    JOK g L p ais →
    ∃ fa fb, ais = fa ++ fb ∧
      (flatJ g (p % g.B) ais).drop (k * g.fileBytes - p) = flatJ g 0 fb ∧
      Fits g 0 (frs fb) ∧ Tagged g F (k * g.fileBytes) (tfs fb) ∧ JOK g L (k * g.fileBytes) fb ∧
      endPos g (k * g.fileBytes) (frs fb) = endPos g p (frs ais) ∧ (∀ a ∈ fa, a.1.1 < F + k) := by
  have hB : 0 < g.B := Torn.Bpos g
  have hm := mul_fileBytes_mod g k
  induction ais with
  | nil =>
    intro p h1 h2 _ _ _
    have : p = k * g.fileBytes := Nat.le_antisymm h1 h2
    subst this
    exact ⟨[], [], rfl, by simp only [Nat.sub_self, flatJ, List.drop_nil], trivial, trivial, trivial, rfl, fun _ h => by cases h⟩
  | cons x ais ih =>
    intro p h1 h2 hf ht hj
    by_cases hpm : k * g.fileBytes ≤ p
    · have hp : p = k * g.fileBytes := Nat.le_antisymm h1 hpm
      subst hp
      refine ⟨[], x :: ais, rfl, ?_, ?_, ht, hj, rfl, fun _ h => by cases h⟩
      · rw [Nat.sub_self, List.drop_zero, hm]
      · rw [hm] at hf; exact hf
    · have hlt : p < k * g.fileBytes := Nat.lt_of_not_le hpm
      have hhdr := hdrPos_le_block g p _ hm hlt
      by_cases hh : hdrPos g p = k * g.fileBytes
      · -- the cut falls between the padding and the slot
        refine ⟨[], x :: ais, rfl, ?_, ?_, ?_, ?_, ?_, fun _ h => by cases h⟩
        · rw [flatJ_hdrPos g p _ (List.cons_ne_nil _ _), hh, hm, List.drop_left' (length_zeros _)]
        · simp only [frs_cons] at hf ⊢
          rw [Fits_pos_cons] at hf
          have hroom := maxFrameLen_pos g p _ hf.1
          rw [hh, hm, Nat.zero_add, Nat.add_comm] at hroom
          have h0 : Fits g (hdrPos g p % g.B) (x.1.2 :: frs ais) := by
            rw [Fits_pos_cons, nextPos_hdrPos, hh, hm]
            refine ⟨?_, hf.2⟩
            unfold maxFrameLen
            rw [Nat.sub_zero, if_pos (show HEADER_LEN ≤ g.B from Nat.le_of_lt g.hB)]
            exact Nat.le_sub_of_add_le hroom
          rw [hh, hm] at h0; exact h0
        · rw [← hh, Tagged_hdrPos g F p _ (by simp)]; exact ht
        · rw [← hh, JOK_hdrPos g L p _ (List.cons_ne_nil _ _)]; exact hj
        · rw [← hh, frs_cons, endPos_hdrPos g p _ (List.cons_ne_nil _ _)]
      · have hhlt : hdrPos g p < k * g.fileBytes := Nat.lt_of_le_of_ne hhdr hh
        simp only [frs_cons] at hf h2 ⊢
        rw [Fits_pos_cons] at hf
        have hroom := maxFrameLen_pos g p _ hf.1
        have hq : nextPos g p x.1.2.2.length ≤ k * g.fileBytes := by
          have hb := block_le hB hm hhlt
          have hd := Nat.div_add_mod (hdrPos g p) g.B
          rw [Nat.add_mul, Nat.one_mul, Nat.mul_comm] at hb
          unfold nextPos; omega
        obtain ⟨fa, fb, e1, e2, e3, e4, e4', e5, e6⟩ := ih _ hq h2 hf.2 ht.2 hj.2
        refine ⟨x :: fa, fb, by rw [e1]; rfl, ?_, e3, e4, e4', ?_, ?_⟩
        · simp only [flatJ]
          rw [frameEndCursor_pos g p _ hf.1, drop_past_slot g p _ x hj.1.rawLen _ hq]
          exact e2
        · exact e5
        · intro a ha
          rcases List.mem_cons.mp ha with rfl | ha
          · rw [ht.1]; exact tag_lt g hhlt
          · exact e6 a ha

theorem ResOK.shift {g : Geom} {L W E : Nat} {res : Bytes} (h : ResOK g L W E res) {m L' W' E' : Nat}
    (hm : m % g.B = 0) (hL : L' + m = L) (hW : W' + m = W) (hE : hdrPos g E' + m = hdrPos g E) :
    ResOK g L' W' E' res := by
  rcases h with hr | ⟨r1, r2, r3, r4⟩
  · exact Or.inl hr
  · obtain ⟨q, rfl⟩ := Nat.dvd_of_mod_eq_zero hm
    subst hL hW
    rw [Nat.add_mul_div_left _ _ (Torn.Bpos g), Nat.add_right_comm, Nat.add_mul, Nat.mul_comm q] at r4
    exact Or.inr ⟨r1, r2, Nat.add_right_cancel (r3.trans hE.symm), Nat.le_of_add_le_add_right r4⟩

theorem mem_range'_lt {F n f : Nat} (h : f ∈ List.range' F n) : F ≤ f ∧ f < F + n := by
  rw [List.mem_range'_1] at h; exact h

theorem headD_range' {s n : Nat} (h : 0 < n) : (List.range' s n).headD 0 = s := by
  obtain ⟨m, rfl⟩ : ∃ m, n = m + 1 := ⟨n - 1, (Nat.sub_add_cancel h).symm⟩
  rfl

theorem take_range' (s n k : Nat) (h : k ≤ n) : (List.range' s n).take k = List.range' s k := by
  rw [← Nat.add_sub_of_le h, ← List.range'_append_1, List.take_left' List.length_range']

theorem range'_split (F N : Nat) (a b : List Nat) (h : List.range' F N = a ++ b) :
    a = List.range' F a.length ∧ b = List.range' (F + a.length) b.length := by
  have hl : N = a.length + b.length := by
    have := congrArg List.length h
    simpa using this
  rw [hl, ← List.range'_append_1] at h
  have := List.append_inj h (by simp)
  exact ⟨this.1.symm, this.2.symm⟩

/-- the files a GC pass deletes from `F, …, F + n` (and possibly an empty `F + n + 1`) with current file
    `F + n`: an initial segment that stops before the current file, which `canDelete` never allows -/
theorem gcFiles_range {l : Log} {F n : Nat} {x : Bool}
    (hfiles : l.files = List.range' F (n + 1 + (if x then 1 else 0))) (hcur : l.cur = F + n) (pinned : Nat)
    {rem del : List Nat} (hg : gcFiles (l.canDelete pinned) l.files = (rem, del)) :
    del.length ≤ n ∧ del = List.range' F del.length ∧
      rem = List.range' (F + del.length) (n + 1 - del.length + (if x then 1 else 0)) := by
  obtain ⟨hsplit, hcan, _⟩ := gcFiles_spec _ _ _ _ hg
  rw [hfiles] at hsplit
  obtain ⟨hdel, hrem⟩ := range'_split _ _ _ _ hsplit
  have hk : del.length ≤ n := Nat.le_of_not_lt fun hn => by
    have hmem : l.cur ∈ del := by
      rw [hdel, hcur, List.mem_range'_1]; exact ⟨Nat.le_add_right F n, Nat.add_lt_add_left hn F⟩
    have := hcan _ hmem
    simp [canDelete] at this
  have hlen := congrArg List.length hsplit
  simp only [List.length_range', List.length_append] at hlen
  refine ⟨hk, hdel, ?_⟩
  rw [hrem, Nat.eq_sub_of_add_eq' hlen.symm, Nat.sub_add_comm (Nat.le_succ_of_le hk)]

theorem TapeR.gc {g : Geom} {l : Log} {D : Image} {F : Nat} {init : List Bytes} {t : Bytes} {x : Bool}
    {res : Bytes} (hT : TapeR g l D F init t x res) (k : Nat) (hk : k ≤ init.length) :
    TapeR g { l with files := List.range' (F + k) (init.length + 1 - k + (if x then 1 else 0)) }
      (applyOsOps D ((List.range' F k).map OsOp.unlink)) (F + k) (init.drop k) t x res := by
  refine ⟨?_, fun c hc => hT.full c (List.mem_of_mem_drop hc), hT.tlen, hT.resle, ?_, ?_⟩
  · show applyOsOps D _ = _
    rw [hT.img, unlinks_append _ _ _ _ (fun f hf => Nat.ne_of_lt (Nat.lt_of_lt_of_le (List.mem_range'_1.mp hf).2
        (Nat.le_trans (Nat.add_le_add_left hk F) (Nat.le_succ _)))),
      unlink_prefix k _ F (by rw [List.length_append]; exact Nat.le_trans hk (Nat.le_add_right _ _)),
      List.drop_append_of_le_length hk, List.length_drop, Nat.add_assoc F k, Nat.add_sub_cancel' hk]
  · show List.range' (F + k) _ = _
    rw [List.length_drop, ← Nat.sub_add_comm hk]
  · show l.cur = _
    rw [hT.cur, List.length_drop, Nat.add_assoc, Nat.add_sub_cancel' hk]

theorem flay_cutJ (g : Geom) {F L : Nat} {P : Bytes} {ais : List AItm} (hL : FLayJ g F L P ais) (k : Nat)
    (hcut : k * g.fileBytes ≤ endPos g 0 (frs ais)) {L' : Nat} (hL' : L' + k * g.fileBytes = L) :
    ∃ fa fb, ais = fa ++ fb ∧ FLayJ g (F + k) L' (P.drop (k * g.fileBytes)) fb ∧
      endPos g 0 (frs fb) + k * g.fileBytes = endPos g 0 (frs ais) ∧
      (∀ a ∈ fa, a.1.1 < F + k) ∧ (∀ a ∈ fb, F + k ≤ a.1.1) := by
  have hkm := mul_fileBytes_mod g k
  have hE := flatJ0_len g ais hL.jok.rawLen hL.fits
  have hhle := le_hdrPos g (endPos g 0 (frs ais))
  obtain ⟨fa, fb, e1, e2, e3, e4, e4', e5, e6⟩ :=
    layout_cutJ g F k L ais 0 (Nat.zero_le _) hcut (by rw [Nat.zero_mod]; exact hL.fits) hL.tagged hL.jok
  rw [Nat.zero_mod, Nat.sub_zero] at e2
  have hshift := endPos_shift g (k * g.fileBytes) hkm (frs fb) 0
  rw [Nat.zero_add, e5] at hshift
  have ht : Tagged g (F + k) 0 (tfs fb) := (Tagged_shift g F k (tfs fb) 0).mp (by rw [Nat.zero_add]; exact e4)
  refine ⟨fa, fb, e1, ⟨?_, e3, ht, ?_, ?_⟩, hshift.symm, e6, ?_⟩
  · rw [List.length_drop, Nat.sub_sub, Nat.add_comm (k * g.fileBytes), ← hshift]
    conv => lhs; rw [hL.bytes]
    rw [List.drop_append_of_le_length (by rw [hE]; exact hcut), e2]
  · rw [List.length_drop]
    rcases hL.len with h1 | h1
    · left; rw [h1, hshift, Nat.add_sub_cancel]
    · right; rw [h1, hshift, hdrPos_shift g _ _ hkm, Nat.add_sub_cancel]
  · exact (JOK_shift g L' (k * g.fileBytes) hkm fb 0).mp (by rw [Nat.zero_add, hL']; exact e4')
  · intro a ha
    obtain ⟨h, _, _, h3⟩ := tag_pos g (F + k) (tfs fb) 0 ht a.1 (mem_tfs ha)
    rw [h3]; exact Nat.le_add_right _ _

theorem gc_diskX (g : Geom) {l : Log} {D : Image} {F : Nat} {init : List Bytes} {t : Bytes} {x : Bool}
    {res : Bytes} {J : List JE} {ais lead : List AItm} {gs : List Grp}
    (h : XInvX g l D F J init t x res ais lead gs) (k : Nat) (hk : k ≤ init.length) :
    ∃ ais' lead' gs',
      XInvX g { l with files := List.range' (F + k) (init.length + 1 - k + (if x then 1 else 0)) }
        (applyOsOps D ((List.range' F k).map OsOp.unlink)) (F + k) J (init.drop k) t x res ais' lead' gs' ∧
      (∃ fa, ais = fa ++ ais') ∧ (∃ A, gs = A ++ gs') ∧
      ((init.flatten ++ t).length = endPos g 0 (frs ais) →
        ((init.drop k).flatten ++ t).length = endPos g 0 (frs ais')) := by
  have hS := h.segsW
  obtain ⟨hT, hL, hresok, _, _, _, _⟩ := h
  have hkm := mul_fileBytes_mod g k
  have hkl : k * g.fileBytes ≤ init.length * g.fileBytes := Nat.mul_le_mul_right _ hk
  have hPdrop : ((init.drop k).flatten ++ t) = (init.flatten ++ t).drop (k * g.fileBytes) := by
    rw [List.drop_append_of_le_length (by rw [flatten_length_full _ _ hT.full]; exact hkl),
      flatten_drop_full _ _ _ hT.full hk]
  have hPge : k * g.fileBytes ≤ (init.flatten ++ t).length := by
    rw [hT.P_length]; exact Nat.le_trans hkl (Nat.le_add_right _ _)
  have hlen' : ((init.drop k).flatten ++ t).length + k * g.fileBytes = (init.flatten ++ t).length := by
    rw [hPdrop, List.length_drop, Nat.sub_add_cancel hPge]
  have hL' : ((init.drop k).length + 1) * g.fileBytes + k * g.fileBytes = (init.length + 1) * g.fileBytes := by
    rw [List.length_drop, ← Nat.add_mul, Nat.add_right_comm, Nat.sub_add_cancel hk]
  by_cases hcut : k * g.fileBytes ≤ endPos g 0 (frs ais)
  · obtain ⟨fa, fb, e1, hlay, hE', e6, hfbtags⟩ := flay_cutJ g hL k hcut hL'
    obtain ⟨lead', gs', ⟨s1, s2, s3, s4⟩, s5⟩ := segs_cutX (Nat.le_add_right F k) hS e1 e6 hfbtags
    rw [← hPdrop] at hlay
    exact ⟨fb, lead', gs', ⟨hT.gc k hk, hlay, hresok.shift hkm hL' hlen' (by rw [← hE', hdrPos_shift g _ _ hkm]),
      s1, s2, s3, s4⟩, ⟨fa, e1⟩, s5, fun h1 => Nat.add_right_cancel (hlen'.trans (h1.trans hE'.symm))⟩
  · -- all the items lie before the cut: nothing is left, the writer stands at the cut
    have hlt : endPos g 0 (frs ais) < k * g.fileBytes := Nat.lt_of_not_le hcut
    have hle := hdrPos_le_block g _ _ hkm hlt
    have hPk : (init.flatten ++ t).length = hdrPos g (endPos g 0 (frs ais)) ∧
        hdrPos g (endPos g 0 (frs ais)) = k * g.fileBytes := by
      rcases hL.len with h1 | h1
      · exact absurd (h1 ▸ hPge) hcut
      · exact ⟨h1, Nat.le_antisymm hle (h1 ▸ hPge)⟩
    have htags : ∀ a ∈ ais, a.1.1 < F + k := by
      intro a ha
      obtain ⟨h, _, h2, h3⟩ := tag_pos g F (tfs ais) 0 hL.tagged a.1 (mem_tfs ha)
      rw [h3]; exact tag_lt g (Nat.lt_of_le_of_lt (Nat.le_trans (Nat.le_add_right h 7) h2) hlt)
    obtain ⟨lead', gs', ⟨s1, s2, s3, s4⟩, s5⟩ := segs_cutX (fa := ais) (fb := []) (Nat.le_add_right F k)
      hS (by simp only [List.append_nil]) htags (fun a ha => by cases ha)
    have hnil : (init.drop k).flatten ++ t = [] := by
      rw [hPdrop]; exact List.drop_of_length_le (Nat.le_of_eq (hPk.1.trans hPk.2))
    have hh0 : hdrPos g (endPos g 0 (frs [])) = 0 := by
      show hdrPos g 0 = 0
      unfold hdrPos; rw [Nat.zero_mod, Nat.sub_zero, if_neg (Nat.not_lt.mpr (Nat.le_of_lt g.hB))]
    refine ⟨[], lead', gs', ⟨hT.gc k hk, ⟨?_, trivial, trivial, ?_, trivial⟩, ?_, s1, s2, s3, s4⟩,
      ⟨ais, (List.append_nil _).symm⟩, s5, fun h1 => absurd (h1 ▸ hPge) hcut⟩
    · rw [hnil]; simp [flatJ, zeros]
    · left; rw [hnil]; simp only [List.length_nil, frs_nil, endPos]
    · exact hresok.shift hkm hL' hlen' (by rw [hh0, Nat.zero_add, hPk.2])

end MRL.L
