/-
`QEquiv` / `QsEquiv` are congruences for what replay does to a queue (`appendRecord`, `appendAll`,
`truncateHead`) and to the map (`remove`; the other updates through the key-by-key form `replayEntry_rel`),
hence for `replayEntry` and `replayJ`.
-/
import MRL.Proofs.RecFold

namespace MRL
open C05

theorem QEquiv.refl (a : MemQueue) : QEquiv a a := ⟨rfl, rfl⟩
theorem QEquiv.symm {a b : MemQueue} (h : QEquiv a b) : QEquiv b a := ⟨h.1.symm, h.2.symm⟩
theorem QEquiv.trans {a b c : MemQueue} (h1 : QEquiv a b) (h2 : QEquiv b c) : QEquiv a c :=
  ⟨h1.1.trans h2.1, h1.2.trans h2.2⟩

theorem QEquiv.abs_eq {x y : MemQueue} (h : QEquiv x y) : x.abs = y.abs := by
  unfold MemQueue.abs; rw [h.1, h.2]

def OEquiv : Option MemQueue → Option MemQueue → Prop
  | some x, some y => QEquiv x y
  | none, none => True
  | _, _ => False

theorem qsEquiv_iff {a b : MemQueues} : QsEquiv a b ↔ ∀ n, OEquiv (a.get? n) (b.get? n) := by
  unfold QsEquiv
  constructor
  · intro h n
    have := h n
    revert this
    cases a.get? n <;> cases b.get? n <;> simp [OEquiv]
  · intro h n
    have := h n
    revert this
    cases a.get? n <;> cases b.get? n <;> simp [OEquiv]

theorem OEquiv.refl (a : Option MemQueue) : OEquiv a a := by
  cases a with
  | none => trivial
  | some x => exact QEquiv.refl x

theorem OEquiv.symm {a b : Option MemQueue} (h : OEquiv a b) : OEquiv b a := by
  cases a <;> cases b <;> simp only [OEquiv] at h ⊢
  exact QEquiv.symm h

theorem OEquiv.trans {a b c : Option MemQueue} (h1 : OEquiv a b) (h2 : OEquiv b c) : OEquiv a c := by
  cases a <;> cases b <;> cases c <;> simp only [OEquiv] at h1 h2 ⊢
  exact QEquiv.trans h1 h2

theorem QsEquiv.refl (a : MemQueues) : QsEquiv a a := qsEquiv_iff.mpr fun _ => OEquiv.refl _
theorem QsEquiv.symm {a b : MemQueues} (h : QsEquiv a b) : QsEquiv b a :=
  qsEquiv_iff.mpr fun n => (qsEquiv_iff.mp h n).symm
theorem QsEquiv.trans {a b c : MemQueues} (h1 : QsEquiv a b) (h2 : QsEquiv b c) : QsEquiv a c :=
  qsEquiv_iff.mpr fun n => (qsEquiv_iff.mp h1 n).trans (qsEquiv_iff.mp h2 n)

theorem QsEquiv.map_get {α : Type} {a b : MemQueues} (h : QsEquiv a b) (f : MemQueue → α)
    (hf : ∀ x y, QEquiv x y → f x = f y) (n : Bytes) : (a.get? n).map f = (b.get? n).map f := by
  have := qsEquiv_iff.mp h n
  cases h1 : a.get? n <;> cases h2 : b.get? n <;> rw [h1, h2] at this
  · exact this.elim
  · exact this.elim
  · exact congrArg some (hf _ _ this)

theorem QsEquiv.get_some {a b : MemQueues} (h : QsEquiv a b) {n : Bytes} {x : MemQueue}
    (hx : a.get? n = some x) : ∃ y, b.get? n = some y ∧ QEquiv x y := by
  have := qsEquiv_iff.mp h n
  rw [hx] at this
  cases hb : b.get? n with
  | none => rw [hb] at this; exact this.elim
  | some y => rw [hb] at this; exact ⟨y, rfl, this⟩

theorem QsEquiv.get_none {a b : MemQueues} (h : QsEquiv a b) {n : Bytes}
    (hx : a.get? n = none) : b.get? n = none := by
  have := qsEquiv_iff.mp h n
  rw [hx] at this
  cases hb : b.get? n with
  | none => rfl
  | some y => rw [hb] at this; exact this.elim

theorem QsEquiv.contains {a b : MemQueues} (h : QsEquiv a b) (n : Bytes) :
    a.contains n = b.contains n := by
  rw [MemQueues.contains_isSome, MemQueues.contains_isSome]
  cases ha : a.get? n with
  | none => rw [h.get_none ha]
  | some x => obtain ⟨y, hy, _⟩ := h.get_some ha; rw [hy]; rfl

theorem QsEquiv.remove {a b : MemQueues} (h : QsEquiv a b) (n : Bytes) :
    QsEquiv (a.remove n) (b.remove n) :=
  qsEquiv_iff.mpr (AL.rel_remove (qsEquiv_iff.mp h) n trivial)

theorem QEquiv.appendRecord {a b a' : MemQueue} (h : QEquiv a b) {f p : Nat} {pl : Bytes}
    (ha : a.appendRecord f p pl = some a') :
    ∃ b', b.appendRecord f p pl = some b' ∧ QEquiv a' b' := by
  have hle := appendRecord_some_le ha
  unfold MemQueue.appendRecord at ha ⊢
  have h1 : ¬ p < a.nextPosition := Nat.not_lt_of_le hle
  have h2 : ¬ p < b.nextPosition := by rw [← h.2]; exact h1
  simp only [h1, if_false, Option.some.injEq] at ha
  simp only [h2, if_false]
  refine ⟨_, rfl, ?_⟩
  subst ha
  refine ⟨by simp only [h.1], ?_⟩
  rw [MemQueue.nextPosition_append, MemQueue.nextPosition_append]

theorem QEquiv.appendAll (f : Nat) (rs : List (Nat × Bytes)) : ∀ {a b a' : MemQueue}, QEquiv a b →
    Log.appendAll a f rs = some a' → ∃ b', Log.appendAll b f rs = some b' ∧ QEquiv a' b' := by
  induction rs with
  | nil => intro a b a' h ha; cases ha; exact ⟨b, rfl, h⟩
  | cons r rs ih =>
    intro a b a' h ha
    obtain ⟨p, pl⟩ := r
    simp only [Log.appendAll] at ha ⊢
    cases h1 : a.appendRecord f p pl with
    | none => rw [h1] at ha; cases ha
    | some a1 =>
      rw [h1] at ha
      obtain ⟨b1, hb1, he1⟩ := h.appendRecord h1
      rw [hb1]
      exact ih he1 ha

theorem QEquiv.truncateHead {a b : MemQueue} (h : QEquiv a b) (ha : QInv a) (hb : QInv b) (p : Nat) :
    QEquiv (a.truncateHead p).1 (b.truncateHead p).1 := by
  obtain ⟨a1, a2, _, _, _⟩ := MemQueue.truncateHead_spec a p ha.1 ha.2
  obtain ⟨b1, b2, _, _, _⟩ := MemQueue.truncateHead_spec b p hb.1 hb.2
  exact ⟨by rw [a1, b1, h.1], by rw [a2, b2, h.2]⟩

/-- every visible queue satisfies the queue invariant -/
def QsWF (qs : MemQueues) : Prop := ∀ n x, qs.get? n = some x → QInv x

theorem QsWF.nil : QsWF [] := by intro n x h; cases h

theorem QsWF.remove {qs : MemQueues} (h : QsWF qs) (n : Bytes) : QsWF (qs.remove n) := by
  intro m y hy
  by_cases hm : m = n
  · subst hm; rw [MemQueues.get?_remove_same] at hy; cases hy
  · rw [MemQueues.get?_remove_other _ _ _ hm] at hy; exact h m y hy

theorem QsWF.of_inv {l : Log} (h : Inv l) : QsWF l.queues := fun _ _ hg => h.2 _ (AL.get?_mem hg)

theorem replayEntry_wf {qs qs' : MemQueues} {f : Nat} {e : Entry} (h : QsWF qs)
    (hr : replayEntry qs f e = some qs') : QsWF qs' := by
  obtain ⟨h1, h2⟩ := replayEntry_get? hr
  intro n x hx
  by_cases hn : n = e.queue
  · rw [hn] at hx; rw [hx] at h1
    exact Entry.slot_pres QInv_withNextPosition (fun _ _ recs hx _ ha => appendAll_inv f recs hx ha)
      (fun _ p hx _ => truncateHead_inv hx p) (fun x hx => h _ x hx) h1
  · rw [h2 n hn] at hx; exact h n x hx

theorem replayEntry_rel {R : Option MemQueue → Option MemQueue → Prop} {f f' : Nat}
    (h0 : R none none) (hnone : ∀ {u v}, R u v → (u = none ↔ v = none))
    (hw : ∀ p, R (some (MemQueue.withNextPosition p)) (some (MemQueue.withNextPosition p)))
    (ht : ∀ {x y} (p : Nat), R (some x) (some y) → QInv x → QInv y →
      R (some (x.truncateHead p).1) (some (y.truncateHead p).1))
    (hap : ∀ {x y x'} (recs : List (Nat × Bytes)), R (some x) (some y) →
      Log.appendAll x f recs = some x' → ∃ y', Log.appendAll y f' recs = some y' ∧ R (some x') (some y'))
    {a b a' : MemQueues} {e : Entry} (h : ∀ n, R (a.get? n) (b.get? n)) (ha : QsWF a) (hb : QsWF b)
    (hr : replayEntry a f e = some a') :
    ∃ b', replayEntry b f' e = some b' ∧ ∀ n, R (a'.get? n) (b'.get? n) := by
  refine replayEntry_rel_slot h (fun u' hu => ?_) hr
  have hq := h e.queue
  cases e with
  | touch q p => cases hu; exact ⟨_, rfl, hw p⟩
  | delete q p => cases hu; exact ⟨_, rfl, h0⟩
  | truncate q p =>
    cases hu
    refine ⟨_, rfl, ?_⟩
    cases hx : a.get? q <;> cases hy : b.get? q <;> simp only [Entry.queue, hx, hy] at hq ⊢
    · exact hq
    · cases (hnone hq).mp rfl
    · cases (hnone hq).mpr rfl
    · exact ht p hq (ha _ _ hx) (hb _ _ hy)
  | append q pos recs =>
    simp only [Entry.slot, Entry.queue] at hu hq ⊢
    obtain ⟨x', hx', rfl⟩ := Option.map_eq_some_iff.mp hu
    have hxy : R (some ((a.get? q).getD (MemQueue.withNextPosition pos)))
        (some ((b.get? q).getD (MemQueue.withNextPosition pos))) := by
      cases hx : a.get? q <;> cases hy : b.get? q <;> simp only [hx, hy, Option.getD] at hq ⊢
      · exact hw pos
      · cases (hnone hq).mp rfl
      · cases (hnone hq).mpr rfl
      · exact hq
    obtain ⟨y', hy', hR⟩ := hap recs hxy hx'
    exact ⟨some y', by rw [hy']; rfl, hR⟩

theorem replayEntry_congr {a b a' : MemQueues} {f : Nat} {e : Entry} (h : QsEquiv a b)
    (ha : QsWF a) (hb : QsWF b) (hr : replayEntry a f e = some a') :
    ∃ b', replayEntry b f e = some b' ∧ QsEquiv a' b' := by
  obtain ⟨b', h1, h2⟩ := replayEntry_rel (R := OEquiv) (f' := f) trivial
    (fun {u v} huv => by cases u <;> cases v <;> simp_all [OEquiv])
    (fun p => QEquiv.refl _) (fun p hxy hx hy => QEquiv.truncateHead hxy hx hy p)
    (fun recs hxy hx => QEquiv.appendAll f recs hxy hx) (qsEquiv_iff.mp h) ha hb hr
  exact ⟨b', h1, qsEquiv_iff.mpr h2⟩

theorem replayJ_wf (F : Nat) (js : List JE) {qs qs' : MemQueues} (h : QsWF qs)
    (hr : replayJ F qs js = some qs') : QsWF qs' := by
  rw [replayJ_eq] at hr
  exact Rec.replayEntries_induct (P := QsWF) _ (fun _ _ => replayEntry_wf) h hr

theorem replayJ_congr (F : Nat) (js : List JE) {a b a' : MemQueues} (h : QsEquiv a b)
    (ha : QsWF a) (hb : QsWF b) (hr : replayJ F a js = some a') :
    ∃ b', replayJ F b js = some b' ∧ QsEquiv a' b' := by
  rw [replayJ_eq] at hr ⊢
  obtain ⟨b', h1, h2, _, _⟩ := Rec.replayEntries_rel (R := fun a b => QsEquiv a b ∧ QsWF a ∧ QsWF b)
    (S := (· = ·))
    (fun {a b a' x y} h hS hr => by
      subst hS
      obtain ⟨b', h1, h2⟩ := replayEntry_congr h.1 h.2.1 h.2.2 hr
      exact ⟨b', h1, h2, replayEntry_wf h.2.1 hr, replayEntry_wf h.2.2 h1⟩)
    (L.All2.refl (fun _ => rfl) _) ⟨h, ha, hb⟩ hr
  exact ⟨b', h1, h2⟩

end MRL
