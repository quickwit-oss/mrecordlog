/-
The reader over a stream spread over several files: block `k` of the stream lies in file
`F + k / g.K` (`blkAt`, `scanAt`), so the disk's file tags are those of the blocks and the reader
theorems of `LScanJ` apply; where the reader stops on a tape whose last header position lies in the
last file, and the recovered cursor.
-/
import MRL.Proofs.GTape
import MRL.Proofs.LScanJ

namespace MRL.G
open L

/-- block `k` of the stream `S` held by files `F, F+1, …` of `g.K` blocks each. The cost is that
    of `blocksOf`: open, read and one pending call (`pending + 2` with `pending = 1`) for the
    first block of a file, one read for the others. -/
def blkAt (g : Geom) (F : Nat) (S : Bytes) (k : Nat) : Blk :=
  ⟨F + k / g.K, k % g.K, (S.drop (k * g.B)).take g.B, if k % g.K = 0 then 3 else 1⟩

def blksFrom (g : Geom) (F : Nat) (S : Bytes) (k m : Nat) : List Blk :=
  (List.range' k m).map (blkAt g F S)

theorem blksFrom_succ (g : Geom) (F : Nat) (S : Bytes) (k m : Nat) :
    blksFrom g F S k (m + 1) = blkAt g F S k :: blksFrom g F S (k + 1) m := by
  simp [blksFrom, List.range'_succ]

theorem mul_fb (g : Geom) (a : Nat) : a * g.fileBytes = a * g.K * g.B := by
  unfold Geom.fileBytes; rw [Nat.mul_comm g.B g.K, Nat.mul_assoc]

/-- from the reader's end position to the recovered cursor -/
theorem end_decomp (g : Geom) (a W ke ce : Nat) (hlo : a * g.fileBytes ≤ W) (hke : ke < (a + 1) * g.K)
    (hce : ce < g.B ∨ (ce = g.B ∧ ke + 1 = (a + 1) * g.K)) (heq : ke * g.B + ce = W) :
    ke / g.K = a ∧ (ke % g.K) * g.B + ce = W - a * g.fileBytes := by
  have hK := g.hK
  have hsucc : (a + 1) * g.K = a * g.K + g.K := by rw [Nat.add_mul, Nat.one_mul]
  rw [mul_fb] at hlo
  -- block `ke` lies in file `a`
  have hlow : a * g.K ≤ ke := Nat.le_of_not_lt fun hn => by
    have h := Nat.le_trans (Nat.mul_le_mul_right g.B hn) hlo
    rw [Nat.succ_mul, ← heq] at h
    have hB := Nat.le_of_add_le_add_left h
    rcases hce with hce | ⟨_, hk1⟩
    · exact Nat.lt_irrefl _ (Nat.lt_of_lt_of_le hce hB)
    · omega
  have hka : ke / g.K = a := Nat.div_eq_of_lt_le hlow hke
  have hdm := Nat.div_add_mod ke g.K
  rw [hka, Nat.mul_comm] at hdm
  refine ⟨hka, ?_⟩
  have h1 : ke * g.B = a * g.K * g.B + (ke % g.K) * g.B := by
    conv => lhs; rw [← hdm]
    rw [Nat.add_mul]
  rw [mul_fb, ← heq, h1, Nat.add_assoc, Nat.add_sub_cancel_left]

theorem stopPos_last (g : Geom) {E n : Nat} (hn : 0 < n) (hlast : (n - 1) * g.fileBytes ≤ hdrPos g E)
    (hE : E ≤ n * g.fileBytes) :
    E ≤ stopPos g (n * g.K) E ∧ (n - 1) * g.fileBytes ≤ stopPos g (n * g.K) E ∧
      stopPos g (n * g.K) E ≤ n * g.fileBytes ∧
      (stopPos g (n * g.K) E = E ∨ stopPos g (n * g.K) E = hdrPos g E) := by
  have hBfb := B_le_fileBytes g
  have hhle := le_hdrPos g E
  unfold stopPos
  rw [← mul_fb]
  obtain ⟨a, rfl⟩ : ∃ a, n = a + 1 := Nat.exists_eq_succ_of_ne_zero (Nat.ne_of_gt hn)
  rw [Nat.add_sub_cancel] at hlast ⊢
  rw [Nat.add_mul, Nat.one_mul] at hE ⊢
  by_cases hc : g.B - E % g.B < 7 ∧ hdrPos g E < a * g.fileBytes + g.fileBytes
  · rw [if_pos hc]; exact ⟨hhle, hlast, Nat.le_of_lt hc.2, Or.inr rfl⟩
  · rw [if_neg hc]
    refine ⟨Nat.le_refl _, ?_, hE, Or.inl rfl⟩
    unfold hdrPos at hlast hc
    by_cases h7 : g.B - E % g.B < 7
    · -- the padding reaches the end of the tape, and is shorter than a file
      rw [if_pos h7] at hc
      have h := Nat.le_of_not_lt fun h => hc ⟨h7, h⟩
      exact Nat.le_of_add_le_add_right (Nat.le_trans h (Nat.add_le_add_left (Nat.le_trans (Nat.sub_le _ _) hBfb) E))
    · rw [if_neg h7] at hlast; exact hlast

theorem stopPos_eq_or_lt (g : Geom) (N E : Nat) : stopPos g N E = E ∨ stopPos g N E < N * g.B := by
  unfold stopPos
  split
  · rename_i h; exact Or.inr h.2
  · exact Or.inl rfl

theorem taggedB_blkAt (g : Geom) (F : Nat) (S : Bytes) (l : List TFrm) : ∀ p, Tagged g F p l →
    TaggedB g (blkAt g F S) p l := by
  induction l with
  | nil => intro p _; trivial
  | cons a l ih =>
    intro p h
    refine ⟨?_, ih _ h.2⟩
    rw [h.1]
    show F + hdrPos g p / (g.B * g.K) = F + hdrPos g p / g.B / g.K
    rw [Nat.div_div_eq_div_mul]

end MRL.G

namespace MRL.H
open Codec G

/-- the reader standing at cursor `c` of block `k` of the stream `S` (`N` blocks) -/
def scanAt (g : Geom) (F : Nat) (S : Bytes) (N k c : Nat) : List RdEv × EndPos :=
  scanB g (blkAt g F S k) c (blksFrom g F S (k + 1) (N - (k + 1)))

end MRL.H

namespace MRL.L
open Codec G H

theorem readS_layoutJ (g : Geom) (hB : g.B ≤ 65542) (F : Nat) (S : Bytes) (N : Nat)
    (hS : S.length = N * g.B) (hN : 0 < N) (ais : List AItm) (hf : Fits g 0 (frs ais))
    (hj : JOK g (N * g.B) 0 ais) (ht : Tagged g F 0 (tfs ais)) (z : Nat)
    (hT : S = flatJ g 0 ais ++ zeros z) :
    ∃ e, scanAt g F S N 0 0 = (evsJ ais, e) := by
  have h0 : 0 * g.B + 0 = 0 := by rw [Nat.zero_mul]
  obtain ⟨ke, ce, evT, _, _, _, a4, a5⟩ := scanFrom_tape g (blkAt g F S) S N (fun _ => rfl) hB hS 0 0 hN
    (Torn.Bpos g) ais hf (by rw [h0]; exact hj) (by rw [h0]; exact taggedB_blkAt g F S _ _ ht)
    [] z 0 (by rw [h0, hT]; simp [zeros]) (Or.inl rfl)
  rcases a4 with ⟨_, rfl⟩ | ⟨h, _⟩
  · exact ⟨_, by rw [← List.append_nil (evsJ ais)]; exact a5⟩
  · exact absurd rfl h

end MRL.L
