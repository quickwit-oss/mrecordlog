/-
The one fold of `replayEntry`: `Rec.replayEntries` over (file, entry) pairs. The other replays are
views of it: `replay` over record events folds the entries that decode (`Rec.replay_eq`), `replayJ F`
folds the journal entries located in files `≥ F`, attributed as the reader attributes them
(`viewJ`, `replayJ_eq`). The fold's lemmas are stated once — append, cons, a predicate kept by
every entry, a relation kept by every entry under possibly different attributions — and the
`replayJ_*` lemmas are their images.
-/
import MRL.Proofs.Journal
import MRL.Proofs.QSlot

namespace MRL.L

inductive All2 {α β : Type} (R : α → β → Prop) : List α → List β → Prop
  | nil : All2 R [] []
  | cons {a b l1 l2} : R a b → All2 R l1 l2 → All2 R (a :: l1) (b :: l2)

theorem All2.refl {α : Type} {R : α → α → Prop} (hR : ∀ a, R a a) : ∀ l : List α, All2 R l l
  | [] => .nil
  | a :: l => .cons (hR a) (All2.refl hR l)

theorem All2.map_left {α β γ : Type} {R : γ → β → Prop} (f : α → γ) : ∀ {l1 : List α} {l2 : List β},
    All2 R (l1.map f) l2 → All2 (fun a b => R (f a) b) l1 l2 := by
  intro l1
  induction l1 with
  | nil => intro l2 h; cases h; exact All2.nil
  | cons a l1 ih =>
    intro l2 h
    cases h with
    | cons hab htl => exact All2.cons hab (ih htl)

theorem All2.imp {α β : Type} {R S : α → β → Prop} (hRS : ∀ a b, R a b → S a b) {l1 : List α} {l2 : List β}
    (h : All2 R l1 l2) : All2 S l1 l2 := by
  induction h with
  | nil => exact All2.nil
  | cons hab _ ih => exact All2.cons (hRS _ _ hab) ih

theorem All2.mem_left {α β : Type} {R : α → β → Prop} {l1 : List α} {l2 : List β} (h : All2 R l1 l2) :
    ∀ a ∈ l1, ∃ b ∈ l2, R a b := by
  induction h with
  | nil => intro a ha; cases ha
  | cons hab _ ih =>
    intro a ha
    rcases List.mem_cons.mp ha with rfl | ha
    · exact ⟨_, List.mem_cons_self, hab⟩
    · obtain ⟨b, hb, hr⟩ := ih a ha
      exact ⟨b, List.mem_cons_of_mem _ hb, hr⟩

theorem All2.append {α β : Type} {R : α → β → Prop} {a : List α} {b : List β} {c : List α} {d : List β}
    (h1 : All2 R a b) (h2 : All2 R c d) : All2 R (a ++ c) (b ++ d) := by
  induction h1 with
  | nil => exact h2
  | cons hab _ ih => exact All2.cons hab ih

theorem All2.map_eq {α β γ : Type} {R : α → β → Prop} {A : List α} {B : List β} (hAB : All2 R A B)
    (f : α → γ) (f' : β → γ) (h : ∀ a b, R a b → f a = f' b) : A.map f = B.map f' := by
  induction hAB with
  | nil => rfl
  | cons hab _ ih => simp only [List.map_cons, h _ _ hab, ih]

end MRL.L

namespace MRL.Rec

def replayEntries (qs : MemQueues) : List (Nat × Entry) → Option MemQueues
  | [] => some qs
  | (f, e) :: es => (replayEntry qs f e).bind fun qs' => replayEntries qs' es

def decoded : List RecEv → List (Nat × Entry)
  | [] => []
  | .corrupt :: evs => decoded evs
  | .entry f b :: evs =>
    match Entry.decode b with
    | none => decoded evs
    | some e => (f, e) :: decoded evs

theorem decoded_map_entry {α : Type} (f : α → Nat) (e : α → Entry) (xs : List α)
    (h : ∀ x ∈ xs, Entry.decode (e x).encode = some (e x)) :
    decoded (xs.map fun x => RecEv.entry (f x) (e x).encode) = xs.map fun x => (f x, e x) := by
  induction xs with
  | nil => rfl
  | cons x xs ih =>
    simp only [List.map_cons, decoded, h x List.mem_cons_self]
    rw [ih fun y hy => h y (List.mem_cons_of_mem _ hy)]

theorem replay_skip (qs : MemQueues) (file : Nat) (bytes : Bytes) (evs : List RecEv)
    (hd : Entry.decode bytes = none) : replay qs (.entry file bytes :: evs) = replay qs evs := by
  simp only [replay, hd]

theorem replay_entry (qs : MemQueues) (file : Nat) (bytes : Bytes) (evs : List RecEv) (e : Entry)
    (hd : Entry.decode bytes = some e) :
    replay qs (.entry file bytes :: evs) = (replayEntry qs file e).bind fun qs' => replay qs' evs := by
  simp only [replay, hd]

theorem replay_eq (evs : List RecEv) : ∀ qs, replay qs evs = replayEntries qs (decoded evs) := by
  induction evs with
  | nil => intro qs; rfl
  | cons ev evs ih =>
    intro qs
    cases ev with
    | corrupt => simp only [replay, decoded]; exact ih qs
    | entry f b =>
      simp only [replay, decoded]
      cases Entry.decode b with
      | none => exact ih qs
      | some e =>
        simp only [replayEntries]
        cases replayEntry qs f e with
        | none => rfl
        | some qs' => exact ih qs'

theorem replayEntries_append (a b : List (Nat × Entry)) : ∀ qs,
    replayEntries qs (a ++ b) = (replayEntries qs a).bind fun qs' => replayEntries qs' b := by
  induction a with
  | nil => intro qs; rfl
  | cons fe a ih =>
    intro qs
    obtain ⟨f, e⟩ := fe
    simp only [List.cons_append, replayEntries]
    cases replayEntry qs f e with
    | none => rfl
    | some qs' => exact ih qs'

theorem replayEntries_append_some {a b : List (Nat × Entry)} {qs qs' : MemQueues}
    (h : replayEntries qs (a ++ b) = some qs') :
    ∃ qs1, replayEntries qs a = some qs1 ∧ replayEntries qs1 b = some qs' := by
  rw [replayEntries_append] at h
  cases h1 : replayEntries qs a with
  | none => rw [h1] at h; cases h
  | some qs1 => rw [h1] at h; exact ⟨qs1, rfl, h⟩

theorem replayEntries_cons_some {qs qs' : MemQueues} {f : Nat} {e : Entry} {es : List (Nat × Entry)}
    (h : replayEntries qs ((f, e) :: es) = some qs') :
    ∃ qs1, replayEntry qs f e = some qs1 ∧ replayEntries qs1 es = some qs' := by
  simp only [replayEntries] at h
  cases h1 : replayEntry qs f e with
  | none => rw [h1] at h; cases h
  | some qs1 => rw [h1] at h; exact ⟨qs1, rfl, h⟩

theorem replayEntries_prefix {P : List (Nat × Entry) → MemQueues → Prop} (es : List (Nat × Entry))
    (step : ∀ done fe rest {qs qs'}, es = done ++ fe :: rest → P done qs →
      replayEntry qs fe.1 fe.2 = some qs' → P (done ++ [fe]) qs')
    {qs qs' : MemQueues} (h0 : P [] qs) (hr : replayEntries qs es = some qs') : P es qs' := by
  suffices h : ∀ (rest done : List (Nat × Entry)) {qs qs'}, es = done ++ rest → P done qs →
      replayEntries qs rest = some qs' → P es qs' from h es [] rfl h0 hr
  intro rest
  induction rest with
  | nil => intro done qs qs' he h hr; cases hr; rw [he, List.append_nil]; exact h
  | cons fe rest ih =>
    intro done qs qs' he h hr
    obtain ⟨qs1, h1, h2⟩ := replayEntries_cons_some hr
    exact ih (done ++ [fe]) (by rw [he, List.append_assoc]; rfl) (step done fe rest he h h1) h2

theorem replayEntries_induct {P : MemQueues → Prop} (es : List (Nat × Entry))
    (step : ∀ {qs qs'} fe, fe ∈ es → P qs → replayEntry qs fe.1 fe.2 = some qs' → P qs')
    {qs qs' : MemQueues} (h : P qs) (hr : replayEntries qs es = some qs') : P qs' :=
  replayEntries_prefix (P := fun _ => P) es
    (fun _ fe _ _ _ he => step fe (he ▸ List.mem_append_right _ List.mem_cons_self)) h hr

/-- `S` relates the entries pairwise — the same entry under two attributions, say; the second fold
    succeeds when the first does -/
theorem replayEntries_rel {R : MemQueues → MemQueues → Prop} {S : Nat × Entry → Nat × Entry → Prop}
    (step : ∀ {a b a' x y}, R a b → S x y → replayEntry a x.1 x.2 = some a' →
      ∃ b', replayEntry b y.1 y.2 = some b' ∧ R a' b') :
    ∀ {es es' : List (Nat × Entry)}, L.All2 S es es' →
      ∀ {a b a'}, R a b → replayEntries a es = some a' →
      ∃ b', replayEntries b es' = some b' ∧ R a' b' := by
  intro es es' hes
  induction hes with
  | nil => intro a b a' h hr; cases hr; exact ⟨b, rfl, h⟩
  | @cons x y es es' hxy _ ih =>
    intro a b a' h hr
    obtain ⟨a1, h1, h2⟩ := replayEntries_cons_some hr
    obtain ⟨b1, hb1, hR1⟩ := step h hxy h1
    obtain ⟨b', hb', hR'⟩ := ih hR1 h2
    exact ⟨b', by obtain ⟨f', e'⟩ := y; simp only [replayEntries, hb1, Option.bind_some, hb'], hR'⟩

end MRL.Rec

namespace MRL
open Rec

def viewJ (F : Nat) (J : List JE) : List (Nat × Entry) :=
  (J.filter fun j => decide (F ≤ j.loc)).map fun j => (max j.attr F, j.e)

theorem viewJ_append (F : Nat) (a b : List JE) : viewJ F (a ++ b) = viewJ F a ++ viewJ F b := by
  simp only [viewJ, List.filter_append, List.map_append]

theorem viewJ_skip (F : Nat) (J : List JE) (h : ∀ j ∈ J, j.loc < F) : viewJ F J = [] := by
  simp only [viewJ, List.map_eq_nil_iff, List.filter_eq_nil_iff, decide_eq_true_eq]
  exact fun j hj => Nat.not_le_of_lt (h j hj)

theorem viewJ_ge (F : Nat) (J : List JE) (h : ∀ j ∈ J, F ≤ j.loc) :
    viewJ F J = J.map fun j => (max j.attr F, j.e) := by
  simp only [viewJ]
  rw [List.filter_eq_self.mpr fun j hj => decide_eq_true (h j hj)]

theorem replayJ_eq (F : Nat) : ∀ (J : List JE) (qs : MemQueues),
    replayJ F qs J = replayEntries qs (viewJ F J) := by
  intro J
  induction J with
  | nil => intro qs; rfl
  | cons j J ih =>
    intro qs
    by_cases h : j.loc < F
    · have hd : decide (F ≤ j.loc) = false := decide_eq_false (Nat.not_le.mpr h)
      simp only [replayJ, if_pos h, viewJ, List.filter_cons, hd, Bool.false_eq_true, if_false]
      exact ih qs
    · have hd : decide (F ≤ j.loc) = true := decide_eq_true (Nat.not_lt.mp h)
      simp only [replayJ, if_neg h, viewJ, List.filter_cons, hd, if_true, List.map_cons, replayEntries]
      cases replayEntry qs (max j.attr F) j.e with
      | none => rfl
      | some qs' => exact ih qs'

theorem replayJ_append (F : Nat) (js js' : List JE) (qs : MemQueues) :
    replayJ F qs (js ++ js') = (replayJ F qs js).bind fun qs' => replayJ F qs' js' := by
  simp only [replayJ_eq, viewJ_append, replayEntries_append]

theorem replayJ_skip (F : Nat) (qs : MemQueues) (js : List JE) (h : ∀ j ∈ js, j.loc < F) :
    replayJ F qs js = some qs := by
  rw [replayJ_eq, viewJ_skip F js h]; rfl

theorem replayJ_cons_ge (F : Nat) (qs : MemQueues) (j : JE) (js : List JE) (h : F ≤ j.loc) :
    replayJ F qs (j :: js) = (replayEntry qs (max j.attr F) j.e).bind fun qs' => replayJ F qs' js := by
  simp only [replayJ]; rw [if_neg (Nat.not_lt_of_le h)]

theorem replayJ_ge (F : Nat) (js : List JE) (qs : MemQueues) (h : ∀ j ∈ js, F ≤ j.loc) :
    replayJ F qs js = replayEntries qs (js.map fun j => (max j.attr F, j.e)) := by
  rw [replayJ_eq, viewJ_ge F js h]

theorem replayJ_filter (F : Nat) (J : List JE) (qs : MemQueues) :
    replayJ F qs J = replayJ F qs (J.filter fun j => decide (F ≤ j.loc)) := by
  simp only [replayJ_eq, viewJ, List.filter_filter, Bool.and_self]

end MRL
