/-
C09 (replay level): the discipline of API-generated journals. Replaying the WHOLE journal from
the empty map goes through the in-memory queues of the history (`Run`), and every entry is one
the API writes in the state it is written in (`OkEntry`): an append or a truncate addresses an
existing queue, a touch is a creation (`touch q 0` of a missing queue) or a GC touch (of an empty
queue, at its next position).
-/
import MRL.Proofs.JStep

namespace MRL.Drop
open Log C05

/-- exact replay of a piece of journal on the in-memory queues, every entry `OkEntry` -/
inductive Run : MemQueues → List JE → MemQueues → Prop
  | nil {lq : MemQueues} : Run lq [] lq
  | cons {lq lq' lq'' : MemQueues} {j : JE} {js : List JE} :
      OkEntry lq j.e → replayEntry lq j.attr j.e = some lq' → Run lq' js lq'' → Run lq (j :: js) lq''

theorem Run.append {a b c : MemQueues} {js js' : List JE} (h1 : Run a js b) (h2 : Run b js' c) :
    Run a (js ++ js') c := by
  induction h1 with
  | nil => exact h2
  | cons ho hr _ ih => exact Run.cons ho hr (ih h2)

theorem Run.replayEntries {a b : MemQueues} {J : List JE} (h : Run a J b) :
    Rec.replayEntries a (J.map fun j => (j.attr, j.e)) = some b := by
  induction h with
  | nil => rfl
  | cons _ hr _ ih => simp only [List.map_cons, Rec.replayEntries, hr, Option.bind_some, ih]

theorem run_touches (g : Geom) (names : List Bytes) : ∀ l : Log, (l.queues.map (·.1)).Nodup →
    (∀ n ∈ names, n ∈ l.queues.emptyNames) → Run l.queues (touchesJ g l names) l.queues := by
  induction names with
  | nil => intro l _ _; exact Run.nil
  | cons n ns ih =>
    intro l hn hsub
    rw [touchesJ_cons]
    obtain ⟨q, hg, he⟩ := (mem_emptyNames hn n).mp (hsub n List.mem_cons_self)
    have hnext : touchNext l n = q.nextPosition := by simp only [touchNext, hg]
    have hq : (Log.writeEntry g l (.touch n (touchNext l n))).1.queues = l.queues := Step.writeEntry_queues g l _
    have hrest := ih (Log.writeEntry g l (.touch n (touchNext l n))).1 (by rw [hq]; exact hn)
      (by rw [hq]; exact fun m hm => hsub m (List.mem_cons_of_mem _ hm))
    rw [hq] at hrest
    refine Run.cons (lq' := l.queues) ?_ ?_ hrest
    · exact Or.inr ⟨q, hg, he, hnext.symm⟩
    · simp only [je, replayEntry, hnext, ackPosition_noop hg he]

theorem run_gc (g : Geom) (l : Log) (order : List Bytes) (hn : (l.queues.map (·.1)).Nodup) :
    Run l.queues (gcJ g l order) l.queues := by
  rcases runGc_shape g l order hn with ⟨hj, _⟩ | ⟨names, rem, del, hj, _, _, hnames⟩
  · rw [hj]; exact Run.nil
  · rw [hj]; exact run_touches g names l hn (fun n h => (hnames n).mp h)

theorem run_step (g : Geom) (l : Log) (hI : Inv l) (c : Call) (tick : Bool) (order : List Bytes) :
    Run l.queues (l.stepJ g c order) (l.step g c tick order).1.queues := by
  rcases H.step_full g l c tick order with
    ⟨hj, hl, _⟩ | ⟨e, qs', _, hok, hre, _, (⟨hj, hl, _⟩ | ⟨hj, hl, _⟩)⟩ <;> rw [hj, hl]
  · exact Run.nil
  · exact Run.cons hok hre Run.nil
  · rw [Step.runGc_queues]
    exact Run.cons hok hre (run_gc g { (Log.writeEntry g l e).1 with queues := qs' } order
      (hI.replayEntry (l' := { (Log.writeEntry g l e).1 with queues := qs' }) hre).1)

theorem Run.split {c : MemQueues} (js js' : List JE) : ∀ {a : MemQueues}, Run a (js ++ js') c →
    ∃ b, Run a js b ∧ Run b js' c := by
  induction js with
  | nil => intro a h; exact ⟨a, Run.nil, h⟩
  | cons j js ih =>
    intro a h
    cases h with
    | cons ho hr hrest =>
      obtain ⟨b, h1, h2⟩ := ih hrest
      exact ⟨b, Run.cons ho hr h1, h2⟩

theorem Run.wf {a b : MemQueues} {js : List JE} (h : Run a js b) (hw : QsWF a) : QsWF b :=
  Rec.replayEntries_induct (P := QsWF) _ (fun _ _ => replayEntry_wf) hw h.replayEntries

end MRL.Drop
