/-
One event of the real log inside the window of pending unlinks, seen on the disk that still holds collected
files and by the log that still tracks them (`PDC.virt lo l`; invariant `L.CInvA`). A call (`virt_callA`):
the writer does not look at the files in front, so the crash analysis of a write applies to the virtual log;
after the touches of a GC pass only flush/fsync effects follow until the `fsync(dir)` that closes the
window. A restart (`virt_relog`): the real log re-read from the real disk `D`, put in front of the collected
files `lo`, satisfies `CInvA` on the disk `Dv` that still holds them — the reader of `Dv` ends exactly where
the reader of `D` ends (`PDA.recoverPre_suffix`), and its queues have the abstract state of the real ones.
-/
import MRL.Proofs.StepVirt
import MRL.Proofs.LReadSuffix
import MRL.Proofs.PDHist

namespace MRL.PDA
open G H Log Buf C05 L PX PDC

/-- the disk after a prefix of `A ++ B` that contains no `fsync(dir)`: after a prefix of `A`, or after `A` and a
    prefix of `B` -/
theorem take_append_cases {P : Image → Prop} {Dv : Image} {A B : List Effect}
    (hA : ∀ p, hasDS (A.take p) = false → P (applyOsOps Dv (directOps (A.take p))))
    (hB : hasDS A = false → ∀ q, hasDS (B.take q) = false →
      P (applyOsOps (applyOsOps Dv (directOps A)) (directOps (B.take q))))
    (p : Nat) (hp : hasDS ((A ++ B).take p) = false) : P (applyOsOps Dv (directOps ((A ++ B).take p))) := by
  by_cases hpl : p ≤ A.length
  · rw [List.take_append_of_le_length hpl] at hp ⊢
    exact hA p hp
  · have hle := Nat.le_of_not_le hpl
    rw [List.take_append, List.take_of_length_le hle, hasDS_append, Bool.or_eq_false_iff] at hp
    rw [List.take_append, List.take_of_length_le hle, directOps_append, applyOsOps_append]
    exact hB hp.1 _ hp.2

theorem persist_take_sync (l : Log) (R : List Effect) (k : Nat)
    (h : hasDS ((l.persistEffects .flushAndFsync ++ R).take k) = false) :
    IsSyncL ((l.persistEffects .flushAndFsync ++ R).take k) := by
  have hE : l.persistEffects .flushAndFsync ++ R = .flush :: .fsyncFile l.cur :: .fsyncDir :: R := rfl
  rw [hE] at h ⊢
  rcases k with _ | _ | _ | k
  · exact fun _ hv => nomatch hv
  · exact fun v hv => Or.inl (List.mem_singleton.mp hv)
  · intro v hv
    rcases List.mem_cons.mp hv with rfl | hv
    · exact Or.inl rfl
    · exact Or.inr (Or.inl ⟨_, List.mem_singleton.mp hv⟩)
  · cases h

theorem virt_write (g : Geom) (hB : g.B ≤ 65542) (lo : List Nat) {l : Log} {Jv : List JE} {Dv : Image}
    (hv : CInvA g (virt lo l) Jv Dv) (hwv : ∀ j ∈ Jv, C07.WF j.e) (hlo : ∀ f ∈ lo, f ≤ l.cur)
    (e : Entry) (qs' : MemQueues) (hewf : EntryWF e) (hre : replayEntry l.queues l.cur e = some qs')
    (hinv : Inv ({ (Log.writeEntry g l e).1 with queues := qs' } : Log))
    (hwe : C07.WF (l.je g e).e) (htorn : TornEffs (Log.writeEntry g l e).2.1) :
    (∀ w X, CutW w Dv (Log.writeEntry g l e).2.1 X → XRes g l.queues qs' X) ∧
    CInvA g (virt lo { (Log.writeEntry g l e).1 with queues := qs' }) (Jv ++ [l.je g e])
      (applyOsOps Dv (directOps (Log.writeEntry g l e).2.1)) ∧
    (∀ j ∈ Jv ++ [l.je g e], C07.WF j.e) ∧
    ∀ f ∈ lo, f ≤ ({ (Log.writeEntry g l e).1 with queues := qs' } : Log).cur := by
  have hwv1 := writeEntry_virt g lo l e hlo
  have heffv : (Log.writeEntry g (virt lo l) e).2.1 = (Log.writeEntry g l e).2.1 := by rw [hwv1]
  have hinv2 : Inv ({ (Log.writeEntry g (virt lo l) e).1 with queues := qs' } : Log) :=
    Inv.of_queues (l := ({ (Log.writeEntry g l e).1 with queues := qs' } : Log)) rfl hinv
  have hwf' : ∀ j ∈ Jv ++ [l.je g e], C07.WF j.e := by
    intro j hj
    rcases List.mem_append.mp hj with hj | hj
    · exact hwv j hj
    · rw [List.mem_singleton.mp hj]; exact hwe
  refine ⟨fun w X hX => ?_, ?_, hwf', fun f hf => Nat.le_trans (hlo f hf) (Step.writeEntry_cur_le g l e)⟩
  · refine XInvRes.xres (Carry.wfOnly.entry_phase_crash g hB hv e qs' hewf hre hwv ?_
      (by rw [heffv]; exact htorn) w X (by rw [heffv]; exact hX))
    rw [je_virt g lo l e hlo]
    exact hwf'
  · have := cinva_write g hv e qs' hewf hre hinv2
    rw [je_virt g lo l e hlo, heffv, hwv1] at this
    exact this

/-- the GC pass of the real log on the disk that still holds the older files, up to the `fsync(dir)` that
    closes the window: touches, then `flush, fsync(file)` -/
theorem virt_gc (g : Geom) (hB : g.B ≤ 65542) (lo : List Nat) {l : Log} {Jv : List JE} {Dv : Image}
    (hv : CInvA g (virt lo l) Jv Dv) (hwv : ∀ j ∈ Jv, C07.WF j.e) (hlo : ∀ f ∈ lo, f ≤ l.cur)
    (order : List Bytes) (hwe : ∀ j ∈ gcJ g l order, C07.WF j.e) (htorn : TornEffs (runGc g l order).2.1) :
    (∀ p, hasDS ((runGc g l order).2.1.take p) = false →
      XRes g l.queues l.queues (applyOsOps Dv (directOps ((runGc g l order).2.1.take p)))) ∧
    (hasDS (runGc g l order).2.1 = false → runGc g l order = (l, [], 0)) := by
  rcases runGc_full g l order with ⟨hr1, _⟩ | ⟨names, hnm, hr1, hr2⟩
  · rw [hr1]
    refine ⟨fun p _ => ?_, fun _ => rfl⟩
    simp only [List.take_nil]
    exact cinva_xres g hB (l := virt lo l) hv hwv
  · rw [hr1] at hwe
    rw [hr2] at htorn ⊢
    simp only [List.append_assoc] at htorn ⊢
    have htv := writeTouches_virt g lo names l hlo
    have hphase : ∀ X, CutW true Dv (writeTouches g l names).2.1 X → XRes g l.queues l.queues X := by
      intro X hX
      refine XInvRes.xres (Carry.wfOnly.touch_phase_crash g hB (l := virt lo l) hv names
        (fun n hn => (mem_gcNames hv.inv.1 order n).mp (hnm ▸ hn)) (fun i j hj => ?_) ?_ true X ?_)
      · rcases List.mem_append.mp hj with hj | hj
        · exact hwv j hj
        · rw [touchesJ_virt g lo names l hlo] at hj
          exact hwe j (List.mem_of_mem_take hj)
      · rw [htv]; exact torn_left htorn
      · rw [htv]; exact hX
    refine ⟨take_append_cases (fun p _ => hphase _ (CutW.of_take true _ p Dv)) (fun _ q hq => ?_), fun hno => ?_⟩
    · rw [syncL_apply (persist_take_sync _ _ q hq)]
      exact hphase _ (CutW.full true _ Dv)
    · rw [hasDS_append, hasDS_append, show hasDS (Log.persistEffects _ .flushAndFsync) = true from rfl, Bool.true_or,
        Bool.or_true] at hno
      cases hno

/-- The effects are followed up to their first `fsync(dir)` (`hasDS`): it makes the pending unlinks durable, the
    files `lo` are gone for good and the analysis of the real log takes over. Up to there every prefix opens to the
    queues before or after the call; a call without one hands the virtual log on, under `CInvA` again. -/
theorem virt_callA (g : Geom) (hB : g.B ≤ 65542) (lo : List Nat) {l : Log} {Jv : List JE} {Dv : Image}
    (hv : CInvA g (virt lo l) Jv Dv) (hwv : ∀ j ∈ Jv, C07.WF j.e) (hlo : ∀ f ∈ lo, f ≤ l.cur)
    (c : Call) (tick : Bool) (order : List Bytes) (hwe : ∀ j ∈ l.stepJ g c order, C07.WF j.e)
    (htorn : TornEffs (l.step g c tick order).2.2) :
    (∀ p, hasDS ((l.step g c tick order).2.2.take p) = false →
      XRes g l.queues (l.step g c tick order).1.queues
        (applyOsOps Dv (directOps ((l.step g c tick order).2.2.take p)))) ∧
    (hasDS (l.step g c tick order).2.2 = false →
      ∃ Jv', CInvA g (virt lo (l.step g c tick order).1) Jv'
          (applyOsOps Dv (directOps (l.step g c tick order).2.2)) ∧
        (∀ j ∈ Jv', C07.WF j.e) ∧ ∀ f ∈ lo, f ≤ (l.step g c tick order).1.cur) := by
  have hI : Inv l := Inv.of_queues (l := virt lo l) (l' := l) rfl hv.inv
  rcases step_full g l c tick order with
    ⟨hj, hl, hsy⟩ | ⟨e, qs', sy, hok, hre, hsy, (⟨hj, hl, heff⟩ | ⟨hj, hl, heff⟩)⟩
  · -- nothing written
    rw [hl]
    exact ⟨fun p _ => by rw [syncL_apply (hsy.take p)]; exact cinva_xres g hB (l := virt lo l) hv hwv,
      fun _ => ⟨Jv, by rw [syncL_apply hsy]; exact hv, hwv, hlo⟩⟩
  · -- one entry, then flush/fsync effects
    rw [heff] at htorn
    obtain ⟨hph, hc2, hw2, hlo2⟩ := virt_write g hB lo hv hwv hlo e qs' hok.wf hre (Rec.QsInv_replayEntry hre hI)
      (hwe _ (by rw [hj]; exact List.mem_singleton.mpr rfl)) (torn_left htorn)
    rw [hl, heff]
    refine ⟨take_append_cases (fun p _ => hph true _ (CutW.of_take true _ p Dv)) (fun _ q _ => ?_),
      fun _ => ⟨_, ?_, hw2, hlo2⟩⟩
    · rw [syncL_apply (hsy.take q)]
      exact hph true _ (CutW.full true _ Dv)
    · rw [directOps_append, applyOsOps_append, syncL_apply hsy]
      exact hc2
  · -- one entry, then a GC pass of the real log from the state the entry leaves, then flush/fsync effects
    have hq' : (runGc g { (Log.writeEntry g l e).1 with queues := qs' } order).1.queues = qs' :=
      Step.runGc_queues g _ order
    rw [heff, List.append_assoc] at htorn
    obtain ⟨hph, hc2, hw2, hlo2⟩ := virt_write g hB lo hv hwv hlo e qs' hok.wf hre (Rec.QsInv_replayEntry hre hI)
      (hwe _ (by rw [hj]; exact List.mem_cons_self)) (torn_left htorn)
    obtain ⟨ga, gb⟩ := virt_gc g hB lo hc2 hw2 hlo2 order
      (fun j hj' => hwe j (by rw [hj]; exact List.mem_cons_of_mem _ hj')) (torn_left (torn_right htorn))
    rw [hl, heff, List.append_assoc]
    refine ⟨fun p hp => ?_, fun hno => ?_⟩
    · rw [hq']
      refine take_append_cases (fun p _ => hph true _ (CutW.of_take true _ p Dv))
        (fun _ => take_append_cases (fun q hq => (ga q hq).of_same (.inr (.refl _))) (fun hG q _ => ?_)) p hp
      rw [syncL_apply (hsy.take q)]
      have := ga _ (by rw [List.take_length]; exact hG)
      rw [List.take_length] at this
      exact this.of_same (.inr (.refl _))
    · rw [hasDS_append, hasDS_append, Bool.or_eq_false_iff, Bool.or_eq_false_iff] at hno
      rw [gb hno.2.1, List.nil_append, directOps_append, applyOsOps_append, syncL_apply hsy]
      exact ⟨_, hc2, hw2, hlo2⟩

theorem dshape_of_cinva {g : Geom} {l : Log} {J : List JE} {D : Image} (h : CInvA g l J D) :
    DShape g.fileBytes l D := by
  obtain ⟨init, t, x, res, ais, lead, gs, hx⟩ := h.disk
  exact dshape_of_tape hx.tape h.files

/-- the files `lo` come first on the disk -/
theorem split_filter (lo : List Nat) (pre : List Nat) (Dv : Image) (rest : List Nat)
    (hk : Dv.map (·.1) = pre ++ rest) (hp : ∀ k ∈ pre, k ∈ lo) (hr : ∀ k ∈ rest, k ∉ lo) :
    Dv = Dv.filter (fun kv => lo.contains kv.1) ++ Dv.filter (fun kv => !lo.contains kv.1) ∧
    (Dv.filter (fun kv => lo.contains kv.1)).map (·.1) = pre := by
  obtain ⟨A, B, rfl, hA, hB⟩ : ∃ A B, Dv = A ++ B ∧ A.map (·.1) = pre ∧ B.map (·.1) = rest :=
    ⟨Dv.take pre.length, Dv.drop pre.length, (List.take_append_drop _ _).symm,
      by rw [List.map_take, hk, List.take_append_of_le_length (Nat.le_refl _), List.take_length],
      by rw [List.map_drop, hk, List.drop_append_of_le_length (Nat.le_refl _), List.drop_length, List.nil_append]⟩
  have hin : ∀ kv ∈ A, lo.contains kv.1 = true := fun kv h => by
    simpa using hp _ (hA ▸ List.mem_map_of_mem h)
  have hout : ∀ kv ∈ B, lo.contains kv.1 = false := fun kv h => by
    simpa using hr _ (hB ▸ List.mem_map_of_mem h)
  have e1 : (A ++ B).filter (fun kv => lo.contains kv.1) = A := by
    rw [List.filter_append, List.filter_eq_self.mpr hin,
      List.filter_eq_nil_iff.mpr (fun kv h => by rw [hout kv h]; simp), List.append_nil]
  have e2 : (A ++ B).filter (fun kv => !lo.contains kv.1) = B := by
    rw [List.filter_append, List.filter_eq_nil_iff.mpr (fun kv h => by rw [hin kv h]; simp),
      List.filter_eq_self.mpr (fun kv h => by rw [hout kv h]; rfl), List.nil_append]
  rw [e1, e2]
  exact ⟨rfl, hA⟩

theorem prepare_id (g : Geom) (f : Nat) (c : Bytes) (rest : Image) (h : g.B ≤ c.length) :
    (prepareImage g ((f, c) :: rest)).1 = (f, c) :: rest := by
  simp only [prepareImage]
  rw [if_neg (Nat.not_lt.mpr h)]

/-- the first file of a disk described by `DShape` is full: `open` does not touch the image -/
theorem prepare_dshape (g : Geom) {l : Log} {D : Image} (h : DShape g.fileBytes l D) : (prepareImage g D).1 = D := by
  have hBle := B_le_fileBytes g
  cases D with
  | nil =>
    have := h.fw.cur_mem
    rw [h.files] at this; cases this
  | cons kv rest =>
    obtain ⟨f, c⟩ := kv
    apply prepare_id
    have hle : f ≤ l.cur := by
      have h1 := head_le_of_mem h.fw.sorted h.fw.cur_mem
      rw [h.files] at h1
      exact h1
    have := h.full (f, c) List.mem_cons_self hle
    exact Nat.le_trans hBle (Nat.le_of_eq this.symm)

theorem virt_eq (lo : List Nat) (lp lpv : Log) (h1 : lpv.files = lo ++ lp.files) (h2 : lpv.cur = lp.cur)
    (h3 : lpv.off = lp.off) : virt lo lp = { lpv with queues := lp.queues, policy := lp.policy } := by
  cases lp; cases lpv
  simp only at h1 h2 h3
  subst h1; subst h2; subst h3
  rfl

theorem virt_relog (g : Geom) (hB : g.B ≤ 65542) (lo : List Nat) {l : Log} {J Jv : List JE} {D Dv : Image}
    (hc : CInvX g l J D) (hw : ∀ j ∈ J, C07.WF j.e)
    (hv : CInvA g (virt lo l) Jv Dv) (hwv : ∀ j ∈ Jv, C07.WF j.e)
    (hrel : D = Dv.filter (fun kv => !lo.contains kv.1))
    (policy : Policy) {lp : Log} {e0 : List Effect} {io : Nat}
    (hrec : recoverPre g D policy none = .ok (lp, e0, io)) :
    (∃ Jv', CInvA g (virt lo lp) Jv' Dv ∧ (∀ j ∈ Jv', C07.WF j.e)) ∧ (∀ f ∈ lo, f ≤ lp.cur) ∧
      AbsEq lp.queues l.queues := by
  have hfb := fileBytes_pos g
  obtain ⟨Jv', lpv, iov, hrecv, hcv, hwv', habv⟩ := cinva_open g hB hv hwv policy
  obtain ⟨J', lp', io', hrec', hc', _, hab', _, _⟩ := open_okX g hB hc hw policy
  rw [hrec] at hrec'
  injection hrec' with hrec'
  simp only [Prod.mk.injEq] at hrec'
  obtain ⟨hlp, _, _⟩ := hrec'
  subst hlp
  have dV := dshape_of_cinva hv
  have dVp := dshape_of_cinvx hcv
  have dR := dshape_of_cinvx hc
  have dRp := dshape_of_cinvx hc'
  obtain ⟨hfv, hcurv⟩ := dshape_same hfb dV dVp
  obtain ⟨hfr, hcurr⟩ := dshape_same hfb dR dRp
  have hcm : l.cur ∈ l.files := hc.jinv.h.files.cur_mem
  have hsorted : (lo ++ l.files).Pairwise (· < ·) := hv.files.sorted
  have hlt : ∀ f ∈ lo, ∀ k ∈ l.files, f < k := (List.pairwise_append.mp hsorted).2.2
  have hnotin : ∀ k ∈ l.files, k ∉ lo := fun k hk hm => Nat.lt_irrefl _ (hlt k hm k hk)
  have hkeys : Dv.map (·.1) = lo ++ l.files := dV.files.symm
  obtain ⟨hsplit, hLo⟩ := split_filter lo lo Dv l.files hkeys (fun _ h => h) hnotin
  rw [← hrel] at hsplit
  generalize hLoE : Dv.filter (fun kv => lo.contains kv.1) = Lo at hsplit hLo
  -- the two readers end at the same place
  have hpv : (prepareImage g (Lo ++ D)).1 = Lo ++ D := by rw [← hsplit]; exact prepare_dshape g dV
  have hpr : (prepareImage g D).1 = D := prepare_dshape g dR
  rw [hsplit] at hrecv
  obtain ⟨hcur, hoff⟩ := recoverPre_suffix g Lo D policy policy hpv hpr hrecv hrec (by
    rw [hLo, hcurv]
    exact hnotin _ hcm)
  have hfiles : lpv.files = lo ++ lp.files := by rw [hfv, hfr]; rfl
  have hEq : virt lo lp = { lpv with queues := lp.queues, policy := lp.policy } := virt_eq lo lp lpv hfiles hcur hoff
  have habq : AbsEq lpv.queues lp.queues := habv.trans hab'.symm
  refine ⟨⟨Jv', ?_, hwv'⟩, ?_, hab'⟩
  · rw [hEq]
    obtain ⟨qs, r1, r2, r3⟩ := hcv.jinv.rep
    refine ⟨⟨hcv.jinv.h.files.sorted, hcv.jinv.h.files.cur_mem⟩, Inv.of_queues (l := lp) rfl hc'.jinv.h.inv,
      hcv.jinv.chunk, ⟨qs, r1, (AbsEq.of_qsEquiv r2).trans habq, r3⟩, ?_⟩
    obtain ⟨init, t, x, res, ais, lead, gs, hx⟩ := hcv.disk
    exact ⟨init, t, x, res, ais, lead, gs, hx.congr rfl rfl rfl⟩
  · intro f hf
    rw [← hcur, hcurv]
    exact Nat.le_of_lt (hlt f hf _ hcm)

end MRL.PDA
