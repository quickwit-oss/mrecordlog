/-
`MemQueue` operations against their specification counterparts, under the queue invariant
(records strictly sorted by position, all at or above `start`), stated with explicit hypotheses.
The invariant itself is defined here, for a queue (`C05.QInv`) and for a log (`C05.Inv`: distinct
names, every queue well formed), with the operations that keep it.
-/
import MRL.Proofs.QAssoc
import MRL.Proofs.QueueLemmas

namespace MRL
namespace MemQueue

def Sorted (rs : List Rec) : Prop := rs.Pairwise (fun a b => a.pos < b.pos)

theorem dropLast_append_of_getLast? {α} {l : List α} {a : α} (h : l.getLast? = some a) :
    l.dropLast ++ [a] = l := by
  obtain ⟨ys, rfl⟩ := List.getLast?_eq_some_iff.mp h
  simp

theorem nextPosition_nil (s : Nat) : ({ start := s, recs := [] } : MemQueue).nextPosition = s := rfl

theorem nextPosition_append (s : Nat) (rs : List Rec) (r : Rec) :
    ({ start := s, recs := rs ++ [r] } : MemQueue).nextPosition = r.pos + 1 := by
  simp [nextPosition]

theorem lt_nextPosition (q : MemQueue) (hs : Sorted q.recs) :
    ∀ r ∈ q.recs, r.pos < q.nextPosition := by
  intro r hr
  unfold nextPosition
  cases hl : q.recs.getLast? with
  | none =>
    rw [List.getLast?_eq_none_iff] at hl
    rw [hl] at hr; cases hr
  | some last =>
    have hsplit := dropLast_append_of_getLast? hl
    simp only
    unfold Sorted at hs
    rw [← hsplit] at hs hr
    rw [List.pairwise_append] at hs
    rw [List.mem_append] at hr
    cases hr with
    | inl h => exact Nat.lt_succ_of_lt (hs.2.2 r h last (List.mem_singleton.mpr rfl))
    | inr h => rw [List.mem_singleton.mp h]; exact Nat.lt_succ_self _

theorem start_le_nextPosition (q : MemQueue) (hs : Sorted q.recs)
    (hst : ∀ r ∈ q.recs, q.start ≤ r.pos) : q.start ≤ q.nextPosition := by
  cases hr : q.recs with
  | nil => unfold nextPosition; simp [hr]
  | cons a rs =>
    have ha : a ∈ q.recs := by rw [hr]; exact List.mem_cons_self
    exact Nat.le_trans (hst a ha) (Nat.le_of_lt (lt_nextPosition q hs a ha))

theorem dropLastHandle_map (rs : List Rec) (f : Nat) :
    (dropLastHandle rs f).map (fun r => (r.pos, r.payload)) = rs.map (fun r => (r.pos, r.payload)) := by
  unfold dropLastHandle
  split
  · rename_i r hl
    split
    · have hsplit := dropLast_append_of_getLast? hl
      conv => rhs; rw [← hsplit]
      simp
    · rfl
  · rfl

theorem dropLastHandle_pos (rs : List Rec) (f : Nat) :
    (dropLastHandle rs f).map (·.pos) = rs.map (·.pos) := by
  have h := congrArg (List.map Prod.fst) (dropLastHandle_map rs f)
  simpa [List.map_map, Function.comp_def] using h

theorem sorted_iff_pos (rs : List Rec) : Sorted rs ↔ (rs.map (·.pos)).Pairwise (· < ·) := by
  unfold Sorted; rw [List.pairwise_map]

theorem appendRecord_spec (q : MemQueue) (file pos : Nat) (pl : Bytes)
    (hs : Sorted q.recs) (hst : ∀ r ∈ q.recs, q.start ≤ r.pos) (hp : q.nextPosition ≤ pos) :
    ∃ q', q.appendRecord file pos pl = some q' ∧
      q'.recs.map (fun r => (r.pos, r.payload)) = q.recs.map (fun r => (r.pos, r.payload)) ++ [(pos, pl)] ∧
      q'.nextPosition = pos + 1 ∧ Sorted q'.recs ∧ (∀ r ∈ q'.recs, q'.start ≤ r.pos) := by
  have hnlt : ¬ pos < q.nextPosition := Nat.not_lt_of_le hp
  refine ⟨_, by simp only [appendRecord, hnlt, if_false]; rfl, ?_, ?_, ?_, ?_⟩
  · simp only [List.map_append, dropLastHandle_map, List.map_cons, List.map_nil]
  · exact nextPosition_append _ _ _
  · rw [sorted_iff_pos]
    simp only [List.map_append, dropLastHandle_pos, List.map_cons, List.map_nil]
    rw [List.pairwise_append]
    refine ⟨(sorted_iff_pos _).mp hs, List.pairwise_singleton _ _, ?_⟩
    intro a ha b hb
    simp only [List.mem_singleton] at hb; subst hb
    simp only [List.mem_map] at ha
    obtain ⟨r, hr, rfl⟩ := ha
    exact Nat.lt_of_lt_of_le (lt_nextPosition q hs r hr) hp
  · have hsn := start_le_nextPosition q hs hst
    intro r hr
    -- the positions are the old ones and `pos`; the start moves only if there was no record
    have h1 := List.mem_map_of_mem (f := Rec.pos) hr
    simp only [List.map_append, dropLastHandle_pos, List.map_cons, List.map_nil, List.mem_append,
      List.mem_map, List.mem_singleton] at h1
    simp only
    rcases h1 with ⟨r', hr', he⟩ | he
    · have h0 : ¬ (q.start = 0 ∧ q.recs.isEmpty) := fun h0 => by
        rw [List.isEmpty_iff.mp h0.2] at hr'; cases hr'
      rw [if_neg h0, ← he]
      exact hst r' hr'
    · rw [he]
      by_cases h0 : q.start = 0 ∧ q.recs.isEmpty
      · rw [if_pos h0]; exact Nat.le_refl _
      · rw [if_neg h0]; exact Nat.le_trans hsn hp

end MemQueue

namespace Log

theorem numberFrom_length (pos : Nat) (pls : List Bytes) : (numberFrom pos pls).length = pls.length := by
  induction pls generalizing pos with
  | nil => rfl
  | cons p ps ih => simp [numberFrom, ih]

theorem numberFrom_positions (p : Nat) (pls : List Bytes) :
    (numberFrom p pls).map (·.1) = List.range' p pls.length := by
  induction pls generalizing p with
  | nil => rfl
  | cons x xs ih => simp [numberFrom, ih, List.range'_succ]

theorem numberFrom_payloads (p : Nat) (pls : List Bytes) :
    (numberFrom p pls).map (·.2) = pls := by
  induction pls generalizing p with
  | nil => rfl
  | cons x xs ih => simp [numberFrom, ih]

theorem numberFrom_bounds (p : Nat) (pls : List Bytes) :
    ∀ r ∈ numberFrom p pls, p ≤ r.1 ∧ r.1 < p + pls.length := by
  intro r hr
  have : r.1 ∈ (numberFrom p pls).map (·.1) := List.mem_map_of_mem hr
  rw [numberFrom_positions, List.mem_range'_1] at this
  exact this

theorem mem_numberFrom (pls : List Bytes) (pos : Nat) (r : Nat × Bytes) (hr : r ∈ numberFrom pos pls) :
    pos ≤ r.1 ∧ r.1 < pos + pls.length ∧ r.2 ∈ pls := by
  have h2 : r.2 ∈ (numberFrom pos pls).map (·.2) := List.mem_map_of_mem hr
  rw [numberFrom_payloads] at h2
  exact ⟨(numberFrom_bounds pos pls r hr).1, (numberFrom_bounds pos pls r hr).2, h2⟩

theorem appendAll_spec (file : Nat) (pls : List Bytes) : ∀ (mq : MemQueue) (pos : Nat),
    MemQueue.Sorted mq.recs → (∀ r ∈ mq.recs, mq.start ≤ r.pos) → mq.nextPosition ≤ pos →
    ∃ mq', appendAll mq file (numberFrom pos pls) = some mq' ∧
      mq'.recs.map (fun r => (r.pos, r.payload)) =
        mq.recs.map (fun r => (r.pos, r.payload)) ++ numberFrom pos pls ∧
      (pls ≠ [] → mq'.nextPosition = pos + pls.length) ∧
      MemQueue.Sorted mq'.recs ∧ (∀ r ∈ mq'.recs, mq'.start ≤ r.pos) := by
  induction pls with
  | nil =>
    intro mq pos hs hst _
    exact ⟨mq, rfl, by simp [numberFrom], by simp, hs, hst⟩
  | cons p ps ih =>
    intro mq pos hs hst hp
    obtain ⟨q1, h1, hr1, hn1, hs1, hst1⟩ := MemQueue.appendRecord_spec mq file pos p hs hst hp
    obtain ⟨q2, h2, hr2, hn2, hs2, hst2⟩ := ih q1 (pos + 1) hs1 hst1 (Nat.le_of_eq hn1)
    refine ⟨q2, ?_, ?_, ?_, hs2, hst2⟩
    · simp only [numberFrom, appendAll, h1, Option.bind_some]; exact h2
    · rw [hr2, hr1, List.append_assoc]; rfl
    · intro _
      cases ps with
      | nil =>
        simp only [numberFrom, appendAll, Option.some.injEq] at h2
        subst h2; exact hn1
      | cons p' ps' =>
        rw [hn2 (List.cons_ne_nil _ _), Nat.add_assoc, Nat.add_comm 1]; rfl

end Log

namespace MemQueue

theorem getLast?_dropWhile {α} (P : α → Bool) (r : α) (hP : P r = false) : ∀ l : List α,
    l.getLast? = some r → (l.dropWhile P).getLast? = some r := by
  intro l
  induction l with
  | nil => intro h; cases h
  | cons a l ih =>
    intro h
    simp only [List.dropWhile_cons]
    split
    · rename_i hPa
      cases l with
      | nil =>
        simp only [List.getLast?_singleton, Option.some.injEq] at h
        subst h; rw [hP] at hPa; cases hPa
      | cons b l' =>
        rw [List.getLast?_cons_cons] at h
        exact ih h
    · exact h

theorem truncateHead_of_le (q : MemQueue) (p : Nat) (hs : Sorted q.recs) (hp : q.start ≤ p) :
    (q.truncateHead p).1.recs = q.recs.filter (fun r => p < r.pos) ∧
    (q.truncateHead p).1.nextPosition = max q.nextPosition (p + 1) ∧
    (q.truncateHead p).2 = (q.recs.filter (fun r => r.pos ≤ p)).length ∧
    (q.truncateHead p).1.start = p + 1 := by
  have hlt := lt_nextPosition q hs
  unfold truncateHead
  rw [if_neg (Nat.not_lt_of_le hp)]
  by_cases h2 : p + 1 ≥ q.nextPosition
  · have hf : ∀ r ∈ q.recs, r.pos ≤ p := fun r hr =>
      Nat.le_of_lt_succ (Nat.lt_of_lt_of_le (hlt r hr) h2)
    rw [if_pos h2]
    refine ⟨?_, (Nat.max_eq_right h2).symm, ?_, rfl⟩
    · exact (List.filter_eq_nil_iff.mpr fun r hr hd =>
        Nat.not_lt_of_le (hf r hr) (of_decide_eq_true hd)).symm
    · exact congrArg List.length
        (List.filter_eq_self.mpr fun r hr => decide_eq_true (hf r hr)).symm
  · rw [if_neg h2]
    simp only
    have hclosed := sorted_le_closed Rec.pos hs p
    have hp' : p + 1 < q.nextPosition := Nat.lt_of_not_le h2
    refine ⟨drop_takeWhile_le Rec.pos hs p, ?_, ?_, trivial⟩
    · rw [drop_takeWhile_length, Nat.max_eq_left (Nat.le_of_lt hp')]
      unfold nextPosition at hp' ⊢
      cases hl : q.recs.getLast? with
      | none => rw [hl] at hp'; exact absurd (Nat.lt_of_succ_lt hp') (Nat.not_lt_of_le hp)
      | some last =>
        rw [hl] at hp'
        rw [getLast?_dropWhile (fun r : Rec => decide (r.pos ≤ p)) last
          (decide_eq_false (Nat.not_le_of_lt (Nat.lt_of_succ_lt_succ hp'))) q.recs hl]
    · exact congrArg List.length (takeWhile_eq_filter_of_pairwise _ _ hclosed)

theorem truncateHead_spec (q : MemQueue) (p : Nat)
    (hs : Sorted q.recs) (hst : ∀ r ∈ q.recs, q.start ≤ r.pos) :
    (q.truncateHead p).1.recs = q.recs.filter (fun r => p < r.pos) ∧
    (q.truncateHead p).1.nextPosition = max q.nextPosition (p + 1) ∧
    (q.truncateHead p).2 = (q.recs.filter (fun r => r.pos ≤ p)).length ∧
    Sorted (q.truncateHead p).1.recs ∧
    (∀ r ∈ (q.truncateHead p).1.recs, (q.truncateHead p).1.start ≤ r.pos) := by
  by_cases h : q.start > p
  · have hf : ∀ r ∈ q.recs, p < r.pos := fun r hr => Nat.lt_of_lt_of_le h (hst r hr)
    unfold truncateHead
    rw [if_pos h]
    refine ⟨?_, (Nat.max_eq_left (Nat.le_trans h (start_le_nextPosition q hs hst))).symm, ?_, hs, hst⟩
    · exact (List.filter_eq_self.mpr fun r hr => decide_eq_true (hf r hr)).symm
    · rw [List.filter_eq_nil_iff.mpr fun r hr hd => Nat.not_le_of_lt (hf r hr) (of_decide_eq_true hd)]
      rfl
  · obtain ⟨h1, h2, h3, h4⟩ := truncateHead_of_le q p hs (Nat.le_of_not_lt h)
    refine ⟨h1, h2, h3, ?_, ?_⟩
    · rw [h1]; exact hs.sublist List.filter_sublist
    · rw [h1, h4]; exact fun r hr => of_decide_eq_true (List.mem_filter.mp hr).2

theorem sorted_take_drop {rs : List Rec} (hs : Sorted rs) (p : Nat) :
    rs.filter (fun r => r.pos ≤ p) = rs.take (rs.filter (fun r => r.pos ≤ p)).length ∧
    rs.filter (fun r => p < r.pos) = rs.drop (rs.filter (fun r => r.pos ≤ p)).length := by
  have h1 := takeWhile_eq_filter_of_pairwise _ _ (sorted_le_closed Rec.pos hs p)
  rw [← drop_takeWhile_le Rec.pos hs p, ← h1]
  refine ⟨?_, rfl⟩
  conv => rhs; arg 2; rw [← List.takeWhile_append_dropWhile (p := fun r : Rec => decide (r.pos ≤ p)) (l := rs)]
  rw [List.take_left']
  rfl

theorem Bound.okHi_mono (hi : Bound) {a b : Nat} (h : a ≤ b) : hi.okHi b = true → hi.okHi a = true := by
  cases hi with
  | unbounded => exact id
  | incl n => exact fun hb => decide_eq_true (Nat.le_trans h (of_decide_eq_true hb))
  | excl n => exact fun hb => decide_eq_true (Nat.lt_of_le_of_lt h (of_decide_eq_true hb))

theorem Bound.okLo_mono (lo : Bound) {a b : Nat} (h : a ≤ b) : lo.okLo a = true → lo.okLo b = true := by
  cases lo with
  | unbounded => exact id
  | incl n => exact fun ha => decide_eq_true (Nat.le_trans (of_decide_eq_true ha) h)
  | excl n => exact fun ha => decide_eq_true (Nat.lt_of_lt_of_le (of_decide_eq_true ha) h)

theorem drop_takeWhile_filter {α} (G F : α → Bool) (l : List α)
    (hG : l.Pairwise (fun a b => G b = true → G a = true))
    (hF : l.Pairwise (fun a b => G a = false → F b = true → F a = true))
    (hFG : ∀ a ∈ l, F a = true → G a = false) :
    (l.drop (l.takeWhile G).length).takeWhile F = l.filter F := by
  rw [drop_takeWhile_length, dropWhile_eq_filter_of_pairwise _ _ hG]
  have hp : (l.filter (fun a => !G a)).Pairwise (fun a b => F b = true → F a = true) := by
    have h1 := hF.sublist (List.filter_sublist (p := fun a => !G a))
    refine List.Pairwise.imp_of_mem ?_ h1
    intro a b ha _ hab
    have := (List.mem_filter.mp ha).2
    simp only [Bool.not_eq_eq_eq_not, Bool.not_true] at this
    exact hab this
  rw [takeWhile_eq_filter_of_pairwise _ _ hp, List.filter_filter]
  apply List.filter_congr
  intro a ha
  cases hFa : F a
  · rfl
  · simp [hFG a ha hFa]

theorem range_recs (q : MemQueue) (hs : Sorted q.recs) (lo hi : Bound) :
    q.range lo hi =
      (q.recs.filter (fun r => lo.okLo r.pos && hi.okHi r.pos)).map (fun r => (r.pos, r.payload)) := by
  unfold range
  refine congrArg (List.map fun r : Rec => (r.pos, r.payload)) ?_
  cases lo with
  | unbounded =>
    simp only [List.drop_zero]
    apply takeWhile_eq_filter_of_pairwise
    refine hs.imp ?_
    intro a b hab
    simp only [Bound.okLo, Bool.true_and]
    exact Bound.okHi_mono hi (Nat.le_of_lt hab)
  | incl n =>
    simp only
    apply drop_takeWhile_filter (fun r : Rec => decide (r.pos < n))
    · refine hs.imp ?_
      exact fun hab hb => decide_eq_true (Nat.lt_trans hab (of_decide_eq_true hb))
    · refine hs.imp ?_
      intro a b hab ha
      simp only [Bound.okLo, Bool.and_eq_true, decide_eq_true_eq, decide_eq_false_iff_not] at ha ⊢
      intro ⟨_, h2⟩
      exact ⟨Nat.le_of_not_lt ha, Bound.okHi_mono hi (Nat.le_of_lt hab) h2⟩
    · intro a _
      simp only [Bound.okLo, Bool.and_eq_true, decide_eq_true_eq, decide_eq_false_iff_not]
      exact fun h => Nat.not_lt_of_le h.1
  | excl n =>
    simp only
    apply drop_takeWhile_filter (fun r : Rec => decide (r.pos ≤ n))
    · refine hs.imp ?_
      exact fun hab hb => decide_eq_true (Nat.le_trans (Nat.le_of_lt hab) (of_decide_eq_true hb))
    · refine hs.imp ?_
      intro a b hab ha
      simp only [Bound.okLo, Bool.and_eq_true, decide_eq_true_eq, decide_eq_false_iff_not] at ha ⊢
      intro ⟨_, h2⟩
      exact ⟨Nat.lt_of_not_le ha, Bound.okHi_mono hi (Nat.le_of_lt hab) h2⟩
    · intro a _
      simp only [Bound.okLo, Bool.and_eq_true, decide_eq_true_eq, decide_eq_false_iff_not]
      exact fun h => Nat.not_le_of_lt h.1

end MemQueue

namespace C05

/-- per-queue invariant: positions strictly increasing, none below `start` -/
def QInv (q : MemQueue) : Prop :=
  q.recs.Pairwise (fun a b => a.pos < b.pos) ∧ ∀ r ∈ q.recs, q.start ≤ r.pos

/-- log invariant: distinct queue names, every queue well formed -/
def Inv (l : Log) : Prop :=
  (l.queues.map (·.1)).Nodup ∧ ∀ kv ∈ l.queues, QInv kv.2

theorem Inv.of_queues {l l' : Log} (h : l'.queues = l.queues) (hI : Inv l) : Inv l' := by
  unfold Inv; rw [h]; exact hI

theorem Inv.get {l : Log} (hI : Inv l) {q : Bytes} {mq : MemQueue}
    (hg : l.queues.get? q = some mq) : QInv mq :=
  hI.2 _ (AL.get?_mem hg)

theorem QInv_empty : QInv {} := ⟨List.Pairwise.nil, fun _ h => by cases h⟩

end C05

open C05 in
theorem QInv_withNextPosition (p : Nat) : QInv (MemQueue.withNextPosition p) :=
  ⟨List.Pairwise.nil, fun _ h => by cases h⟩

theorem appendRecord_some_le {q q' : MemQueue} {f p : Nat} {pl : Bytes}
    (h : q.appendRecord f p pl = some q') : q.nextPosition ≤ p := by
  unfold MemQueue.appendRecord at h
  by_cases hlt : p < q.nextPosition
  · rw [if_pos hlt] at h; cases h
  · exact Nat.le_of_not_lt hlt

theorem appendRecord_next {x x' : MemQueue} {f pos : Nat} {pl : Bytes}
    (h : x.appendRecord f pos pl = some x') : x'.nextPosition = pos + 1 := by
  unfold MemQueue.appendRecord at h
  by_cases hp : pos < x.nextPosition
  · rw [if_pos hp] at h; cases h
  · rw [if_neg hp] at h; cases h
    exact MemQueue.nextPosition_append _ _ _

open C05 in
theorem appendRecord_inv {q q' : MemQueue} {f p : Nat} {pl : Bytes} (hq : QInv q)
    (h : q.appendRecord f p pl = some q') : QInv q' := by
  obtain ⟨q2, h2, _, _, hs, hst⟩ :=
    MemQueue.appendRecord_spec q f p pl hq.1 hq.2 (appendRecord_some_le h)
  rw [h] at h2; cases h2
  exact ⟨hs, hst⟩

open C05 in
theorem appendAll_inv (f : Nat) (rs : List (Nat × Bytes)) : ∀ {q q' : MemQueue}, QInv q →
    Log.appendAll q f rs = some q' → QInv q' := by
  induction rs with
  | nil => intro q q' hq h; cases h; exact hq
  | cons r rs ih =>
    intro q q' hq h
    obtain ⟨p, pl⟩ := r
    simp only [Log.appendAll] at h
    cases h1 : q.appendRecord f p pl with
    | none => rw [h1] at h; cases h
    | some q1 => rw [h1] at h; exact ih (appendRecord_inv hq h1) h

theorem appendAll_sorted (f : Nat) : ∀ (b : List (Nat × Bytes)) {q q' : MemQueue},
    Log.appendAll q f b = some q' →
    (b.map (·.1)).Pairwise (· < ·) ∧ ∀ r ∈ b, q.nextPosition ≤ r.1 := by
  intro b
  induction b with
  | nil => intro q q' _; exact ⟨List.Pairwise.nil, fun _ h => by cases h⟩
  | cons r rs ih =>
    intro q q' h
    obtain ⟨p, pl⟩ := r
    simp only [Log.appendAll] at h
    cases h1 : q.appendRecord f p pl with
    | none => rw [h1] at h; cases h
    | some q1 =>
      rw [h1] at h
      obtain ⟨i1, i2⟩ := ih h
      have hle := appendRecord_some_le h1
      rw [appendRecord_next h1] at i2
      refine ⟨?_, ?_⟩
      · simp only [List.map_cons, List.pairwise_cons]
        refine ⟨?_, i1⟩
        intro x hx
        obtain ⟨r', hr', rfl⟩ := List.mem_map.mp hx
        exact i2 r' hr'
      · intro r' hr'
        rcases List.mem_cons.mp hr' with rfl | hr'
        · exact hle
        · exact Nat.le_trans hle (Nat.le_of_succ_le (i2 r' hr'))

open C05 in
theorem truncateHead_inv {a : MemQueue} (ha : QInv a) (p : Nat) : QInv (a.truncateHead p).1 := by
  obtain ⟨_, _, _, h4, h5⟩ := MemQueue.truncateHead_spec a p ha.1 ha.2
  exact ⟨h4, h5⟩

end MRL
