/-
Key lookup in the specification's association list after `set` / `remove` (`Spec.get?/set/remove` are
definitionally the generic operations of `AL`; no lemma needs the keys to be distinct), and
`Spec.step` seen from one queue: an append either leaves the state as it is or extends the queue
at a position at or above its next one; no call touches a queue it is not addressed to.
-/
import MRL.Spec.QueueMap
import MRL.Proofs.QAssoc

namespace MRL.Spec

theorem get?_nil (q : Bytes) : get? [] q = none := rfl

theorem get?_set_same (s : Spec) (q : Bytes) (v : SQueue) : get? (s.set q v) q = some v :=
  AL.get?_set_same s q v

theorem get?_set_other (s : Spec) (q q' : Bytes) (v : SQueue) (hne : q' ≠ q) :
    get? (s.set q v) q' = get? s q' := AL.get?_set_other s q q' v hne

theorem get?_remove_same (s : Spec) (q : Bytes) : get? (s.remove q) q = none :=
  AL.get?_remove_same s q

theorem get?_remove_other (s : Spec) (q q' : Bytes) (hne : q' ≠ q) :
    get? (s.remove q) q' = get? s q' := AL.get?_remove_other s q q' hne

end MRL.Spec

namespace MRL

def Call.queue? : Call → Option Bytes
  | .create q | .delete q | .append q _ _ | .truncate q _ => some q
  | .persist _ => none

namespace Spec

/-- which of the two cases applies, the outcome and `p` depend on `sq` alone, not on the rest of the
    state: hence the `∀ s` inside. For `pos? = none` the proof takes `p = sq.next`; the statement
    keeps only `sq.next ≤ p`, which is what C04 and C18 use. -/
theorem step_append_cases (sq : SQueue) (q : Bytes) (pos? : Option Nat) (pls : List Bytes) :
    (∃ o, (∀ last, o ≠ .appended (some last)) ∧
      ∀ s : Spec, s.get? q = some sq → step s (.append q pos? pls) = (s, o)) ∨
    (∃ p, sq.next ≤ p ∧ (∀ p0, pos? = some p0 → p = p0) ∧ pls ≠ [] ∧
      ∀ s : Spec, s.get? q = some sq → step s (.append q pos? pls) =
        (s.set q { next := p + pls.length, recs := sq.recs ++ Log.numberFrom p pls },
         .appended (some (p + pls.length - 1)))) := by
  have hne : ¬ pls.isEmpty = true → pls ≠ [] := fun h e => h (by rw [e]; rfl)
  cases pos? with
  | none =>
    by_cases h3 : pls.isEmpty = true
    · exact .inl ⟨.appended none, nofun, fun s hg => by simp only [step, hg, if_pos h3]⟩
    · exact .inr ⟨sq.next, Nat.le_refl _, nofun, hne h3,
        fun s hg => by simp only [step, hg, if_neg h3]⟩
  | some p =>
    by_cases h1 : p + 1 = sq.next
    · exact .inl ⟨.appended none, nofun, fun s hg => by simp only [step, hg, if_pos h1]⟩
    by_cases h2 : p < sq.next
    · exact .inl ⟨.past, nofun, fun s hg => by simp only [step, hg, if_neg h1, if_pos h2]⟩
    by_cases h3 : pls.isEmpty = true
    · exact .inl ⟨.appended none, nofun,
        fun s hg => by simp only [step, hg, if_neg h1, if_neg h2, if_pos h3]⟩
    · exact .inr ⟨p, Nat.le_of_not_lt h2, fun _ h => Option.some.inj h, hne h3,
        fun s hg => by simp only [step, hg, if_neg h1, if_neg h2, if_neg h3]⟩

theorem step_get?_other (s : Spec) (c : Call) (q : Bytes) (h : c.queue? ≠ some q) :
    (step s c).1.get? q = s.get? q := by
  cases c with
  | persist a => rfl
  | create q' =>
    have hne : q ≠ q' := fun e => h (by rw [e]; rfl)
    simp only [step]
    split
    · rfl
    · exact get?_set_other _ _ _ _ hne
  | delete q' =>
    have hne : q ≠ q' := fun e => h (by rw [e]; rfl)
    simp only [step]
    split
    · rfl
    · exact get?_remove_other _ _ _ hne
  | truncate q' p =>
    have hne : q ≠ q' := fun e => h (by rw [e]; rfl)
    simp only [step]
    split
    · rfl
    · exact get?_set_other _ _ _ _ hne
  | append q' pos? pls =>
    have hne : q ≠ q' := fun e => h (by rw [e]; rfl)
    cases hg : s.get? q' with
    | none => simp only [step, hg]
    | some sq =>
      rcases step_append_cases sq q' pos? pls with ⟨o, _, hs⟩ | ⟨p, _, _, _, hs⟩
      · rw [hs s hg]
      · rw [hs s hg]; exact get?_set_other _ _ _ _ hne

end Spec
end MRL
