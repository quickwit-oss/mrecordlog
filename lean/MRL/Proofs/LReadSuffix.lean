/-
Scan splitting at a file boundary (used by `PDA.virt_relog`, MRL/Proofs/PDWinEv.lean).

`open` reads block after block and restarts at cursor 0 of every block; so, without I/O faults, when
the scan of `Lo ++ D` ends in a file of `D` it ends exactly where the scan of `D` alone ends:
`scan_suffix` (blocks), `recoverPre_suffix` (`recoverPre`: same current file and same offset).
`reader_cur`: on a disk described by `L.XInvX` the reader ends in the writer's current file.
-/
import MRL.Proofs.LRead

namespace MRL.PDA
open G L

/-- the same block up to the I/O cost -/
def BlkEq (a b : Blk) : Prop := a.file = b.file ∧ a.idx = b.idx ∧ a.data = b.data

theorem BlkEq.refl (a : Blk) : BlkEq a a := ⟨rfl, rfl, rfl⟩

theorem all2_blkEq_refl : ∀ l : List Blk, All2 BlkEq l l
  | [] => All2.nil
  | b :: l => All2.cons (BlkEq.refl b) (all2_blkEq_refl l)

theorem scan_zero {g : Geom} {trail io : Nat} {cur : Blk} {c : Nat} {rest : List Blk} {fe : List FrameEv} {c' : Nat}
    {evs : List RdEv} {e : EndPos} {io1 : Nat} (hsb : scanBlock g cur.data c = (fe, .zeroHeader c'))
    (h : scanBlocks g none trail io cur c rest = some (evs, e, io1)) :
    evs = tagEvs cur.file fe ∧ e = ⟨cur.file, cur.idx, c'⟩ := by
  rw [Rec.scanBlocks_zero g none trail io cur c rest fe c' hsb] at h
  injection h with h
  simp only [Prod.mk.injEq] at h
  exact ⟨h.1.symm, h.2.1.symm⟩

theorem scan_next {g : Geom} {trail io : Nat} {cur : Blk} {c : Nat} {b : Blk} {rest : List Blk} {fe : List FrameEv}
    {c' : Nat} {evs : List RdEv} {e : EndPos} {io1 : Nat} (hsb : scanBlock g cur.data c = (fe, .needNext c'))
    (h : scanBlocks g none trail io cur c (b :: rest) = some (evs, e, io1)) :
    ∃ evs2, scanBlocks g none trail (io + b.cost) b 0 rest = some (evs2, e, io1) ∧
      evs = tagEvs cur.file fe ++ evs2 := by
  rw [Rec.scanBlocks_next_cons g none trail io cur c b rest fe c' hsb] at h
  simp only [Rec.ioFails_none, Bool.false_eq_true, if_false] at h
  cases hin : scanBlocks g none trail (io + b.cost) b 0 rest with
  | none => rw [hin] at h; cases h
  | some r =>
    obtain ⟨evs2, e2, io2⟩ := r
    rw [hin] at h
    simp only [Option.some.injEq, Prod.mk.injEq] at h
    exact ⟨evs2, by rw [h.2.1, h.2.2], h.1.symm⟩

theorem scan_congr (g : Geom) (trail trail' : Nat) : ∀ (rest rest' : List Blk), All2 BlkEq rest rest' →
    ∀ (io io' : Nat) (cur cur' : Blk) (c : Nat) (evs : List RdEv) (e : EndPos) (io1 : Nat), BlkEq cur cur' →
      scanBlocks g none trail io cur c rest = some (evs, e, io1) →
      ∃ io2, scanBlocks g none trail' io' cur' c rest' = some (evs, e, io2) := by
  intro rest rest' hrel
  induction hrel with
  | nil =>
    intro io io' cur cur' c evs e io1 hb h
    obtain ⟨h1, h2, h3⟩ := hb
    rcases hsb : scanBlock g cur.data c with ⟨fe, be⟩
    have hsb' : scanBlock g cur'.data c = (fe, be) := by rw [← h3]; exact hsb
    cases be with
    | zeroHeader c' =>
      obtain ⟨rfl, rfl⟩ := scan_zero hsb h
      exact ⟨io', by rw [Rec.scanBlocks_zero g none trail' io' cur' c [] fe c' hsb', h1, h2]⟩
    | needNext c' =>
      rw [Rec.scanBlocks_next_nil g none trail io cur c fe c' hsb] at h
      rw [Rec.scanBlocks_next_nil g none trail' io' cur' c fe c' hsb']
      simp only [Rec.ioFails_none, Bool.false_eq_true, if_false, Option.some.injEq, Prod.mk.injEq] at h ⊢
      exact ⟨_, by rw [← h.1, h1], by rw [← h.2.1, h1, h2], rfl⟩
  | @cons b b' rest rest' hbb _ ih =>
    intro io io' cur cur' c evs e io1 hb h
    obtain ⟨h1, h2, h3⟩ := hb
    rcases hsb : scanBlock g cur.data c with ⟨fe, be⟩
    have hsb' : scanBlock g cur'.data c = (fe, be) := by rw [← h3]; exact hsb
    cases be with
    | zeroHeader c' =>
      obtain ⟨rfl, rfl⟩ := scan_zero hsb h
      exact ⟨io', by rw [Rec.scanBlocks_zero g none trail' io' cur' c _ fe c' hsb', h1, h2]⟩
    | needNext c' =>
      obtain ⟨evs2, hin, rfl⟩ := scan_next hsb h
      obtain ⟨io3, h3'⟩ := ih (io + b.cost) (io' + b'.cost) b b' 0 evs2 e io1 hbb hin
      rw [Rec.scanBlocks_next_cons g none trail' io' cur' c b' rest' fe c' hsb']
      simp only [Rec.ioFails_none, Bool.false_eq_true, if_false]
      rw [h3', h1]
      exact ⟨io3, rfl⟩

theorem scan_suffix (g : Geom) (trail : Nat) (b : Blk) (rest2 : List Blk) : ∀ (rest1 : List Blk)
    (io : Nat) (cur : Blk) (c : Nat) (evs : List RdEv) (e : EndPos) (io1 : Nat),
      scanBlocks g none trail io cur c (rest1 ++ b :: rest2) = some (evs, e, io1) →
      e.file ∉ (cur :: rest1).map (·.file) →
      ∃ io2 evs2 io3, scanBlocks g none trail io2 b 0 rest2 = some (evs2, e, io3) := by
  intro rest1
  induction rest1 with
  | nil =>
    intro io cur c evs e io1 h hn
    rcases hsb : scanBlock g cur.data c with ⟨fe, be⟩
    cases be with
    | zeroHeader c' =>
      obtain ⟨_, rfl⟩ := scan_zero hsb h
      exact absurd List.mem_cons_self hn
    | needNext c' =>
      obtain ⟨evs2, hin, _⟩ := scan_next hsb h
      exact ⟨_, evs2, io1, hin⟩
  | cons b1 r ih =>
    intro io cur c evs e io1 h hn
    rcases hsb : scanBlock g cur.data c with ⟨fe, be⟩
    cases be with
    | zeroHeader c' =>
      obtain ⟨_, rfl⟩ := scan_zero hsb h
      exact absurd List.mem_cons_self hn
    | needNext c' =>
      obtain ⟨evs2, hin, _⟩ := scan_next hsb h
      exact ih (io + b1.cost) b1 0 evs2 e io1 hin (fun hm => hn (List.mem_cons_of_mem _ hm))

theorem fileBlocks_blkEq (g : Geom) (f : Nat) (p p' : Nat) : ∀ (n : Nat) (content : Bytes) (i : Nat),
    All2 BlkEq (fileBlocks g f content p i n) (fileBlocks g f content p' i n) := by
  intro n
  induction n with
  | zero => intro content i; exact All2.nil
  | succ n ih =>
    intro content i
    simp only [fileBlocks]
    exact All2.cons ⟨rfl, rfl, rfl⟩ (ih _ _)

theorem blocksOf_blkEq (g : Geom) : ∀ (D : Image) (p p' : Nat),
    All2 BlkEq (blocksOf g D p).1 (blocksOf g D p').1 := by
  intro D
  induction D with
  | nil => intro p p'; exact All2.nil
  | cons fc D ih =>
    intro p p'
    obtain ⟨f, content⟩ := fc
    simp only [blocksOf]
    by_cases hn : content.length / g.B = 0
    · simp only [hn, if_true]; exact ih _ _
    · simp only [hn, if_false]
      exact (fileBlocks_blkEq g f _ _ _ _ _).append (all2_blkEq_refl _)

theorem blocksOf_append (g : Geom) (D : Image) : ∀ (Lo : Image) (p : Nat),
    ∃ pre p', (blocksOf g (Lo ++ D) p).1 = pre ++ (blocksOf g D p').1 ∧ (blocksOf g (Lo ++ D) p).2 = (blocksOf g D p').2 ∧
      ∀ b ∈ pre, b.file ∈ Lo.map (·.1) := by
  intro Lo
  induction Lo with
  | nil => intro p; exact ⟨[], p, rfl, rfl, fun _ h => by cases h⟩
  | cons fc Lo ih =>
    intro p
    obtain ⟨f, content⟩ := fc
    simp only [List.cons_append, blocksOf]
    by_cases hn : content.length / g.B = 0
    · rw [if_pos hn]
      obtain ⟨pre, p', h1, h2, h3⟩ := ih (p + 2)
      exact ⟨pre, p', h1, h2, fun b hb => List.mem_cons_of_mem _ (h3 b hb)⟩
    · rw [if_neg hn]
      obtain ⟨pre, p', h1, h2, h3⟩ := ih 1
      refine ⟨fileBlocks g f content (p + 2) 0 (content.length / g.B) ++ pre, p', ?_, h2, ?_⟩
      · rw [h1, List.append_assoc]
      · intro b hb
        rcases List.mem_append.mp hb with hb | hb
        · rw [Rec.fileBlocks_file g f _ _ _ _ b hb]; exact List.mem_cons_self
        · exact List.mem_cons_of_mem _ (h3 b hb)

theorem recoverPre_end {g : Geom} {img : Image} {policy : Policy} {lp : Log} {e0 : List Effect} {io : Nat}
    (h : recoverPre g img policy none = .ok (lp, e0, io)) :
    ∃ b0 rest trail evs e io', blocksOf g (prepareImage g img).1 1 = (b0 :: rest, trail) ∧
      scanBlocks g none trail b0.cost b0 0 rest = some (evs, e, io') ∧
      lp.cur = e.file ∧ lp.off = e.idx * g.B + e.cursor := by
  obtain ⟨b0, rest, trail, rdEvs, e, hb, _, hs, hr, _⟩ := Rec.recoverPre_ok h
  refine ⟨b0, rest, trail, rdEvs, e, _, hb, hs, ?_⟩
  rw [Rec.recoverPre_cons g img policy none b0 rest trail hb, hs, Rec.ioFails_none, if_neg Bool.false_ne_true] at h
  simp only [Rec.finishPre, hr, Except.ok.injEq, Prod.mk.injEq] at h
  obtain ⟨hl, _, _⟩ := h
  exact ⟨by rw [← hl], by rw [← hl]⟩

theorem recoverPre_suffix (g : Geom) (Lo D : Image) (policy policy' : Policy) {lpv lp : Log}
    {e0v e0 : List Effect} {iov io : Nat}
    (hpv : (prepareImage g (Lo ++ D)).1 = Lo ++ D) (hpr : (prepareImage g D).1 = D)
    (hv : recoverPre g (Lo ++ D) policy none = .ok (lpv, e0v, iov))
    (hr : recoverPre g D policy' none = .ok (lp, e0, io))
    (hcur : lpv.cur ∉ Lo.map (·.1)) :
    lpv.cur = lp.cur ∧ lpv.off = lp.off := by
  obtain ⟨b0v, restv, trailv, evsv, ev, iov', hbv, hsv, hcv, hov⟩ := recoverPre_end hv
  obtain ⟨b0, rest, trail, evs, e, io', hb, hs, hc, ho⟩ := recoverPre_end hr
  rw [hpv] at hbv
  rw [hpr] at hb
  obtain ⟨pre, p', h1, _, h3⟩ := blocksOf_append g D Lo 1
  rw [hbv] at h1
  simp only at h1
  have hrel := blocksOf_blkEq g D p' 1
  rw [hb] at hrel
  simp only at hrel
  -- the scan of the blocks of `D` inside the scan of `Lo ++ D`
  have key : ∃ io2 evs2 io3, scanBlocks g none trail io2 b0 0 rest = some (evs2, ev, io3) := by
    cases pre with
    | nil =>
      rw [List.nil_append] at h1
      rw [← h1] at hrel
      cases hrel with
      | cons hb0 hrest =>
        obtain ⟨io2, h2⟩ := scan_congr g trailv trail _ _ hrest b0v.cost b0.cost b0v b0 0 evsv ev iov' hb0 hsv
        exact ⟨_, _, _, h2⟩
    | cons q pre' =>
      rcases hD : (blocksOf g D p').1 with _ | ⟨b0', rest'⟩
      · rw [hD] at hrel; cases hrel
      · rw [hD] at hrel h1
        simp only [List.cons_append, List.cons.injEq] at h1
        obtain ⟨hq, hrv⟩ := h1
        subst hq
        rw [hrv] at hsv
        obtain ⟨io2, evs2, io3, h2⟩ := scan_suffix g trailv b0' rest' pre' _ _ _ _ _ _ hsv (by
          intro hm
          apply hcur
          rw [hcv]
          obtain ⟨bb, hbb, hfile⟩ := List.mem_map.mp hm
          rw [← hfile]
          exact h3 bb hbb)
        cases hrel with
        | cons hb0 hrest =>
          obtain ⟨io4, h4⟩ := scan_congr g trailv trail _ _ hrest io2 b0.cost b0' b0 0 evs2 ev io3 hb0 h2
          exact ⟨_, _, _, h4⟩
  obtain ⟨io2, evs2, io3, h2⟩ := key
  obtain ⟨io5, h5⟩ := scan_congr g trail trail _ _ (all2_blkEq_refl rest) io2 b0.cost b0 b0 0 evs2 ev io3
    (BlkEq.refl _) h2
  rw [hs] at h5
  simp only [Option.some.injEq, Prod.mk.injEq] at h5
  rw [hcv, hov, hc, ho, h5.2.1]
  exact ⟨rfl, rfl⟩

theorem reader_cur (g : Geom) (hB : g.B ≤ 65542) {l : Log} {D : Image} {F : Nat} {J : List JE} {init : List Bytes}
    {t : Bytes} {x : Bool} {res : Bytes} {ais lead : List AItm} {gs : List Grp}
    (h : XInvX g l D F J init t x res ais lead gs) {policy : Policy} {lp : Log} {e0 : List Effect} {io : Nat}
    (hrec : recoverPre g D policy none = .ok (lp, e0, io)) : lp.cur = l.cur := by
  -- `scan_diskX` gives the end position of the scan of the chunks `cs` (the files of the tape): it lies
  -- beyond the last header written, hence in the last full chunk, and that chunk is the writer's current file
  obtain ⟨z0, z1, hd⟩ := h.tapeD_cs
  generalize hcs : init ++ [t ++ (res ++ zeros (g.fileBytes - l.off - res.length))] = cs at hd
  have hn : cs.length = init.length + 1 := by rw [← hcs, List.length_append]; rfl
  obtain ⟨evT, e, ke, ce, zz, hscan, _, he, hke, hce, _, hW1, _, _, _, _, _⟩ := scan_diskX g hB hd.toITape
  have hXD := hd.img
  have hne := hd.ne
  have hfull := hd.full
  obtain ⟨m, trail, io', _, hprep, hbo, hio⟩ := blocks_disk g F cs hne hfull x (F + cs.length)
  rw [← hXD] at hprep hbo
  rw [hscan] at hio
  obtain ⟨b0, rest, trail2, evs2, e2, io2, hb2, hs2, hc2, _⟩ := recoverPre_end hrec
  rw [hbo] at hb2
  simp only [Prod.mk.injEq, List.cons.injEq] at hb2
  obtain ⟨⟨hb0, hrest⟩, htr⟩ := hb2
  subst hb0; subst hrest; subst htr
  rw [hio] at hs2
  simp only [Option.some.injEq, Prod.mk.injEq] at hs2
  rw [hc2, ← hs2.2.1, he]
  simp only
  -- the end position lies in the last chunk
  rw [hn] at hke hce
  rw [hn, Nat.add_sub_cancel] at hW1
  obtain ⟨hcur, _⟩ := end_decomp g init.length (ke * g.B + ce) ke ce hW1 hke hce rfl
  rw [hcur, h.tape.cur]

end MRL.PDA
