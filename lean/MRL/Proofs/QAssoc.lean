/-
Association lists keyed by queue name, generically in the value type, so that the same lookup
lemmas serve `MemQueues` and the specification's `Spec`:
`MemQueues.get?/contains/set/remove` and `Spec.get?/set/remove` are definitionally the generic
operations.
-/
import MRL.Model.MemQueue

namespace MRL
namespace AL

variable {α β : Type}

def get? (l : List (Bytes × α)) (n : Bytes) : Option α := (l.find? (·.1 == n)).map (·.2)
def contains (l : List (Bytes × α)) (n : Bytes) : Bool := l.any (·.1 == n)
def remove (l : List (Bytes × α)) (n : Bytes) : List (Bytes × α) := l.filter (·.1 != n)
def set (l : List (Bytes × α)) (n : Bytes) (v : α) : List (Bytes × α) :=
  if l.any (·.1 == n) then l.map fun kv => if kv.1 == n then (n, v) else kv else l ++ [(n, v)]
def mapV (f : α → β) (l : List (Bytes × α)) : List (Bytes × β) := l.map fun kv => (kv.1, f kv.2)

theorem get?_nil (q : Bytes) : get? ([] : List (Bytes × α)) q = none := rfl

theorem get?_cons (kv : Bytes × α) (s : List (Bytes × α)) (q : Bytes) :
    get? (kv :: s) q = if kv.1 = q then some kv.2 else get? s q := by
  unfold get?
  simp only [List.find?_cons]
  by_cases h : kv.1 = q
  · simp [h]
  · have : (kv.1 == q) = false := by simpa using h
    simp [h, this]

theorem any_key_eq_false_iff (s : List (Bytes × α)) (q : Bytes) :
    s.any (·.1 == q) = false ↔ get? s q = none := by
  induction s with
  | nil => simp [get?_nil]
  | cons kv s ih =>
    rw [get?_cons, List.any_cons]
    by_cases h : kv.1 = q
    · simp [h]
    · have : (kv.1 == q) = false := by simpa using h
      simp [h, this, ih]

theorem contains_eq_isSome (s : List (Bytes × α)) (q : Bytes) : contains s q = (get? s q).isSome := by
  unfold contains
  cases h : get? s q with
  | none => exact (any_key_eq_false_iff s q).mpr h
  | some v =>
    cases h2 : s.any (·.1 == q) with
    | true => rfl
    | false => rw [any_key_eq_false_iff] at h2; rw [h2] at h; cases h

theorem get?_append (s t : List (Bytes × α)) (q : Bytes) :
    get? (s ++ t) q = (get? s q).or (get? t q) := by
  unfold get?
  rw [List.find?_append]
  cases s.find? (·.1 == q) <;> rfl

theorem get?_map_replace_same (s : List (Bytes × α)) (q : Bytes) (v : α) (h : get? s q ≠ none) :
    get? (s.map fun kv => if kv.1 == q then (q, v) else kv) q = some v := by
  induction s with
  | nil => exact absurd rfl h
  | cons kv s ih =>
    rw [get?_cons] at h
    rw [List.map_cons, get?_cons]
    by_cases hk : kv.1 = q
    · simp [hk]
    · have hb : (kv.1 == q) = false := by simpa using hk
      simp only [hk, if_false] at h
      simp only [hb, Bool.false_eq_true, if_false, hk]
      exact ih h

theorem get?_map_replace_other (s : List (Bytes × α)) (q q' : Bytes) (v : α) (hne : q' ≠ q) :
    get? (s.map fun kv => if kv.1 == q then (q, v) else kv) q' = get? s q' := by
  induction s with
  | nil => rfl
  | cons kv s ih =>
    rw [List.map_cons, get?_cons, get?_cons, ih]
    by_cases hk : kv.1 = q
    · have hb : (kv.1 == q) = true := by simpa using hk
      have h1 : ¬ q = q' := fun h => hne h.symm
      have h2 : ¬ kv.1 = q' := by rw [hk]; exact h1
      simp only [hb, if_true, h1, h2, if_false]
    · have hb : (kv.1 == q) = false := by simpa using hk
      simp only [hb, Bool.false_eq_true, if_false]

theorem get?_set_same (s : List (Bytes × α)) (q : Bytes) (v : α) : get? (set s q v) q = some v := by
  unfold set
  split
  · rename_i h
    apply get?_map_replace_same
    intro hn
    rw [← any_key_eq_false_iff] at hn
    rw [hn] at h; cases h
  · rename_i h
    have hn : get? s q = none := by
      rw [← any_key_eq_false_iff]; exact Bool.eq_false_iff.mpr h
    rw [get?_append, hn, get?_cons]
    simp

theorem get?_set_other (s : List (Bytes × α)) (q q' : Bytes) (v : α) (hne : q' ≠ q) :
    get? (set s q v) q' = get? s q' := by
  unfold set
  split
  · exact get?_map_replace_other s q q' v hne
  · rw [get?_append, get?_cons, if_neg (Ne.symm hne), get?_nil, Option.or_none]

theorem get?_remove_same (s : List (Bytes × α)) (q : Bytes) : get? (remove s q) q = none := by
  unfold remove
  induction s with
  | nil => rfl
  | cons kv s ih =>
    rw [List.filter_cons]
    by_cases hk : kv.1 = q
    · simp only [hk, bne_self_eq_false, Bool.false_eq_true, if_false]; exact ih
    · have hb : (kv.1 != q) = true := by simpa using hk
      simp only [hb, if_true, get?_cons, hk, if_false]; exact ih

theorem get?_remove_other (s : List (Bytes × α)) (q q' : Bytes) (hne : q' ≠ q) :
    get? (remove s q) q' = get? s q' := by
  unfold remove
  induction s with
  | nil => rfl
  | cons kv s ih =>
    rw [List.filter_cons, get?_cons]
    by_cases hk : kv.1 = q
    · have h2 : ¬ kv.1 = q' := by rw [hk]; exact fun h => hne h.symm
      simp only [hk, bne_self_eq_false, Bool.false_eq_true, if_false]
      rw [hk] at h2; simp only [h2, if_false]; exact ih
    · have hb : (kv.1 != q) = true := by simpa using hk
      simp only [hb, if_true, get?_cons, ih]

theorem get?_mem {s : List (Bytes × α)} {n : Bytes} {v : α} (h : get? s n = some v) : (n, v) ∈ s := by
  induction s with
  | nil => cases h
  | cons kv s ih =>
    rw [get?_cons] at h
    split at h
    · rename_i hk
      cases h
      have : kv = (n, kv.2) := by rw [← hk]
      rw [← this]; exact List.mem_cons_self
    · exact List.mem_cons_of_mem _ (ih h)

theorem get?_of_mem_nodup {s : List (Bytes × α)} (hn : (s.map (·.1)).Nodup) {n : Bytes} {v : α}
    (h : (n, v) ∈ s) : get? s n = some v := by
  induction s with
  | nil => cases h
  | cons kv s ih =>
    rw [List.map_cons, List.nodup_cons] at hn
    rw [get?_cons]
    rcases List.mem_cons.mp h with h | h
    · subst h; simp
    · have : kv.1 ≠ n := by
        intro e
        apply hn.1
        rw [e]
        exact List.mem_map_of_mem (f := (·.1)) h
      simp only [this, if_false]
      exact ih hn.2 h

/-! #### relations that hold key by key

`R` relates the lookups of two maps at every key (`QsEquiv`, the abstraction equalities, the
simulation relations are of this form). Such a relation survives any update of one key on both
sides that relates the new entries. -/

theorem rel_update {R : Option α → Option β → Prop} {A A' : List (Bytes × α)}
    {B B' : List (Bytes × β)} (h : ∀ n, R (get? A n) (get? B n)) (q : Bytes)
    (hA : ∀ n, n ≠ q → get? A' n = get? A n) (hB : ∀ n, n ≠ q → get? B' n = get? B n)
    (hq : R (get? A' q) (get? B' q)) : ∀ n, R (get? A' n) (get? B' n) := by
  intro n
  by_cases hn : n = q
  · subst hn; exact hq
  · rw [hA n hn, hB n hn]; exact h n

theorem rel_set {R : Option α → Option β → Prop} {A : List (Bytes × α)} {B : List (Bytes × β)}
    (h : ∀ n, R (get? A n) (get? B n)) (q : Bytes) {x : α} {y : β} (hxy : R (some x) (some y)) :
    ∀ n, R (get? (set A q x) n) (get? (set B q y) n) :=
  rel_update h q (fun _ hn => get?_set_other _ _ _ _ hn) (fun _ hn => get?_set_other _ _ _ _ hn)
    (by rw [get?_set_same, get?_set_same]; exact hxy)

theorem rel_remove {R : Option α → Option β → Prop} {A : List (Bytes × α)} {B : List (Bytes × β)}
    (h : ∀ n, R (get? A n) (get? B n)) (q : Bytes) (h0 : R none none) :
    ∀ n, R (get? (remove A q) n) (get? (remove B q) n) :=
  rel_update h q (fun _ hn => get?_remove_other _ _ _ hn) (fun _ hn => get?_remove_other _ _ _ hn)
    (by rw [get?_remove_same, get?_remove_same]; exact h0)

theorem get?_mapV (f : α → β) (s : List (Bytes × α)) (n : Bytes) :
    get? (mapV f s) n = (get? s n).map f := by
  induction s with
  | nil => rfl
  | cons kv s ih =>
    show get? ((kv.1, f kv.2) :: mapV f s) n = _
    rw [get?_cons, get?_cons, ih]
    split <;> rfl

theorem any_mapV (f : α → β) (s : List (Bytes × α)) (n : Bytes) :
    (mapV f s).any (·.1 == n) = s.any (·.1 == n) := by
  simp [mapV, List.any_map, Function.comp_def]

theorem set_mapV (f : α → β) (s : List (Bytes × α)) (n : Bytes) (v : α) :
    mapV f (set s n v) = set (mapV f s) n (f v) := by
  unfold set
  rw [any_mapV]
  split
  · simp only [mapV, List.map_map]
    apply List.map_congr_left
    intro kv _
    simp only [Function.comp]
    split <;> rfl
  · simp [mapV]

theorem remove_mapV (f : α → β) (s : List (Bytes × α)) (n : Bytes) :
    mapV f (remove s n) = remove (mapV f s) n := by
  unfold remove mapV
  rw [List.filter_map]
  rfl

end AL

namespace MemQueues

theorem get?_eq (qs : MemQueues) (n : Bytes) : qs.get? n = AL.get? qs n := rfl
theorem contains_eq (qs : MemQueues) (n : Bytes) : qs.contains n = AL.contains qs n := rfl
theorem set_eq (qs : MemQueues) (n : Bytes) (q : MemQueue) : qs.set n q = AL.set qs n q := rfl
theorem remove_eq (qs : MemQueues) (n : Bytes) : qs.remove n = AL.remove qs n := rfl

theorem get?_set_same (qs : MemQueues) (n : Bytes) (q : MemQueue) : (qs.set n q).get? n = some q :=
  AL.get?_set_same qs n q
theorem get?_set_other (qs : MemQueues) (n n' : Bytes) (q : MemQueue) (h : n' ≠ n) :
    (qs.set n q).get? n' = qs.get? n' := AL.get?_set_other qs n n' q h
theorem get?_remove_same (qs : MemQueues) (n : Bytes) : (qs.remove n).get? n = none :=
  AL.get?_remove_same qs n
theorem get?_remove_other (qs : MemQueues) (n n' : Bytes) (h : n' ≠ n) :
    (qs.remove n).get? n' = qs.get? n' := AL.get?_remove_other qs n n' h
theorem contains_isSome (qs : MemQueues) (n : Bytes) : qs.contains n = (qs.get? n).isSome :=
  AL.contains_eq_isSome qs n

theorem ackPosition_cases (qs : MemQueues) (n : Bytes) (p : Nat) :
    qs.ackPosition n p = qs ∨ qs.ackPosition n p = qs.set n (MemQueue.withNextPosition p) := by
  unfold ackPosition
  cases qs.get? n with
  | none => exact .inr rfl
  | some q =>
    by_cases hc : (!q.isEmpty || q.nextPosition != p) = true
    · exact .inr (if_pos hc)
    · exact .inl (if_neg hc)

theorem get?_ackPosition_same (qs : MemQueues) (n : Bytes) (p : Nat) :
    (qs.ackPosition n p).get? n = some (MemQueue.withNextPosition p) := by
  unfold ackPosition
  split
  · rename_i q hq
    split
    · exact get?_set_same _ _ _
    · rename_i hc
      rw [hq]
      simp only [Bool.or_eq_true, Bool.not_eq_eq_eq_not, Bool.not_true, bne_iff_ne, ne_eq, not_or,
        Bool.not_eq_false, Decidable.not_not] at hc
      obtain ⟨h1, h2⟩ := hc
      congr 1
      cases q with
      | mk start recs =>
        simp only [MemQueue.isEmpty, List.isEmpty_iff] at h1
        subst h1
        simp only [MemQueue.nextPosition, List.getLast?_nil] at h2
        subst h2
        rfl
  · exact get?_set_same _ _ _

theorem get?_ackPosition_other (qs : MemQueues) (n n' : Bytes) (p : Nat) (h : n' ≠ n) :
    (qs.ackPosition n p).get? n' = qs.get? n' := by
  unfold ackPosition
  split
  · split
    · exact get?_set_other _ _ _ _ h
    · rfl
  · exact get?_set_other _ _ _ _ h

/-- the queue an append is replayed on, after the `ack_position` that creates it if absent -/
theorem get?_ensure (qs : MemQueues) (n : Bytes) (p : Nat) :
    (if qs.contains n then qs else qs.ackPosition n p).get? n =
      some ((qs.get? n).getD (MemQueue.withNextPosition p)) := by
  rw [contains_isSome]
  cases h : qs.get? n with
  | none => simp only [Option.isSome_none, Bool.false_eq_true, if_false, get?_ackPosition_same]; rfl
  | some x => simp only [Option.isSome_some, if_true, h]; rfl

theorem get?_ensure_other (qs : MemQueues) (n n' : Bytes) (p : Nat) (h : n' ≠ n) :
    (if qs.contains n then qs else qs.ackPosition n p).get? n' = qs.get? n' := by
  split
  · rfl
  · exact get?_ackPosition_other _ _ _ _ h

end MemQueues
end MRL
