/-
Reading a `DiskX` disk (a tape of items, possibly with a residue): `recoverPre` succeeds; the
recovered log satisfies the relaxed invariant (with explicit witnesses) for the journal
re-attributed the way the reader attributes the entries; its queues are the replay of the old
journal up to the file handles.
-/
import MRL.Proofs.LCut
import MRL.Proofs.GBlocks
import MRL.Proofs.LScanJ

namespace MRL.L
open Codec G H Torn

theorem xtra_map_keys (x : Bool) (f : Nat) : (xtra x f).map (·.1) = if x then [f] else [] := by
  cases x <;> rfl

theorem asm_segs_reattr (g : Geom) (F : Nat) (ais : List AItm) (htag : Tagged g F 0 (tfs ais))
    (lead : List AItm) (gs : List Grp) (hais : ais = lead ++ gs.flatMap (·.2))
    (hlead : ∀ a ∈ lead, a.2 = none ∧ a.1.2.1.isFirst = false) (hok : ∀ y ∈ gs, GrpOK y) (tail : List RdEv) :
    ∃ st' : AsmSt, (∀ y ∈ reattr F gs, GrpOK y) ∧
      All2 (Rel F) ((liveOf (reattr F gs)).map (·.1)) ((liveOf gs).map (·.1)) ∧
      assemble { within := false, buf := [], attr := F } (evsJ ais ++ tail) = outG F gs ++ assemble st' tail ∧
      entriesOf (outG F gs) = entriesEv ((liveOf (reattr F gs)).map (·.1)) := by
  have hmono := tags_mono g F (tfs ais) 0 htag
  rw [hais, tfs_append] at hmono
  have hmono2 := (List.pairwise_append.mp hmono).2.1
  obtain ⟨st', g2, g3, g4, g5⟩ := asm_reattr F gs { within := false, buf := [], attr := F } tail hok hmono2
    (by
      intro a ha
      obtain ⟨h, _, _, h3⟩ := tag_pos g F (tfs ais) 0 htag a (by rw [hais, tfs_append]; exact List.mem_append_right _ ha)
      show F ≤ a.1
      rw [h3]; exact Nat.le_add_right _ _)
    (Nat.le_refl _)
  refine ⟨st', g2, g3, ?_, g5⟩
  have hl : evsJ lead = Rec.evsOf (tfs lead) := evsJ_none (fun a ha => (hlead a ha).1)
  rw [hais, evsJ_append, List.append_assoc, hl,
    assemble_lead _ rfl (tfs lead) _ (by
      intro a ha
      obtain ⟨b, hb, rfl⟩ := List.mem_map.mp ha
      exact (hlead b hb).2), g4]

theorem drop_append_ge {α : Type} (A B : List α) (n : Nat) (h : A.length ≤ n) :
    (A ++ B).drop n = B.drop (n - A.length) := by
  rw [List.drop_append, List.drop_of_length_le h, List.nil_append]

theorem take_append_ge {α : Type} (A B : List α) (n : Nat) (h : A.length ≤ n) :
    (A ++ B).take n = A ++ B.take (n - A.length) := by
  rw [List.take_append, List.take_of_length_le h]

theorem zeros_tail_len {X res : Bytes} {n zz : Nat} (h : X.drop n = res ++ zeros zz) :
    zz = X.length - n - res.length := by
  have := congrArg List.length h
  rw [List.length_drop, List.length_append, length_zeros] at this
  rw [this, Nat.add_sub_cancel_left]

/-- `ke * g.B + ce` is the absolute position where the reader stops (`G.stopPos`) and the recovered writer
    resumes: the end of the items, or the next header position when fewer than 7 bytes remain in the block.
    The conjuncts place it: in the last file, on the residue or on zeros, with everything before it the items -/
theorem scan_diskX (g : Geom) (hB : g.B ≤ 65542) {F : Nat} {cs : List Bytes} {ais : List AItm} {res : Bytes}
    {z0 z1 : Nat} (ht : ITape g F cs ais res z0 z1) :
    ∃ (evT : List RdEv) (e : EndPos) (ke ce zz : Nat),
      scanAt g F cs.flatten (cs.length * g.K) 0 0 = (evsJ ais ++ evT, e) ∧
      (evT = [] ∨ ∃ f, evT = [RdEv.corrupt f]) ∧
      e = ⟨F + ke / g.K, ke % g.K, ce⟩ ∧ ke < cs.length * g.K ∧
      (ce < g.B ∨ (ce = g.B ∧ ke + 1 = cs.length * g.K)) ∧
      endPos g 0 (frs ais) ≤ ke * g.B + ce ∧ (cs.length - 1) * g.fileBytes ≤ ke * g.B + ce ∧
      ke * g.B + ce + res.length ≤ cs.length * g.fileBytes ∧
      (ke * g.B + ce = endPos g 0 (frs ais) ∨ ke * g.B + ce = hdrPos g (endPos g 0 (frs ais))) ∧
      cs.flatten.drop (ke * g.B + ce) = res ++ zeros zz ∧
      cs.flatten.take (ke * g.B + ce) = flatJ g 0 ais ++ zeros (ke * g.B + ce - endPos g 0 (frs ais)) ∧
      ResOK g (cs.length * g.fileBytes) (ke * g.B + ce) (endPos g 0 (frs ais)) res ∧
      (ke * g.B + ce = endPos g 0 (frs ais) ∨ ke * g.B + ce < cs.length * g.fileBytes) := by
  obtain ⟨hne, hfull, hflat, hlast, hfits, htag, hjok, hres⟩ := ht
  have hE : (flatJ g 0 ais).length = endPos g 0 (frs ais) := flatJ0_len g ais hjok.rawLen hfits
  have hNB : cs.length * g.K * g.B = cs.length * g.fileBytes := (mul_fb g _).symm
  have hSlen : cs.flatten.length = cs.length * g.K * g.B := by
    rw [flatten_length_full _ _ hfull, mul_fb]
  have hlens : endPos g 0 (frs ais) + z0 + res.length + z1 = cs.length * g.fileBytes := by
    have := congrArg List.length hflat
    rw [hSlen, hNB] at this
    simp only [List.length_append, length_zeros, hE] at this
    exact this.symm
  have h0 : 0 * g.B + 0 = 0 := by rw [Nat.zero_mul]
  obtain ⟨ke, ce, evT, hke, hce, hW, hcase, hscan⟩ := scanFrom_tape g (blkAt g F cs.flatten) cs.flatten
    (cs.length * g.K) (fun _ => rfl) hB hSlen 0 0 (Nat.mul_pos (List.length_pos_iff.mpr hne) g.hK)
    (Torn.Bpos g) ais hfits (by rw [h0, hNB]; exact hjok)
    (by rw [h0]; exact taggedB_blkAt g F _ _ _ htag) res z0 z1 (by rw [h0]; exact hflat)
    (by rw [h0, hNB]; exact hres)
  rw [h0] at hW hcase
  obtain ⟨w0, w1, w2, w3⟩ := stopPos_last g (List.length_pos_iff.mpr hne) hlast
    (hlens ▸ Nat.le_trans (Nat.le_add_right _ _) (Nat.le_trans (Nat.le_add_right _ _) (Nat.le_add_right _ _)))
  have w4 := stopPos_eq_or_lt g (cs.length * g.K) (endPos g 0 (frs ais))
  rw [← hW] at w0 w1 w2 w3 w4
  rw [hNB] at w4
  rcases hcase with ⟨rfl, rfl⟩ | ⟨_, rfl, hpos, hcb⟩
  · -- no residue: the reader stops among the zeros
    have hflat' : cs.flatten = flatJ g 0 ais ++ zeros (z0 + z1) := by rw [hflat, zeros_add]; simp
    rw [List.length_nil, Nat.add_zero, Nat.add_assoc] at hlens
    have hflat'' : cs.flatten = flatJ g 0 ais ++ (zeros (z0 + z1) ++ []) := by rw [List.append_nil]; exact hflat'
    have hW2 : ke * g.B + ce ≤ endPos g 0 (frs ais) + (z0 + z1) := by rw [hlens]; exact w2
    have hd := drop_in_zeros (flatJ g 0 ais) [] (z0 + z1) (ke * g.B + ce) hE w0 hW2
    have ht := take_in_zeros (flatJ g 0 ais) [] (z0 + z1) (ke * g.B + ce) hE w0 hW2
    rw [← hflat'', List.append_nil] at hd
    rw [← hflat''] at ht
    exact ⟨[], _, ke, ce, _, hscan, Or.inl rfl, rfl, hke, hce, w0, w1, w2, w3, hd, ht, Or.inl rfl, w4⟩
  · -- a residue in the last block: the reader stops in front of it
    obtain ⟨r1, r2, r3, r4⟩ : res.length ≤ 6 ∧ isAllZero res = false ∧
        endPos g 0 (frs ais) + z0 = hdrPos g (endPos g 0 (frs ais)) ∧
        cs.length * g.fileBytes ≤ ((endPos g 0 (frs ais) + z0) / g.B + 1) * g.B := by
      rcases hres with h | h
      · exact absurd h ‹res ≠ []›
      · exact h
    have hlen0 : (flatJ g 0 ais ++ zeros z0).length = ke * g.B + ce := by
      rw [List.length_append, length_zeros, hE, r3, hpos]
    refine ⟨_, _, ke, ce, z1, hscan, Or.inr ⟨_, rfl⟩, rfl, hke, Or.inl hcb, w0, w1, ?_, w3, ?_, ?_, ?_, w4⟩
    · rw [hpos, ← r3, ← hlens]; exact Nat.le_add_right _ _
    · rw [hflat, List.append_assoc (flatJ g 0 ais ++ _)]; exact List.drop_left' hlen0
    · rw [hflat, List.append_assoc (flatJ g 0 ais ++ _), List.take_left' hlen0, hpos, ← r3, Nat.add_sub_cancel_left]
    · rw [hpos]; exact Or.inr ⟨r1, r2, rfl, by rw [← r3]; exact r4⟩

theorem tapeR_of_stream (g : Geom) {F a : Nat} {cs : List Bytes} (hne : cs ≠ [])
    (hfull : ∀ c ∈ cs, c.length = g.fileBytes) (ha : cs.length = a + 1) {x : Bool} {X : Image}
    (hX : X = imgOf F cs ++ xtra x (F + cs.length)) {W zz : Nat} {res : Bytes} (hW1 : a * g.fileBytes ≤ W)
    (hW2 : W + res.length ≤ (a + 1) * g.fileBytes) (hdrop : cs.flatten.drop W = res ++ zeros zz) {lp : Log}
    (hfiles : lp.files = X.map (·.1)) (hcur : lp.cur = F + a) (hoff : lp.off = W - a * g.fileBytes) :
    TapeR g lp X F cs.dropLast ((cs.getLast hne).take lp.off) x res ∧
      cs.dropLast.flatten ++ (cs.getLast hne).take lp.off = cs.flatten.take W := by
  have hcsplit : cs = cs.dropLast ++ [cs.getLast hne] := (List.dropLast_concat_getLast hne).symm
  have hinitlen : cs.dropLast.length = a := by rw [List.length_dropLast, ha]; rfl
  have hinitfull : ∀ c ∈ cs.dropLast, c.length = g.fileBytes := fun c hc => hfull c (List.dropLast_subset _ hc)
  have hcllen : (cs.getLast hne).length = g.fileBytes := hfull _ (List.getLast_mem hne)
  have hinitflat : cs.dropLast.flatten.length = a * g.fileBytes := by
    rw [flatten_length_full _ _ hinitfull, hinitlen]
  have hflat2 : cs.flatten = cs.dropLast.flatten ++ cs.getLast hne := by
    conv => lhs; rw [hcsplit]
    simp only [List.flatten_append, List.flatten_cons, List.flatten_nil, List.append_nil]
  have hWo : a * g.fileBytes + lp.off = W := by rw [hoff]; exact Nat.add_sub_cancel' hW1
  have hoffle : lp.off + res.length ≤ g.fileBytes := by
    rw [Nat.succ_mul, ← hWo, Nat.add_assoc] at hW2; exact Nat.le_of_add_le_add_left hW2
  have hd : (cs.getLast hne).drop lp.off = res ++ zeros (g.fileBytes - lp.off - res.length) := by
    have h1 := hdrop
    rw [hflat2, drop_append_ge _ _ _ (by rw [hinitflat]; exact hW1), hinitflat, ← hoff] at h1
    rw [h1, zeros_tail_len h1, hcllen]
  refine ⟨⟨?_, hinitfull, ?_, hoffle, ?_, by rw [hcur, hinitlen]⟩, ?_⟩
  · rw [← hd, List.take_append_drop, ← hcsplit, hinitlen, hX, ha, Nat.add_assoc]
  · rw [List.length_take, hcllen]; exact Nat.min_eq_left (Nat.le_trans (Nat.le_add_right _ _) hoffle)
  · rw [hfiles, hX, List.map_append, imgOf_keys, xtra_map_keys, hinitlen, ha]
    cases x
    · simp only [Bool.false_eq_true, if_false, List.append_nil, Nat.add_zero]
    · exact range'_snoc F (a + 1)
  · rw [hflat2, take_append_ge _ _ _ (by rw [hinitflat]; exact hW1), hinitflat, ← hoff]

/-- `R`: the record events of the tape, which deliver the entries of `Jd`; `Rt`: the events after the
    tape; `Jd` carries the entries of `T`, attributed between `F` and where they lie -/
theorem replay_delivered (F : Nat) (R Rt : List RecEv) (Jd T : List JE) (hents : entriesOf R = entriesEv Jd)
    (hRt0 : entriesOf Rt = [])
    (hrel : All2 (Rel F) Jd T)
    (hwf : ∀ j ∈ T, C07.WF j.e) (hloc : ∀ j ∈ T, F ≤ j.loc)
    (qsT : MemQueues) (hT : replayJ F [] T = some qsT) :
    (∀ j ∈ Jd, F ≤ j.loc) ∧ ∃ r1, replay [] (R ++ Rt) = some r1 ∧ replayJ F [] Jd = some r1 ∧ AbsEq qsT r1 := by
  have hJdwf : ∀ j ∈ Jd, C07.WF j.e ∧ F ≤ j.attr ∧ j.attr ≤ j.loc := by
    intro j hj
    obtain ⟨b, hb, hb1, _, hb3, hb4⟩ := hrel.mem_left j hj
    exact ⟨by rw [hb1]; exact hwf b hb, hb3, hb4⟩
  have hJdloc : ∀ j ∈ Jd, F ≤ j.loc := fun j hj => Nat.le_trans (hJdwf j hj).2.1 (hJdwf j hj).2.2
  have hrepl : replay [] (R ++ Rt) = replayJ F [] Jd := by
    rw [replay_entriesOf, entriesOf_append, hents, hRt0, List.append_nil]
    exact replay_entriesEv F _ [] hJdwf
  obtain ⟨r1, hr1, hab⟩ := replayJ_abs F F Jd T [] [] qsT (hrel.imp (fun a b h => h.1))
    hJdloc hloc (AbsEq.refl _) QsWF.nil QsWF.nil hT
  exact ⟨hJdloc, r1, by rw [hrepl, hr1], hr1, hab⟩

/-- `J'` is `J` as the READER sees it: the retained entries under the attributions `reattr F gs`, which differ
    from the writer's after a junk slot or when the first file lies inside an entry — hence `AbsEq`, and an
    exact replay only of `J'`. Last disjunct: the writer resumes at the end of the items, or behind padding and
    then strictly inside the file (`G.read_disk` rebuilds `DInvF` from it) -/
theorem read_tapeD (g : Geom) (hB : g.B ≤ 65542) {X : Image} {F : Nat} {J : List JE} {cs : List Bytes} {x : Bool}
    {ais lead : List AItm} {gs : List Grp} {res : Bytes} {z0 z1 : Nat}
    (hd : TapeD g X F J cs x ais lead gs res z0 z1) (hwf : ∀ j ∈ J, C07.WF j.e) (qs : MemQueues)
    (hrep : replayJ F [] J = some qs) (policy : Policy) :
    ∃ (J' : List JE) (lp : Log) (io : Nat) (t : Bytes),
      recoverPre g X policy none = .ok (lp, [.ensureLen F g.fileBytes], io) ∧
      XInvX g lp X F J' cs.dropLast t x res ais lead (reattr F gs) ∧
      replayJ F [] J' = some lp.queues ∧ AbsEq qs lp.queues ∧ lp.policy = policy ∧
      All2 (Rel F) J'
        (J.filter fun j => decide (F ≤ j.loc)) ∧
      (∀ j ∈ J', j.loc ≤ lp.cur) ∧
      ((cs.dropLast.flatten ++ t).length = endPos g 0 (frs ais) ∨ lp.off < g.fileBytes) := by
  have hfb := fileBytes_pos g
  obtain ⟨evT, e, ke, ce, zz, hscan, hevT, he, hke, hce, hW0, hW1, hWres, hW3, hdropW0, htakeW0, hresW, hW4⟩ :=
    scan_diskX g hB hd.toITape
  obtain ⟨⟨hne, hfull, hflat, hlast, hfits, htag, hjok, hresok⟩, ⟨hais, hlead, hmap, hok⟩, hX⟩ := hd
  obtain ⟨st', g2, g3, g4, g5⟩ := asm_segs_reattr g F ais htag lead gs hais hlead hok evT
  generalize outG F gs = R at g4 g5
  have htailR : ∃ Rt, assemble st' evT = Rt ∧ entriesOf Rt = [] := by
    rcases hevT with h | ⟨f, h⟩
    · subst h; exact ⟨[], rfl, rfl⟩
    · subst h; exact ⟨[RecEv.corrupt], rfl, rfl⟩
  obtain ⟨Rt, hRt, hRt0⟩ := htailR
  rw [hRt] at g4
  -- the journal with the attributions the reader gives
  have hJ'rel : All2 (Rel F) ((liveOf (reattr F gs)).map (·.1)) (J.filter fun j => decide (F ≤ j.loc)) :=
    hmap ▸ g3
  obtain ⟨hJ'loc, r1, hrepl, hr1, hab⟩ := replay_delivered F R Rt _ _ g5 hRt0 hJ'rel
    (fun j hj => hwf j (List.mem_filter.mp hj).1) (fun j hj => of_decide_eq_true (List.mem_filter.mp hj).2) qs
    (by rw [← replayJ_filter]; exact hrep)
  obtain ⟨io, hrec⟩ := recoverPre_scanX g F cs hne hfull x X hX policy _ e r1 hscan (by rw [g4, hrepl])
  -- the recovered log stands at the reader's end position `W`, in the last file
  obtain ⟨a, ha⟩ : ∃ a, cs.length = a + 1 :=
    Nat.exists_eq_succ_of_ne_zero (Nat.ne_of_gt (List.length_pos_iff.mpr hne))
  rw [ha] at hW1 hWres hke hce
  rw [Nat.add_sub_cancel] at hW1
  have hWle : ke * g.B + ce ≤ (a + 1) * g.fileBytes := Nat.le_trans (Nat.le_add_right _ _) hWres
  obtain ⟨hcur, hoff⟩ := end_decomp g a (ke * g.B + ce) ke ce hW1 hke hce rfl
  obtain ⟨lp, hlp⟩ : ∃ lp : Log, lp = ⟨X.map (·.1), e.file, e.idx * g.B + e.cursor, r1, policy⟩ := ⟨_, rfl⟩
  rw [← hlp] at hrec
  have hlcur : lp.cur = F + a := by rw [hlp, he, ← hcur]
  obtain ⟨htape, hP⟩ := tapeR_of_stream g hne hfull ha hX hW1 hWres hdropW0 (lp := lp) (by rw [hlp]) hlcur
    (by rw [hlp, he]; exact hoff)
  have hPlen : (cs.dropLast.flatten ++ (cs.getLast hne).take lp.off).length = ke * g.B + ce := by
    rw [hP, List.length_take, flatten_length_full _ _ hfull, ha]
    exact Nat.min_eq_left hWle
  have hLa : (cs.dropLast.length + 1) * g.fileBytes = cs.length * g.fileBytes := by
    rw [List.length_dropLast, ha]; rfl
  refine ⟨(liveOf (reattr F gs)).map (·.1), lp, io, _, hrec,
    ⟨htape, ⟨?_, hfits, htag, ?_, by rw [hLa]; exact hjok⟩, ?_, by rw [reattr_flatMap]; exact hais, hlead, ?_, g2⟩,
    by rw [hlp]; exact hr1, by rw [hlp]; exact hab, by rw [hlp], hJ'rel, ?_, ?_⟩
  · rw [hPlen, hP, htakeW0]
  · rw [hPlen]; exact hW3
  · rw [hPlen, hLa]; exact hresW
  · symm
    rw [List.filter_eq_self]
    exact fun j hj => decide_eq_true (hJ'loc j hj)
  · -- an entry starts at a header position before the end of the items
    intro j hj
    rw [hlcur]
    obtain ⟨b, hb, _, h2, _, _⟩ := hJ'rel.mem_left j hj
    rw [← hmap] at hb
    obtain ⟨s, hs, rfl⟩ := List.mem_map.mp hb
    obtain ⟨t0, ht0, htl⟩ := live_tags hok hs
    obtain ⟨h, _, h2', h3⟩ := tag_pos g F (tfs ais) 0 htag t0 (by rw [hais, tfs_append]; exact List.mem_append_right _ ht0)
    have : h / g.fileBytes < a + 1 := by
      rw [Nat.div_lt_iff_lt_mul hfb]
      exact Nat.lt_of_lt_of_le (Nat.lt_of_lt_of_le (Nat.lt_add_of_pos_right (by decide)) h2') (Nat.le_trans hW0 hWle)
    rw [h2, ← htl, h3]
    exact Nat.add_le_add_left (Nat.le_of_lt_succ this) F
  · rw [hPlen]
    refine hW4.imp id fun h => ?_
    have hlo : lp.off = ke * g.B + ce - a * g.fileBytes := by rw [hlp, he]; exact hoff
    rw [ha, Nat.succ_mul] at h
    rw [hlo]; omega

/-- `read_tapeD` for a `DiskX` disk: the witnesses of the tape are quantified existentially -/
theorem read_diskX (g : Geom) (hB : g.B ≤ 65542) {X : Image} {F : Nat} {J : List JE}
    (hd : DiskX g X F J) (hwf : ∀ j ∈ J, C07.WF j.e) (qs : MemQueues)
    (hrep : replayJ F [] J = some qs) (policy : Policy) :
    ∃ (J' : List JE) (lp : Log) (io : Nat) (init : List Bytes) (t : Bytes) (x : Bool) (res : Bytes)
      (ais lead : List AItm) (gs' : List Grp),
      recoverPre g X policy none = .ok (lp, [.ensureLen F g.fileBytes], io) ∧
      XInvX g lp X F J' init t x res ais lead gs' ∧
      replayJ F [] J' = some lp.queues ∧ AbsEq qs lp.queues ∧ lp.policy = policy ∧
      All2 (Rel F) J'
        (J.filter fun j => decide (F ≤ j.loc)) ∧
      (∀ j ∈ J', j.loc ≤ lp.cur) := by
  obtain ⟨cs, x, ais, lead, gs, res, z0, z1, ht⟩ := hd.tapeD
  obtain ⟨J', lp, io, t, h1, h2, h3, h4, h5, h6, h7, _⟩ := read_tapeD g hB ht hwf qs hrep policy
  exact ⟨J', lp, io, _, t, x, res, ais, lead, _, h1, h2, h3, h4, h5, h6, h7⟩

end MRL.L
