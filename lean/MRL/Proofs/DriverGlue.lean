/-
Glue between the compiled driver (`Driver.lean`) and the definitions the theorems are about.

The driver does not apply OS operations one at a time to its list-based directory image:
* `St.sync` applies `coalesce (pending.reverse.filter (· != .sync))`;
* `runCrash` keeps the image after the first `baseK` operations and extends it by
  `coalesce (((ops.drop bk).take (k - bk)).filter (· != .sync))`, then takes
  `crashImage · (ops.drop k) 0 cut`;
* the power-loss state is kept the same way (`prun` of a cached prefix).

All of it is the definitional image, WITHOUT side condition (files that do not exist, writes beyond
the end of the file included: `overwrite` zero-extends first, `mapFile` on a missing file is the
identity on both sides).
-/
import MRL.Model.Disk
import MRL.Model.PowerLoss
import MRL.Proofs.PBuf

namespace MRL.Glue

theorem applyOsOps_cons (img : Image) (op : OsOp) (ops : List OsOp) :
    applyOsOps img (op :: ops) = applyOsOps (applyOs img op) ops := rfl

theorem applyOsOps_coalesce (ops : List OsOp) : ∀ img : Image,
    applyOsOps img (coalesce ops) = applyOsOps img ops := by
  fun_induction coalesce ops with
  | case1 f off d f' off' d' rest hc ih =>
    intro img
    obtain ⟨rfl, rfl⟩ := hc
    rw [ih img, applyOsOps_cons, applyOsOps_cons, applyOsOps_cons, Buf.write_write]
  | case2 f off d f' off' d' rest _ ih =>
    intro img
    rw [applyOsOps_cons, ih]
    rfl
  | case3 op rest _ ih =>
    intro img
    rw [applyOsOps_cons, ih]
    rfl
  | case4 => intro img; rfl

theorem applyOsOps_filter_sync (ops : List OsOp) : ∀ img : Image,
    applyOsOps img (ops.filter (· != .sync)) = applyOsOps img ops := by
  induction ops with
  | nil => intro img; rfl
  | cons op ops ih =>
    intro img
    by_cases h : op = .sync
    · subst h
      rw [List.filter_cons_of_neg (by simp), ih, applyOsOps_cons]
      rfl
    · rw [List.filter_cons_of_pos (by simpa using h), applyOsOps_cons, ih, applyOsOps_cons]

/-- what `St.sync` computes -/
theorem sync_disk (disk : Image) (pending : List OsOp) :
    applyOsOps disk (coalesce (pending.reverse.filter (· != .sync))) = applyOsOps disk pending.reverse := by
  rw [applyOsOps_coalesce, applyOsOps_filter_sync]

theorem take_split {α : Type} (ops : List α) (bk k : Nat) (h : bk ≤ k) :
    ops.take bk ++ (ops.drop bk).take (k - bk) = ops.take k := by
  have : k = bk + (k - bk) := by omega
  conv => rhs; rw [this, List.take_add]

theorem applyOsOps_incremental (img : Image) (ops : List OsOp) (bk k : Nat) (h : bk ≤ k) :
    applyOsOps (applyOsOps img (ops.take bk)) ((ops.drop bk).take (k - bk)) = applyOsOps img (ops.take k) := by
  rw [← Buf.applyOsOps_append, take_split ops bk k h]

theorem crashImage_base (img : Image) (ops : List OsOp) (k cut : Nat) :
    crashImage (applyOsOps img (ops.take k)) (ops.drop k) 0 cut = crashImage img ops k cut := by
  unfold crashImage
  simp only [List.take_zero, List.getElem?_drop, Nat.add_zero]
  rfl

/-- what `runCrash` computes: `bimg` is its cached image, after the first `bk ≤ k` operations -/
theorem runCrash_image (img bimg : Image) (ops : List OsOp) (bk k cut : Nat) (h : bk ≤ k)
    (hb : bimg = applyOsOps img (ops.take bk)) :
    applyOsOps bimg (coalesce (((ops.drop bk).take (k - bk)).filter (· != .sync))) = applyOsOps img (ops.take k) ∧
    crashImage (applyOsOps bimg (coalesce (((ops.drop bk).take (k - bk)).filter (· != .sync)))) (ops.drop k) 0 cut =
      crashImage img ops k cut := by
  have e : applyOsOps bimg (coalesce (((ops.drop bk).take (k - bk)).filter (· != .sync))) =
      applyOsOps img (ops.take k) := by
    rw [applyOsOps_coalesce, applyOsOps_filter_sync, hb, applyOsOps_incremental img ops bk k h]
  exact ⟨e, by rw [e, crashImage_base]⟩

/-- the restart of the cache (`bk = 0`, empty image) satisfies the hypothesis of `runCrash_image` -/
theorem runCrash_image_zero (img : Image) (ops : List OsOp) : img = applyOsOps img (ops.take 0) := rfl

/-- the cached power-loss state extended from `pk` to `i` operations -/
theorem prun_incremental (S : PState) (ops : List OsOpP) (pk i : Nat) (h : pk ≤ i) :
    prun (prun S (ops.take pk)) ((ops.drop pk).take (i - pk)) = prun S (ops.take i) := by
  rw [← P.prun_append, take_split ops pk i h]

theorem prun_zero (S : PState) (ops : List OsOpP) : S = prun S (ops.take 0) := rfl

/-! `runCrash` stores `baseK := min k ops.length` and the image after `ops.take k`, and the history goes
on: the next `crash` sees `ops ++ more`. The cached image is still "the image after the first `baseK`
operations" because `baseK ≤ ops.length` when it was stored; this is what the `min` is for. -/

theorem cache_stable (img : Image) (ops more : List OsOp) (bk : Nat) (h : bk ≤ ops.length) :
    applyOsOps img ((ops ++ more).take bk) = applyOsOps img (ops.take bk) := by
  rw [List.take_append_of_le_length h]

theorem prun_cache_stable (S : PState) (ops more : List OsOpP) (pk : Nat) (h : pk ≤ ops.length) :
    prun S ((ops ++ more).take pk) = prun S (ops.take pk) := by
  rw [List.take_append_of_le_length h]

/-- without `bk ≤ ops.length` a stored pair would be stale: `(1, [])` stored on an empty history;
    after one more operation the image after the first operation is not `[]` -/
example : applyOsOps [] ((([] : List OsOp) ++ [OsOp.create 0]).take 1) ≠ applyOsOps [] (([] : List OsOp).take 1) := by
  decide

end MRL.Glue
