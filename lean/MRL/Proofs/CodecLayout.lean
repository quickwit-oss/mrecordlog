/-
The writer as a layout of a frame list (C07): `writeEntryBufs` produces `layoutBufs g c fs` for a
frame list `fs` that follows the First/Middle*/Last (or Full) discipline, whose payloads
concatenate to the entry, and every frame of which fits the room left in its block. Then what the
proofs need of a layout (where it ends, its bytes and length, that no buffer crosses a block end, that
it determines its frames), and the frames of a list of entries as a function (`Torn.framesOf`).
-/
import MRL.Proofs.CodecFrame

namespace MRL.Codec
open Consts

abbrev Frm := FrameType × Bytes

/-- the buffers `write_frame` emits for a list of frames written one after the other from cursor
    `c`: each frame preceded by zero padding when fewer than `HEADER_LEN` bytes remain. -/
def layoutBufs (g : Geom) : Nat → List Frm → List Bytes
  | _, [] => []
  | c, fr :: fs => frameWrites g c fr.1 fr.2 ++ layoutBufs g (frameEndCursor g c fr.2.length) fs

def endCursor (g : Geom) : Nat → List Frm → Nat
  | c, [] => c
  | c, fr :: fs => endCursor g (frameEndCursor g c fr.2.length) fs

/-- every frame fits `max_writable_frame_length` at its cursor -/
def Fits (g : Geom) : Nat → List Frm → Prop
  | _, [] => True
  | c, fr :: fs => fr.2.length ≤ maxFrameLen g c ∧ Fits g (frameEndCursor g c fr.2.length) fs

/-- frame-type discipline of one entry: `ofFlags isFirst isLast`, i.e. a single Full, or
    First, Middle*, Last (with `b = false`: the tail of such a sequence). Never empty. -/
def EntryFrames : Bool → List Frm → Prop
  | _, [] => False
  | b, fr :: fs => fr.1 = FrameType.ofFlags b fs.isEmpty ∧ (fs ≠ [] → EntryFrames false fs)

def payloadOf (fs : List Frm) : Bytes := (fs.map (·.2)).flatten

@[simp] theorem payloadOf_nil : payloadOf [] = [] := rfl
@[simp] theorem payloadOf_cons (fr : Frm) (fs : List Frm) : payloadOf (fr :: fs) = fr.2 ++ payloadOf fs := by
  simp [payloadOf]
theorem payloadOf_append (a b : List Frm) : payloadOf (a ++ b) = payloadOf a ++ payloadOf b := by
  simp [payloadOf]

theorem EntryFrames.ne_nil {b : Bool} {fs : List Frm} (h : EntryFrames b fs) : fs ≠ [] := by
  cases fs with
  | nil => exact h.elim
  | cons _ _ => simp

theorem EntryFrames_single (b : Bool) (fr : Frm) :
    EntryFrames b [fr] ↔ fr.1 = FrameType.ofFlags b true := by
  simp [EntryFrames]

theorem EntryFrames_cons2 (b : Bool) (fr f2 : Frm) (fs : List Frm) :
    EntryFrames b (fr :: f2 :: fs) ↔ fr.1 = FrameType.ofFlags b false ∧ EntryFrames false (f2 :: fs) := by
  simp [EntryFrames]

theorem entryFrames_false_nonfirst : ∀ (fs : List Frm), EntryFrames false fs → ∀ fr ∈ fs, fr.1.isFirst = false := by
  intro fs
  induction fs with
  | nil => intro h; exact h.elim
  | cons x fs ih =>
    intro h fr hfr
    rcases List.mem_cons.mp hfr with rfl | hfr
    · rw [h.1]; cases fs.isEmpty <;> rfl
    · cases fs with
      | nil => cases hfr
      | cons y ys => exact ih (h.2 (by simp)) fr hfr

theorem entryFrames_after : ∀ (A : List Frm) (b : Bool) (x : Frm) (B : List Frm),
    EntryFrames b (A ++ x :: B) → ∀ y ∈ B, y.1.isFirst = false
  | [], _, _, B, h, y, hy => entryFrames_false_nonfirst B (h.2 (List.ne_nil_of_mem hy)) y hy
  | _ :: A, _, x, B, h, y, hy => entryFrames_after A false x B (h.2 (by simp)) y hy

inductive EntriesFrames : List Bytes → List Frm → Prop
  | nil : EntriesFrames [] []
  | cons {e : Bytes} {es : List Bytes} {fs fss : List Frm} :
      EntryFrames true fs → payloadOf fs = e → EntriesFrames es fss → EntriesFrames (e :: es) (fs ++ fss)

theorem maxFrameLen_good (g : Geom) (c : Nat) (h : 7 ≤ g.B - c) : maxFrameLen g c = g.B - c - 7 := by
  unfold maxFrameLen; rw [if_pos h]

theorem frameEndCursor_good (g : Geom) (c n : Nat) (h : 7 ≤ g.B - c) :
    frameEndCursor g c n = adv g c (7 + n) := by
  unfold frameEndCursor; rw [if_neg (Nat.not_lt.mpr h)]

theorem maxFrameLen_bad (g : Geom) (c : Nat) (h : g.B - c < 7) : maxFrameLen g c = maxFrameLen g 0 := by
  unfold maxFrameLen
  rw [if_neg (Nat.not_le.mpr h), if_pos (show HEADER_LEN ≤ g.B - 0 from Nat.le_of_lt g.hB)]
  rfl

theorem maxFrameLen_le (g : Geom) (c : Nat) : maxFrameLen g c ≤ g.B - 7 := by
  unfold maxFrameLen; split
  · exact Nat.sub_le_sub_right (Nat.sub_le _ _) _
  · exact Nat.le_refl _

theorem frameEndCursor_bad (g : Geom) (c n : Nat) (h : g.B - c < 7) :
    frameEndCursor g c n = frameEndCursor g 0 n := by
  unfold frameEndCursor
  rw [if_pos h, if_neg (show ¬ (g.B - 0 < HEADER_LEN) from Nat.not_lt.mpr (Nat.le_of_lt g.hB))]

theorem frameWrites_good (g : Geom) (c : Nat) (t : FrameType) (p : Bytes) (h : 7 ≤ g.B - c) :
    frameWrites g c t p = [encodeFrame t p] := by
  unfold frameWrites; rw [if_neg (Nat.not_lt.mpr h)]

theorem frameWrites_bad (g : Geom) (c : Nat) (t : FrameType) (p : Bytes) (h : g.B - c < 7) :
    frameWrites g c t p = zeros (g.B - c) :: frameWrites g 0 t p := by
  rw [frameWrites_good g 0 t p (Nat.le_of_lt g.hB)]
  unfold frameWrites; rw [if_pos h]

theorem writeEntryBufs_layout (g : Geom) (c : Nat) (isFirst : Bool) (payload : Bytes) (hc : c < g.B) :
    ∃ fs, writeEntryBufs g c isFirst payload hc = layoutBufs g c fs ∧ EntryFrames isFirst fs ∧
      payloadOf fs = payload ∧ Fits g c fs := by
  fun_induction writeEntryBufs g c isFirst payload hc with
  | case1 c isFirst payload hc n rest bufs hr =>
    refine ⟨[(FrameType.ofFlags isFirst rest.isEmpty, payload.take n)], (List.append_nil _).symm,
      (EntryFrames_single _ _).mpr (by rw [hr]), ?_, ?_, trivial⟩
    · have h := List.take_append_drop n payload
      rwa [show payload.drop n = [] from List.isEmpty_iff.mp hr] at h
    · rw [List.length_take]; exact Nat.le_trans (Nat.min_le_left _ _) (Nat.min_le_left _ _)
  | case2 c isFirst payload hc n rest bufs hr ih =>
    obtain ⟨fs, h1, h2, h3, h4⟩ := ih
    have hl : (payload.take n).length = n := by
      rw [List.length_take]; exact Nat.min_eq_left (Nat.min_le_right _ _)
    refine ⟨(FrameType.ofFlags isFirst rest.isEmpty, payload.take n) :: fs, ?_, ⟨?_, fun _ => h2⟩, ?_, ?_, ?_⟩
    · simp only [layoutBufs, bufs, hl, h1]
    · show FrameType.ofFlags isFirst rest.isEmpty = FrameType.ofFlags isFirst fs.isEmpty
      rw [eq_false_of_ne_true hr, List.isEmpty_eq_false_iff.mpr h2.ne_nil]
    · rw [payloadOf_cons, h3]; exact List.take_append_drop n payload
    · rw [hl]; exact Nat.min_le_left _ _
    · rw [hl]; exact h4

theorem endCursor_lt (g : Geom) (c : Nat) (fs : List Frm) (hc : c < g.B) (hf : Fits g c fs) :
    endCursor g c fs < g.B := by
  induction fs generalizing c with
  | nil => exact hc
  | cons fr fs ih => exact ih _ (frameEndCursor_lt g c _ hc hf.1) hf.2

theorem adv_pos (g : Geom) (c n : Nat) : ∃ j, c + n = j * g.B + adv g c n := by
  unfold adv
  by_cases h : c + n = g.B
  · exact ⟨1, by rw [if_pos h, h, Nat.one_mul]; rfl⟩
  · exact ⟨0, by rw [if_neg h, Nat.zero_mul, Nat.zero_add]⟩

theorem frameWrites_pos (g : Geom) (c : Nat) (t : FrameType) (p : Bytes) (hc : c < g.B) :
    ∃ j, c + totalLen (frameWrites g c t p) = j * g.B + frameEndCursor g c p.length := by
  have good : ∀ c, 7 ≤ g.B - c →
      ∃ j, c + totalLen (frameWrites g c t p) = j * g.B + frameEndCursor g c p.length := by
    intro c h
    rw [frameWrites_good g c t p h, frameEndCursor_good g c _ h, totalLen_cons, totalLen_nil, length_encodeFrame]
    exact adv_pos g c (7 + p.length)
  by_cases h : 7 ≤ g.B - c
  · exact good c h
  · have h := Nat.not_le.mp h
    obtain ⟨j, hj⟩ := good 0 (Nat.le_of_lt g.hB)
    refine ⟨1 + j, ?_⟩
    rw [frameWrites_bad g c t p h, frameEndCursor_bad g c _ h, totalLen_cons, length_zeros, ← Nat.add_assoc,
      Nat.add_sub_of_le (Nat.le_of_lt hc), Nat.add_mul, Nat.one_mul, Nat.add_assoc, ← hj, Nat.zero_add]

theorem layoutBufs_pos (g : Geom) (c : Nat) (fs : List Frm) (hc : c < g.B) (hf : Fits g c fs) :
    ∃ j, c + totalLen (layoutBufs g c fs) = j * g.B + endCursor g c fs := by
  induction fs generalizing c with
  | nil => exact ⟨0, by simp [layoutBufs, endCursor]⟩
  | cons fr fs ih =>
    obtain ⟨j1, h1⟩ := frameWrites_pos g c fr.1 fr.2 hc
    obtain ⟨j2, h2⟩ := ih _ (frameEndCursor_lt g c _ hc hf.1) hf.2
    refine ⟨j1 + j2, ?_⟩
    simp only [layoutBufs, endCursor, totalLen_append]
    rw [← Nat.add_assoc, h1, Nat.add_assoc, h2, ← Nat.add_assoc, Nat.add_mul]

theorem layoutBufs_mod (g : Geom) (c : Nat) (fs : List Frm) (hc : c < g.B) (hf : Fits g c fs) :
    (c + totalLen (layoutBufs g c fs)) % g.B = endCursor g c fs := by
  obtain ⟨j, h⟩ := layoutBufs_pos g c fs hc hf
  rw [h, Nat.add_comm, Nat.add_mul_mod_self_right, Nat.mod_eq_of_lt (endCursor_lt g c fs hc hf)]

theorem layoutBufs_append (g : Geom) (c : Nat) (a b : List Frm) :
    layoutBufs g c (a ++ b) = layoutBufs g c a ++ layoutBufs g (endCursor g c a) b := by
  induction a generalizing c with
  | nil => simp [layoutBufs, endCursor]
  | cons fr fs ih => simp [layoutBufs, endCursor, ih]

theorem Fits_append (g : Geom) (c : Nat) (a b : List Frm) :
    Fits g c (a ++ b) ↔ Fits g c a ∧ Fits g (endCursor g c a) b := by
  induction a generalizing c with
  | nil => simp [Fits, endCursor]
  | cons fr fs ih => simp [Fits, endCursor, ih, and_assoc]

theorem endCursor_append (g : Geom) (c : Nat) (a b : List Frm) :
    endCursor g c (a ++ b) = endCursor g (endCursor g c a) b := by
  induction a generalizing c with
  | nil => simp [endCursor]
  | cons fr fs ih => simp [endCursor, ih]

/-- total zero padding of a layout: the sum of `Torn.padLen` over the cursors of its frames -/
def padTotal (g : Geom) : Nat → List Frm → Nat
  | _, [] => 0
  | c, fr :: fs => (if g.B - c < HEADER_LEN then g.B - c else 0) + padTotal g (frameEndCursor g c fr.2.length) fs

end MRL.Codec

namespace MRL.Torn
open Codec Consts

/-- zero padding the writer inserts before a frame at cursor `c` -/
def padLen (g : Geom) (c : Nat) : Nat := if g.B - c < HEADER_LEN then g.B - c else 0

theorem frameWrites_flatten (g : Geom) (c : Nat) (t : FrameType) (p : Bytes) :
    (frameWrites g c t p).flatten = zeros (padLen g c) ++ encodeFrame t p := by
  unfold frameWrites padLen
  split <;> simp [zeros]

theorem layout_cons_flatten (g : Geom) (c : Nat) (t : FrameType) (p : Bytes) (fs : List Frm) :
    (layoutBufs g c ((t, p) :: fs)).flatten =
      zeros (padLen g c) ++ encodeFrame t p ++ (layoutBufs g (frameEndCursor g c p.length) fs).flatten := by
  simp only [layoutBufs, List.flatten_append, frameWrites_flatten]

theorem layout_cons_pos (g : Geom) (c : Nat) (fr : Frm) (fs : List Frm) :
    0 < (layoutBufs g c (fr :: fs)).flatten.length := by
  obtain ⟨t, p⟩ := fr
  rw [layout_cons_flatten]; simp [length_encodeFrame]; omega

end MRL.Torn

namespace MRL.Codec
open Consts Torn

theorem totalLen_frameWrites_eq (g : Geom) (c : Nat) (t : FrameType) (p : Bytes) :
    totalLen (frameWrites g c t p) = padLen g c + (HEADER_LEN + p.length) := by
  rw [totalLen_eq, frameWrites_flatten, List.length_append, length_zeros, length_encodeFrame]

theorem totalLen_layoutBufs (g : Geom) (c : Nat) (fs : List Frm) :
    totalLen (layoutBufs g c fs) = (payloadOf fs).length + HEADER_LEN * fs.length + padTotal g c fs := by
  induction fs generalizing c with
  | nil => rfl
  | cons fr fs ih =>
    simp only [layoutBufs, totalLen_append, totalLen_frameWrites_eq, padLen, ih, padTotal, payloadOf_cons,
      List.length_append, List.length_cons, HEADER_LEN]
    omega

/-- buffers written sequentially from cursor `c` (`adv` = running cursor): each is non-empty and
    ends at or before the end of the block it starts in. -/
def NoCross (g : Geom) : Nat → List Bytes → Prop
  | _, [] => True
  | c, b :: bs => 0 < b.length ∧ c + b.length ≤ g.B ∧ NoCross g (adv g c b.length) bs

theorem adv_end (g : Geom) (c : Nat) (hc : c < g.B) : adv g c (g.B - c) = 0 := by
  unfold adv; rw [if_pos (Nat.add_sub_of_le (Nat.le_of_lt hc))]

theorem noCross_frameWrites (g : Geom) (c : Nat) (t : FrameType) (p : Bytes) (rest : List Bytes) (hc : c < g.B)
    (hf : p.length ≤ maxFrameLen g c) (hr : NoCross g (frameEndCursor g c p.length) rest) :
    NoCross g c (frameWrites g c t p ++ rest) := by
  have good : ∀ c, c ≤ g.B → 7 ≤ g.B - c → p.length ≤ maxFrameLen g c →
      NoCross g (frameEndCursor g c p.length) rest → NoCross g c (frameWrites g c t p ++ rest) := by
    intro c hc h hf hr
    rw [maxFrameLen_good g c h] at hf
    rw [frameEndCursor_good g c _ h] at hr
    rw [frameWrites_good g c t p h]
    refine ⟨?_, ?_, ?_⟩
    · rw [length_encodeFrame]; exact Nat.lt_of_lt_of_le (by decide : 0 < 7) (Nat.le_add_right 7 _)
    · rw [length_encodeFrame]; exact Nat.add_le_of_le_sub' hc (Nat.add_le_of_le_sub' h hf)
    · rw [length_encodeFrame]; exact hr
  by_cases h : 7 ≤ g.B - c
  · exact good c (Nat.le_of_lt hc) h hf hr
  · have h := Nat.not_le.mp h
    rw [maxFrameLen_bad g c h] at hf
    rw [frameEndCursor_bad g c _ h] at hr
    rw [frameWrites_bad g c t p h]
    refine ⟨?_, ?_, ?_⟩
    · rw [length_zeros]; exact Nat.sub_pos_of_lt hc
    · rw [length_zeros, Nat.add_sub_of_le (Nat.le_of_lt hc)]; exact Nat.le_refl _
    · rw [length_zeros, adv_end g c hc]; exact good 0 (Nat.zero_le _) (Nat.le_of_lt g.hB) hf hr

theorem noCross_layoutBufs (g : Geom) (c : Nat) (fs : List Frm) (hc : c < g.B) (hf : Fits g c fs) :
    NoCross g c (layoutBufs g c fs) := by
  induction fs generalizing c with
  | nil => trivial
  | cons fr fs ih =>
    exact noCross_frameWrites g c fr.1 fr.2 _ hc hf.1 (ih _ (frameEndCursor_lt g c _ hc hf.1) hf.2)

theorem layoutBufs_filter (g : Geom) (c : Nat) (fs : List Frm) :
    (layoutBufs g c fs).filter (fun b => !isAllZero b) = fs.map (fun fr => encodeFrame fr.1 fr.2) := by
  induction fs generalizing c with
  | nil => simp [layoutBufs]
  | cons fr fs ih =>
    simp only [layoutBufs, frameWrites, List.filter_append, ih, List.map_cons]
    split <;> simp [List.filter, isAllZero_zeros, isAllZero_encodeFrame]

theorem layoutBufs_bad (g : Geom) (c : Nat) (fr : Frm) (fs : List Frm) (h : g.B - c < 7) :
    layoutBufs g c (fr :: fs) = zeros (g.B - c) :: layoutBufs g 0 (fr :: fs) := by
  simp only [layoutBufs, frameWrites_bad g c fr.1 fr.2 h, frameEndCursor_bad g c _ h, List.cons_append]

theorem mod_of_pos (g : Geom) (k c : Nat) (hc : c < g.B) : (k * g.B + c) % g.B = c := by
  rw [Nat.add_comm, Nat.add_mul_mod_self_right, Nat.mod_eq_of_lt hc]

theorem div_of_pos (B k c : Nat) (hc : c < B) : (k * B + c) / B = k := by
  rw [Nat.add_comm, Nat.add_mul_div_right _ _ (Nat.lt_of_le_of_lt (Nat.zero_le c) hc), Nat.div_eq_of_lt hc,
    Nat.zero_add]

theorem next_block (B k c : Nat) (hc : c ≤ B) : k * B + c + (B - c) = (k + 1) * B + 0 := by
  rw [Nat.add_assoc, Nat.add_sub_cancel' hc, Nat.add_mul, Nat.one_mul]; rfl

theorem frameWrites_eq (g : Geom) (c : Nat) (t : FrameType) (p : Bytes) :
    frameWrites g c t p =
      (if g.B - c < HEADER_LEN then [zeros (g.B - c)] else []) ++ [encodeFrame t p] := by
  unfold frameWrites; split <;> rfl

theorem layoutBufs_inj (g : Geom) : ∀ (fs fs' : List Frm) (c : Nat),
    layoutBufs g c fs = layoutBufs g c fs' → fs = fs' := by
  intro fs
  induction fs with
  | nil =>
    intro fs' c h
    cases fs' with
    | nil => rfl
    | cons fr fs' => simp [layoutBufs, frameWrites_eq] at h
  | cons fr fs ih =>
    intro fs' c h
    obtain ⟨t, p⟩ := fr
    cases fs' with
    | nil => simp [layoutBufs, frameWrites_eq] at h
    | cons fr' fs' =>
      obtain ⟨t', p'⟩ := fr'
      -- the same padding on both sides, then the two frames
      simp only [layoutBufs, frameWrites_eq, List.append_assoc, List.singleton_append] at h
      have hkey := List.cons.inj (List.append_cancel_left h)
      obtain ⟨rfl, rfl⟩ := encodeFrame_inj _ _ _ _ hkey.1
      rw [ih fs' _ hkey.2]

end MRL.Codec

namespace MRL.C07

/-- cursor after writing `n` more bytes from in-block cursor `c` -/
def cursorAfter (g : Geom) (c n : Nat) : Nat := (c + n) % g.B

theorem cursorAfter_lt (g : Geom) (c n : Nat) : cursorAfter g c n < g.B :=
  Nat.mod_lt _ (Torn.Bpos g)

/-- all buffers of a list of entries written one after the other: each with `writeEntry`, the
    next one starting where the previous one ended -/
def writeEntriesBufs (g : Geom) : (c : Nat) → (hc : c < g.B) → List Bytes → List Bytes
  | _, _, [] => []
  | c, hc, e :: es =>
    writeEntry g c e hc ++
      writeEntriesBufs g (cursorAfter g c (totalLen (writeEntry g c e hc))) (cursorAfter_lt g _ _) es

end MRL.C07

namespace MRL.Torn
open Codec

/-- the frames the writer cuts an entry into, as a function: chosen from `writeEntryBufs_layout`, used only
    through `entryFrames_spec`, and unique by `layoutBufs_inj`. Not the predicate `Codec.EntryFrames` -/
noncomputable def entryFrames (g : Geom) (c : Nat) (e : Bytes) (hc : c < g.B) : List Frm :=
  Classical.choose (writeEntryBufs_layout g c true e hc)

theorem entryFrames_spec (g : Geom) (c : Nat) (e : Bytes) (hc : c < g.B) :
    writeEntry g c e hc = layoutBufs g c (entryFrames g c e hc) ∧ EntryFrames true (entryFrames g c e hc) ∧
      payloadOf (entryFrames g c e hc) = e ∧ Fits g c (entryFrames g c e hc) :=
  Classical.choose_spec (writeEntryBufs_layout g c true e hc)

noncomputable def framesOf (g : Geom) : (c : Nat) → (hc : c < g.B) → List Bytes → List Frm
  | _, _, [] => []
  | c, hc, e :: es =>
    entryFrames g c e hc ++
      framesOf g (C07.cursorAfter g c (totalLen (writeEntry g c e hc))) (C07.cursorAfter_lt g _ _) es

theorem cursorAfter_entry (g : Geom) (c : Nat) (e : Bytes) (hc : c < g.B) :
    C07.cursorAfter g c (totalLen (writeEntry g c e hc)) = endCursor g c (entryFrames g c e hc) := by
  obtain ⟨h1, _, _, h4⟩ := entryFrames_spec g c e hc
  unfold C07.cursorAfter; rw [h1]; exact layoutBufs_mod g c _ hc h4

theorem framesOf_spec (g : Geom) (es : List Bytes) : ∀ (c : Nat) (hc : c < g.B),
    C07.writeEntriesBufs g c hc es = layoutBufs g c (framesOf g c hc es) ∧
    EntriesFrames es (framesOf g c hc es) ∧ Fits g c (framesOf g c hc es) := by
  induction es with
  | nil => intro c hc; exact ⟨rfl, .nil, trivial⟩
  | cons e es ih =>
    intro c hc
    obtain ⟨h1, h2, h3, h4⟩ := entryFrames_spec g c e hc
    obtain ⟨k1, k2, k3⟩ := ih (C07.cursorAfter g c (totalLen (writeEntry g c e hc))) (C07.cursorAfter_lt g _ _)
    have hcur := cursorAfter_entry g c e hc
    refine ⟨?_, .cons h2 h3 k2, ?_⟩
    · simp only [C07.writeEntriesBufs, framesOf]
      rw [k1, layoutBufs_append, ← hcur]
      exact congrArg (fun a => a ++ _) h1
    · simp only [framesOf]
      rw [Fits_append, ← hcur]; exact ⟨h4, k3⟩

end MRL.Torn
