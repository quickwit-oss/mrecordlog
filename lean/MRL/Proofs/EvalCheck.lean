/-
The finite checks of the collision clauses on the kernel-evaluable reader and checksum of
`MRL/Proofs/EvalTwin.lean`. `Gen.checkAll` and `Img.accepted` reach the checksum only through
`frameCrc`: a concrete instance is `simp only [accepted, acceptB, frameCrc_eq]; decide +kernel`.
`Img.frameCount`, `deliveredEvents` and the bytes of an item tape run the reader or the writer and get
twins, equal to the originals for all arguments.
-/
import MRL.Proofs.EvalTwin
import MRL.Proofs.ImgClean

namespace MRL.Twin
open Consts Codec G H Gen Img

theorem frameCount_twin (g : Geom) (F : Nat) (S : Bytes) (N : Nat) :
    frameCount g F S N =
      match scanBlocksT g none 0 0 (blkAt g F S 0) 0 (blksFrom g F S 1 (N - 1)) with
      | some r => (r.1.filter isFrameEv).length
      | none => 0 := by
  obtain ⟨io', h⟩ := scanBlocks_eq_scanB g 0 0 (blkAt g F S 0) 0 (blksFrom g F S 1 (N - 1))
  rw [← scanBlocks_twin, h]
  rfl

theorem deliveredEvents_twin (g : Geom) (img : Image) :
    deliveredEvents g img none =
      match blocksOf g (prepareImage g img).1 1 with
      | ([], _) => []
      | (b0 :: rest, trail) =>
        match scanBlocksT g none trail b0.cost b0 0 rest with
        | some r => assemble { within := false, buf := [], attr := b0.file } r.1
        | none => [] := by
  unfold deliveredEvents
  rcases hb : blocksOf g (prepareImage g img).1 1 with ⟨_ | ⟨b0, rest⟩, trail⟩
  · rfl
  · obtain ⟨io', h⟩ := scanBlocks_eq_scanB g trail b0.cost b0 0 rest
    simp only [← scanBlocks_twin, h, Rec.scanPrefix_of_some g none trail rest _ _ _ _ _ _ h, ioFails]
    rfl

theorem good_eq : Torn.good = fun fr => (leBytes (crc32N (fr.1.code.toUInt8 :: fr.2)) 4, fr.1, fr.2) := by
  funext fr
  rw [Torn.good, frameCrc_eq]

/-- a tape of items whose slots are spelled out evaluates without computing a checksum table -/
theorem flatJ_twin (g : Geom) (ais : List L.AItm) : ∀ c, L.flatJ g c ais =
    L.flatJ g c (ais.map fun a => (a.1, some (a.2.getD (encodeFrameN a.1.2.1 a.1.2.2)))) := by
  induction ais with
  | nil => intro c; rfl
  | cons a ais ih =>
    intro c
    rw [List.map_cons, L.flatJ, L.flatJ, ← ih]
    simp only [L.slot, Option.getD_some, encodeFrame_eq]

end MRL.Twin
