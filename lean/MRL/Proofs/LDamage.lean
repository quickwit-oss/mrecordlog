/-
Reassembly of an item tape one of whose frames has become a junk item (the byte-level side, a frame
whose checksum and/or payload bytes were replaced and whose check fails, is `C09X.damaged_layout`): the
frames of the same entry written before it deliver nothing (an unfinished entry), the junk slot gives
one `corrupt` event, the frames of the same entry after it are skipped (non-first frames outside an
entry); every other retained entry is delivered. So the entries delivered are the retained entries of
the journal, all of them if the frame was a lead frame or belonged to an entry that was never finished,
all but the one the frame belongs to otherwise; `hitGroup` says which: `some k`, the index of that
entry among the retained ones, or `none`.
-/
import MRL.Proofs.LRead

namespace MRL.LR
open Codec G Torn L

theorem entryFrames_types : ∀ (fs fs' : List Frm) (b : Bool), fs.map (·.1) = fs'.map (·.1) →
    EntryFrames b fs → EntryFrames b fs'
  | [], _, _, _, h => h.elim
  | fr :: fs, [], _, hm, _ => by simp at hm
  | fr :: fs, fr' :: fs', b, hm, h => by
    simp only [List.map_cons, List.cons.injEq] at hm
    have hemp : fs.isEmpty = fs'.isEmpty := by
      cases fs with
      | nil =>
        have : fs' = [] := by simpa using hm.2.symm
        rw [this]
      | cons x xs =>
        cases fs' with
        | nil => simp at hm
        | cons y ys => rfl
    refine ⟨by rw [← hm.1, ← hemp]; exact h.1, ?_⟩
    intro hne
    have hne' : fs ≠ [] := by
      intro e; rw [e] at hm; simp at hm; exact hne hm.2
    exact entryFrames_types fs fs' false hm.2 (h.2 hne')

def liveJ (gs : List Grp) : List JE := (liveOf gs).map (·.1)

theorem liveJ_append (a b : List Grp) : liveJ (a ++ b) = liveJ a ++ liveJ b := by
  simp [liveJ, liveOf_append]

/-- `L.asm_reattr`, keeping only what is delivered -/
theorem asm_groups' (F : Nat) (gs : List Grp) (st : AsmSt) (tail : List RdEv)
    (hok : ∀ x ∈ gs, GrpOK x) (hmono : (tfs (gs.flatMap (·.2))).Pairwise (fun a b => a.1 ≤ b.1))
    (hlo : ∀ a ∈ tfs (gs.flatMap (·.2)), st.attr ≤ a.1) (hF : F ≤ st.attr) :
    ∃ (Jd : List JE) (st' : AsmSt) (R : List RecEv),
      assemble st (evsJ (gs.flatMap (·.2)) ++ tail) = R ++ assemble st' tail ∧
      entriesOf R = entriesEv Jd ∧ All2 (Rel F) Jd (liveJ gs) := by
  obtain ⟨st', _, g3, g4, g5⟩ := asm_reattr F gs st tail hok hmono hlo hF
  exact ⟨(liveOf (reattr st.attr gs)).map (·.1), st', _, g4, g5, g3⟩

theorem asm_damaged_part (pre : List AItm) (a' : AItm) (post : List AItm) (rest0 : List Frm) (st : AsmSt)
    (evs : List RdEv) (hpre : ∀ x ∈ pre, x.2 = none) (hpost : ∀ x ∈ post, x.2 = none) (r : Bytes)
    (ha' : a'.2 = some r) (hE : EntryFrames true (frs pre ++ a'.1.2 :: (frs post ++ rest0))) :
    ∃ buf, assemble st (evsJ (pre ++ a' :: post) ++ evs) =
      RecEv.corrupt :: assemble { within := false, buf := buf, attr := a'.1.1 } evs := by
  have hev : evJ a' = RdEv.corrupt a'.1.1 := by simp [evJ, ha']
  rw [evsJ_append, evsJ_cons, evsJ_none hpre, evsJ_none hpost, hev, List.append_assoc, List.cons_append]
  obtain ⟨st1, _, h1⟩ := assemble_partial (tfs pre) true (a'.1.2 :: (frs post ++ rest0)) st
    (RdEv.corrupt a'.1.1 :: (Rec.evsOf (tfs post) ++ evs)) (by simp) hE (Or.inl rfl)
  rw [h1]
  simp only [assemble]
  refine ⟨st1.buf, ?_⟩
  rw [assemble_lead _ rfl (tfs post) evs]
  intro y hy
  have : y.2 ∈ frs post := by
    unfold frs untag
    exact List.mem_map_of_mem (f := fun x : TFrm => x.2) hy
  exact entryFrames_after (frs pre) true a'.1.2 (frs post ++ rest0) hE y.2 (List.mem_append_left _ this)

theorem frs_types_congr (pre : List AItm) (a a' : AItm) (post : List AItm) (ht : a'.1.2.1 = a.1.2.1) :
    (frs (pre ++ a :: post)).map (·.1) = (frs pre ++ a'.1.2 :: frs post).map (·.1) := by
  rw [frs_append, frs_cons]
  simp [ht]

theorem grp_damaged (x : Grp) (hokx : GrpOK x) (pre : List AItm) (a : AItm) (post : List AItm)
    (hx : x.2 = pre ++ a :: post) (ha : a.2 = none) (a' : AItm) (ht : a'.1.2.1 = a.1.2.1) (r : Bytes)
    (hr : a'.2 = some r) (st : AsmSt) (evs : List RdEv) :
    ∃ buf, assemble st (evsJ (pre ++ a' :: post) ++ evs) =
      RecEv.corrupt :: assemble { within := false, buf := buf, attr := a'.1.1 } evs := by
  obtain ⟨oj, fs⟩ := x
  simp only at hx
  subst hx
  cases oj with
  | some j =>
    obtain ⟨hso, hnone⟩ : SegOK (j, tfs (pre ++ a :: post)) ∧ ∀ y ∈ pre ++ a :: post, y.2 = none := hokx
    have hE : EntryFrames true (frs pre ++ a'.1.2 :: (frs post ++ [])) := by
      rw [List.append_nil]
      exact entryFrames_types _ _ true (frs_types_congr pre a a' post ht) hso.frames
    exact asm_damaged_part pre a' post [] st evs
      (fun y hy => hnone y (List.mem_append_left _ hy))
      (fun y hy => hnone y (List.mem_append_right _ (List.mem_cons_of_mem _ hy))) r hr hE
  | none =>
    rcases hokx with ⟨rest, hrest, hE0, hnone⟩ | ⟨a0, r0, hfs, har⟩
    · simp only at hE0 hnone
      have hE : EntryFrames true (frs pre ++ a'.1.2 :: (frs post ++ rest)) := by
        apply entryFrames_types _ _ true _ hE0
        rw [List.map_append, frs_types_congr pre a a' post ht]
        simp
      exact asm_damaged_part pre a' post rest st evs
        (fun y hy => hnone y (List.mem_append_left _ hy))
        (fun y hy => hnone y (List.mem_append_right _ (List.mem_cons_of_mem _ hy))) r hr hE
    · simp only at hfs har
      have hmem : a ∈ [a0] := by rw [← hfs]; simp
      rw [List.mem_singleton] at hmem
      rw [hmem, har] at ha
      cases ha

/-- the live group (counted among the live ones, from `c`) holding position `n` of the groups' items -/
def hitGroups : List Grp → Nat → Nat → Option Nat
  | [], _, _ => none
  | x :: gs, n, c =>
    if n < x.2.length then x.1.map (fun _ => c)
    else hitGroups gs (n - x.2.length) (c + (if x.1.isSome then 1 else 0))

/-- the live group holding position `n` of the tape `lead ++ gs.flatMap (·.2)`, if any -/
def hitGroup (lead : List AItm) (gs : List Grp) (n : Nat) : Option Nat :=
  if n < lead.length then none else hitGroups gs (n - lead.length) 0

theorem liveJ_cons_none (fs : List AItm) (gs : List Grp) : liveJ ((none, fs) :: gs) = liveJ gs := by
  rw [liveJ, liveOf_cons_none]; rfl

theorem liveJ_cons_some (j : JE) (fs : List AItm) (gs : List Grp) : liveJ ((some j, fs) :: gs) = j :: liveJ gs := by
  rw [liveJ, liveOf_cons_some]; rfl

theorem liveJ_cons_length (y : Grp) (gs : List Grp) :
    (liveJ (y :: gs)).length = (if y.1.isSome then 1 else 0) + (liveJ gs).length := by
  obtain ⟨oj, fs⟩ := y
  cases oj with
  | none => rw [liveJ_cons_none]; exact (Nat.zero_add _).symm
  | some j => rw [liveJ_cons_some]; exact Nat.add_comm _ 1

theorem hitGroups_spec : ∀ (g1 : List Grp) (x : Grp) (g2 : List Grp) (pre : List AItm) (a : AItm)
    (post : List AItm), x.2 = pre ++ a :: post → ∀ c,
    hitGroups (g1 ++ x :: g2) ((g1.flatMap (·.2)).length + pre.length) c =
      x.1.map (fun _ => c + (liveJ g1).length)
  | [], x, g2, pre, a, post, hx, c => by
    simp only [List.nil_append, List.flatMap_nil, List.length_nil, Nat.zero_add, hitGroups]
    rw [if_pos (by rw [hx]; simp)]
    simp [liveJ, liveOf]
  | y :: g1, x, g2, pre, a, post, hx, c => by
    simp only [List.cons_append, List.flatMap_cons, List.length_append, hitGroups]
    rw [if_neg (Nat.not_lt.mpr (Nat.le_trans (Nat.le_add_right _ _) (Nat.le_add_right _ _))),
      Nat.add_assoc y.2.length, Nat.add_sub_cancel_left, hitGroups_spec g1 x g2 pre a post hx, liveJ_cons_length,
      Nat.add_assoc]

/-- `a'` is the junk item standing in place of `a`, with its file tag and its frame TYPE (`hf`, `ht`). Nothing else
    of `a'` matters: reassembly sees one `corrupt` event tagged with that file, and the First/Middle/Last shape of
    the group it cuts depends on the types only (`entryFrames_types`). `tail`: the events read after the tape. -/
theorem asm_damaged (F : Nat) (lead : List AItm) (gs : List Grp)
    (hlead : ∀ a ∈ lead, a.2 = none ∧ a.1.2.1.isFirst = false) (hok : ∀ y ∈ gs, GrpOK y)
    (hmono : (tfs (lead ++ gs.flatMap (·.2))).Pairwise (fun a b => a.1 ≤ b.1))
    (hF : ∀ x ∈ tfs (lead ++ gs.flatMap (·.2)), F ≤ x.1)
    (A1 : List AItm) (a : AItm) (A2 : List AItm) (hsplit : lead ++ gs.flatMap (·.2) = A1 ++ a :: A2)
    (ha : a.2 = none) (a' : AItm) (hf : a'.1.1 = a.1.1) (ht : a'.1.2.1 = a.1.2.1) (r : Bytes)
    (hr : a'.2 = some r) (tail : List RdEv) :
    ∃ (Jd : List JE) (st' : AsmSt) (R : List RecEv),
      assemble { within := false, buf := [], attr := F } (evsJ (A1 ++ a' :: A2) ++ tail) = R ++ assemble st' tail ∧
      entriesOf R = entriesEv Jd ∧
      (match hitGroup lead gs A1.length with
       | none => All2 (Rel F) Jd (liveJ gs)
       | some k => All2 (Rel F) Jd ((liveJ gs).eraseIdx k) ∧
           ∃ j fs, (liveJ gs)[k]? = some j ∧ (some j, fs) ∈ gs ∧ a ∈ fs) := by
  rw [hsplit] at hmono hF
  have hFa : F ≤ a'.1.1 := by rw [hf]; exact hF a.1 (by rw [tfs_append, tfs_cons]; simp)
  have hafter : ∀ b ∈ tfs A2, a'.1.1 ≤ b.1 := by
    intro b hb
    rw [tfs_append, tfs_cons] at hmono
    rw [hf]
    exact (List.pairwise_cons.mp (List.pairwise_append.mp hmono).2.1).1 b hb
  have hmonoA2 : (tfs A2).Pairwise (fun a b => a.1 ≤ b.1) := by
    rw [tfs_append, tfs_cons] at hmono
    exact (List.pairwise_cons.mp (List.pairwise_append.mp hmono).2.1).2
  have hmonoA1 : (tfs A1).Pairwise (fun a b => a.1 ≤ b.1) := by
    rw [tfs_append] at hmono
    exact (List.pairwise_append.mp hmono).1
  have hcase : (∃ l2, lead = A1 ++ a :: l2 ∧ A2 = l2 ++ gs.flatMap (·.2)) ∨
      (∃ c, A1 = lead ++ c ∧ gs.flatMap (·.2) = c ++ a :: A2) := by
    rcases List.append_eq_append_iff.mp hsplit with ⟨c, h1, h2⟩ | ⟨c, h1, h2⟩
    · exact Or.inr ⟨c, h1, h2⟩
    · cases c with
      | nil => exact Or.inr ⟨[], by simpa using h1.symm, by simpa using h2.symm⟩
      | cons c0 c =>
        simp only [List.cons_append, List.cons.injEq] at h2
        obtain ⟨rfl, h2⟩ := h2
        exact Or.inl ⟨c, h1, h2⟩
  rcases hcase with ⟨l2, hl, hA2⟩ | ⟨c, hA1, hG⟩
  · -- a lead frame
    have hA1n : ∀ x ∈ A1, x.2 = none ∧ x.1.2.1.isFirst = false :=
      fun x hx => hlead x (by rw [hl]; exact List.mem_append_left _ hx)
    have hl2n : ∀ x ∈ l2, x.2 = none ∧ x.1.2.1.isFirst = false :=
      fun x hx => hlead x (by rw [hl]; exact List.mem_append_right _ (List.mem_cons_of_mem _ hx))
    have hnf : ∀ (X : List AItm), (∀ x ∈ X, x.2 = none ∧ x.1.2.1.isFirst = false) →
        ∀ y ∈ tfs X, y.2.1.isFirst = false := by
      intro X hX y hy
      obtain ⟨x, hx, rfl⟩ := List.mem_map.mp hy
      exact (hX x hx).2
    have hev : evJ a' = RdEv.corrupt a'.1.1 := by simp [evJ, hr]
    rw [hA2] at hafter hmonoA2
    rw [tfs_append] at hafter hmonoA2
    obtain ⟨Jd, st', R, g4, g5, g3⟩ := asm_groups' F gs { within := false, buf := [], attr := a'.1.1 } tail hok
      (List.pairwise_append.mp hmonoA2).2.1 (fun b hb => hafter b (List.mem_append_right _ hb)) hFa
    have hhit : hitGroup lead gs A1.length = none := by
      unfold hitGroup
      rw [if_pos (by rw [hl]; simp)]
    refine ⟨Jd, st', RecEv.corrupt :: R, ?_, by simpa [entriesOf, List.filter_cons] using g5, by rw [hhit]; exact g3⟩
    rw [hA2, evsJ_append, evsJ_cons, evsJ_append, evsJ_none (fun x hx => (hA1n x hx).1),
      evsJ_none (fun x hx => (hl2n x hx).1), hev, List.append_assoc, assemble_lead _ rfl (tfs A1) _ (hnf A1 hA1n)]
    simp only [List.cons_append, assemble, List.append_assoc]
    rw [assemble_lead _ rfl (tfs l2) _ (hnf l2 hl2n), g4]
  · -- a frame of a group
    obtain ⟨g1, x, g2, pre, post, hgs, hx, hc, hA2⟩ := flatMap_split (fun y : Grp => y.2) gs c a A2 hG
    have hok1 : ∀ y ∈ g1, GrpOK y := fun y hy => hok y (by rw [hgs]; exact List.mem_append_left _ hy)
    have hok2 : ∀ y ∈ g2, GrpOK y := fun y hy =>
      hok y (by rw [hgs]; exact List.mem_append_right _ (List.mem_cons_of_mem _ hy))
    have hokx : GrpOK x := hok x (by rw [hgs]; simp)
    rw [hA1, hc] at hmonoA1 hF
    have hmono1 : (tfs (g1.flatMap (·.2))).Pairwise (fun a b => a.1 ≤ b.1) := by
      rw [tfs_append, tfs_append] at hmonoA1
      exact (List.pairwise_append.mp (List.pairwise_append.mp hmonoA1).2.1).1
    have hF1 : ∀ b ∈ tfs (g1.flatMap (·.2)), F ≤ b.1 := by
      intro b hb
      apply hF b
      rw [tfs_append, tfs_append, tfs_append]
      exact List.mem_append_left _ (List.mem_append_right _ (List.mem_append_left _ hb))
    rw [hA2, tfs_append] at hafter hmonoA2
    have hnf : ∀ y ∈ tfs lead, y.2.1.isFirst = false := by
      intro y hy
      obtain ⟨z, hz, rfl⟩ := List.mem_map.mp hy
      exact (hlead z hz).2
    obtain ⟨Jd1, st1, R1, p4, p5, p3⟩ := asm_groups' F g1 { within := false, buf := [], attr := F }
      (evsJ (pre ++ a' :: post) ++ (evsJ (g2.flatMap (·.2)) ++ tail)) hok1 hmono1 hF1 (Nat.le_refl _)
    obtain ⟨buf, hb⟩ := grp_damaged x hokx pre a post hx ha a' ht r hr st1 (evsJ (g2.flatMap (·.2)) ++ tail)
    obtain ⟨Jd2, st2, R2, q4, q5, q3⟩ := asm_groups' F g2 { within := false, buf := buf, attr := a'.1.1 } tail hok2
      (List.pairwise_append.mp hmonoA2).2.1 (fun b hb => hafter b (List.mem_append_right _ hb)) hFa
    have hasm : assemble { within := false, buf := [], attr := F } (evsJ (A1 ++ a' :: A2) ++ tail) =
        (R1 ++ RecEv.corrupt :: R2) ++ assemble st2 tail := by
      rw [hA1, hc, hA2]
      have e1 : evsJ ((lead ++ (g1.flatMap (·.2) ++ pre)) ++ a' :: (post ++ g2.flatMap (·.2))) ++ tail =
          Rec.evsOf (tfs lead) ++ (evsJ (g1.flatMap (·.2)) ++
            (evsJ (pre ++ a' :: post) ++ (evsJ (g2.flatMap (·.2)) ++ tail))) := by
        rw [← evsJ_none (fun y hy => (hlead y hy).1)]
        simp only [evsJ_append, evsJ_cons, List.append_assoc, List.cons_append]
      rw [e1, assemble_lead _ rfl (tfs lead) _ hnf, p4, hb, q4]
      simp only [List.append_assoc, List.cons_append]
    have hents : entriesOf (R1 ++ RecEv.corrupt :: R2) = entriesEv (Jd1 ++ Jd2) := by
      have : entriesOf (R1 ++ RecEv.corrupt :: R2) = entriesOf R1 ++ entriesOf R2 := by
        simp [entriesOf, List.filter_append]
      rw [this, p5, q5]
      simp [entriesEv]
    have hhit : hitGroup lead gs A1.length = x.1.map (fun _ => (liveJ g1).length) := by
      unfold hitGroup
      rw [if_neg (by rw [hA1]; simp)]
      have hn : A1.length - lead.length = (g1.flatMap (·.2)).length + pre.length := by
        rw [hA1, hc]; simp
      rw [hn, hgs, hitGroups_spec g1 x g2 pre a post hx 0]
      simp
    refine ⟨Jd1 ++ Jd2, st2, R1 ++ RecEv.corrupt :: R2, hasm, hents, ?_⟩
    rw [hhit, hgs, liveJ_append]
    obtain ⟨oj, fs⟩ := x
    cases oj with
    | none => rw [liveJ_cons_none]; exact p3.append q3
    | some j =>
      rw [liveJ_cons_some]
      simp only [Option.map_some]
      have hx' : fs = pre ++ a :: post := hx
      refine ⟨?_, j, fs, ?_, List.mem_append_right _ List.mem_cons_self,
        hx' ▸ List.mem_append_right _ List.mem_cons_self⟩
      · rw [List.eraseIdx_append_of_length_le (Nat.le_refl _), Nat.sub_self]; exact p3.append q3
      · rw [List.getElem?_append_right (Nat.le_refl _), Nat.sub_self]; rfl

end MRL.LR
