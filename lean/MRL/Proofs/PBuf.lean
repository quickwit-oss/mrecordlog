/-
The refined `BufWriter` output (`toOsOpsP`): it erases to `toOsOps`; the buffer discipline `runS`:
every `fsync` effect is issued with an empty buffer (it always follows a `flush`); under it the refined
`BufWriter` has the shape of the plain one (`bufStepP_shape`).
-/
import MRL.Model.PowerLoss
import MRL.Proofs.StepBuf

namespace MRL.P
open Buf H

def isSyncE : Effect → Bool
  | .fsyncFile _ | .fsyncDir => true
  | _ => false

def NoSync (ops : List OsOp) : Prop := ∀ o ∈ ops, o ≠ OsOp.sync

theorem erase_lift {o : OsOp} (h : o ≠ .sync) : (OsOpP.lift o).erase = o := by
  cases o <;> first | rfl | exact absurd rfl h

theorem map_erase_lift {ops : List OsOp} (h : NoSync ops) : (ops.map OsOpP.lift).map OsOpP.erase = ops := by
  induction ops with
  | nil => rfl
  | cons o ops ih =>
    simp only [List.map_cons]
    rw [erase_lift (h o List.mem_cons_self), ih (fun o' ho' => h o' (List.mem_cons_of_mem _ ho'))]

theorem mem_flushOps {b : BufSt} {o : OsOp} (ho : o ∈ b.flushOps) : ∃ f off d, o = OsOp.write f off d := by
  unfold BufSt.flushOps at ho
  split at ho
  · cases ho
  · exact ⟨_, _, _, List.mem_singleton.mp ho⟩

theorem mem_bufStep {cap : Nat} {b : BufSt} {e : Effect} {o : OsOp} (ho : o ∈ (bufStep cap b e).2) :
    (∃ f off d, o = OsOp.write f off d) ∨ o ∈ direct e := by
  cases e with
  | write f off data =>
    rw [bufStep_write] at ho
    by_cases h1 : data.length < cap - b.pend.length
    · rw [if_pos h1] at ho; cases ho
    · rw [if_neg h1] at ho
      by_cases h2 : data.length > cap - b.pend.length <;> by_cases h3 : data.length ≥ cap
      · rw [if_pos h2, if_pos h3] at ho
        rcases List.mem_append.mp ho with h | h
        · exact .inl (mem_flushOps h)
        · exact .inl ⟨_, _, _, List.mem_singleton.mp h⟩
      · rw [if_pos h2, if_neg h3] at ho; exact .inl (mem_flushOps ho)
      · rw [if_neg h2, if_pos h3] at ho; exact .inl ⟨_, _, _, List.mem_singleton.mp ho⟩
      · rw [if_neg h2, if_neg h3] at ho; cases ho
  | flush => exact .inl (mem_flushOps ho)
  | _ => exact .inr ho

theorem direct_noSync (e : Effect) (he : isSyncE e = false) : NoSync (direct e) := by
  intro o ho
  cases e with
  | fsyncFile f => cases he
  | fsyncDir => cases he
  | write _ _ _ | create _ | setLen _ _ | ensureLen _ _ | unlink _ =>
    simp only [direct, List.mem_singleton] at ho; rw [ho]; intro h'; cases h'
  | flush | listDir | openFile _ | readBlock _ => cases ho

theorem bufStep_noSync (cap : Nat) (b : BufSt) (e : Effect) (he : isSyncE e = false) : NoSync (bufStep cap b e).2 := by
  intro o ho
  rcases mem_bufStep ho with ⟨_, _, _, rfl⟩ | h
  · exact fun h => by cases h
  · exact direct_noSync e he o h

theorem bufStepP_nonsync (cap : Nat) (b : BufSt) (e : Effect) (he : isSyncE e = false) :
    bufStepP cap b e = ((bufStep cap b e).1, (bufStep cap b e).2.map OsOpP.lift) := by
  cases e <;> first | rfl | cases he

theorem bufStepP_erase (cap : Nat) (b : BufSt) (e : Effect) :
    (bufStepP cap b e).1 = (bufStep cap b e).1 ∧ (bufStepP cap b e).2.map OsOpP.erase = (bufStep cap b e).2 := by
  by_cases he : isSyncE e = true
  · cases e with
    | fsyncFile f => exact ⟨rfl, rfl⟩
    | fsyncDir => exact ⟨rfl, rfl⟩
    | _ => cases he
  · have he' : isSyncE e = false := by simpa using he
    rw [bufStepP_nonsync cap b e he']
    exact ⟨rfl, map_erase_lift (bufStep_noSync cap b e he')⟩

theorem toOsOpsP_erase (cap : Nat) (es : List Effect) : ∀ b : BufSt,
    (toOsOpsP cap b es).2.map OsOpP.erase = (toOsOps cap b es).2 := by
  induction es with
  | nil => intro b; rfl
  | cons e es ih =>
    intro b
    obtain ⟨h1, h2⟩ := bufStepP_erase cap b e
    simp only [toOsOpsP, toOsOps]
    rw [h1, List.map_append, h2, ih]

theorem toOsOpsP_cons (cap : Nat) (b : BufSt) (e : Effect) (es : List Effect) :
    toOsOpsP cap b (e :: es) =
      ((toOsOpsP cap (bufStepP cap b e).1 es).1, (bufStepP cap b e).2 ++ (toOsOpsP cap (bufStepP cap b e).1 es).2) := rfl

theorem toOsOpsP_append (cap : Nat) (a c : List Effect) : ∀ b : BufSt,
    toOsOpsP cap b (a ++ c) =
      ((toOsOpsP cap (toOsOpsP cap b a).1 c).1, (toOsOpsP cap b a).2 ++ (toOsOpsP cap (toOsOpsP cap b a).1 c).2) := by
  induction a with
  | nil => intro b; simp [toOsOpsP]
  | cons e a ih =>
    intro b
    rw [List.cons_append, toOsOpsP_cons, ih, toOsOpsP_cons]
    simp [List.append_assoc]

def directP : Effect → List OsOpP
  | .fsyncFile f => [.syncFile f]
  | .fsyncDir => [.syncDir]
  | e => (direct e).map OsOpP.lift

def directOpsP (es : List Effect) : List OsOpP := es.flatMap directP

theorem directOpsP_cons (e : Effect) (es : List Effect) : directOpsP (e :: es) = directP e ++ directOpsP es := by
  simp [directOpsP]

theorem directOpsP_append (a b : List Effect) : directOpsP (a ++ b) = directOpsP a ++ directOpsP b := by
  simp [directOpsP]

theorem directP_nonsync (e : Effect) (he : isSyncE e = false) : directP e = (direct e).map OsOpP.lift := by
  cases e <;> first | rfl | cases he

theorem prun_append (S : PState) (a b : List OsOpP) : prun S (a ++ b) = prun (prun S a) b := by
  simp [prun, List.foldl_append]

theorem pendW_lift (b : BufSt) : directOpsP (pendW b) = b.flushOps.map OsOpP.lift := by
  by_cases hp : b.pend = []
  · rw [pendW_nil b hp, flushOps_nil b hp]; rfl
  · rw [pendW_ne b hp, flushOps_ne b hp]; rfl

/-- `Buf.run1` (the abstract `BufWriter` state: `none` = empty, `some (f, off)` = bytes pending for
    file `f` ending at `off`) with one more demand: an `fsync` effect comes with an empty buffer.
    The log always flushes first; `PX.runS_of_pd` derives it from the discipline. -/
def run1S (st : St) (e : Effect) : Option St :=
  if isSyncE e then (if st = none then some none else none) else run1 st e

def runS : St → List Effect → Option St
  | st, [] => some st
  | st, e :: es => (run1S st e).bind fun st' => runS st' es

theorem run1S_sync {st st' : St} {e : Effect} (he : isSyncE e = true) (h : run1S st e = some st') :
    st = none ∧ st' = none := by
  unfold run1S at h
  rw [if_pos he] at h
  by_cases hs : st = none
  · rw [if_pos hs] at h; exact ⟨hs, (Option.some.inj h).symm⟩
  · rw [if_neg hs] at h; cases h

theorem bufStepP_sync (cap : Nat) (b : BufSt) {e : Effect} (he : isSyncE e = true) :
    bufStepP cap b e = (b, directP e) := by
  cases e with
  | fsyncFile f => rfl
  | fsyncDir => rfl
  | _ => cases he

theorem run1S_run1 {st st' : St} {e : Effect} (h : run1S st e = some st') : run1 st e = some st' := by
  by_cases he : isSyncE e = true
  · obtain ⟨rfl, rfl⟩ := run1S_sync he h
    cases e with
    | fsyncFile f => rfl
    | fsyncDir => rfl
    | _ => cases he
  · unfold run1S at h
    rw [if_neg he] at h; exact h

theorem directP_length_le (e : Effect) : (directP e).length ≤ 1 := by
  cases e <;> simp [directP, direct]

theorem directP_silent (e : Effect) (h : direct e = []) : directP e = [] := by
  cases e <;> first | rfl | cases h

theorem bufStepP_shape {σ : Type} (F : σ → List OsOpP → σ) (cap : Nat) (b : BufSt) (st st1 : St) (e : Effect)
    (hinv : Inv cap b st) (hr : run1S st e = some st1) :
    Inv cap (bufStepP cap b e).1 st1 ∧ ShapeOf F directP b e (bufStepP cap b e).1 (bufStepP cap b e).2 := by
  by_cases he : isSyncE e = true
  · obtain ⟨rfl, rfl⟩ := run1S_sync he hr
    have hp : pendW b = [] := pendW_nil b (hinv.1.resolve_right (fun h => by cases h))
    rw [bufStepP_sync cap b he]
    exact ⟨hinv, .inr (.inr (.inl ⟨by rw [hp]; rfl, hp⟩))⟩
  · have he' : isSyncE e = false := by simpa using he
    obtain ⟨hinv', hsh⟩ := bufStep_shape cap b st st1 e hinv (run1S_run1 hr)
    rw [bufStepP_nonsync cap b e he']
    refine ⟨hinv', ?_⟩
    unfold ShapeOf
    rw [show (pendW b).flatMap directP = b.flushOps.map OsOpP.lift from pendW_lift b, directP_nonsync e he',
      ← List.map_append]
    rcases hsh with ⟨h, hh⟩ | ⟨h, hh⟩ | ⟨h, hh⟩ | ⟨h, _, hs⟩
    · exact .inl ⟨by rw [h]; rfl, hh⟩
    · exact .inr (.inl ⟨by rw [h], hh⟩)
    · exact .inr (.inr (.inl ⟨by rw [h], hh⟩))
    · exfalso; cases e <;> simp [direct, isSyncE] at hs he'

theorem runS_eq (st : St) (es : List Effect) : runS st es = Disc.run run1S st es := by
  induction es generalizing st with
  | nil => rfl
  | cons e es ih => simp only [runS, Disc.run, ih]

theorem runS_append (a b : List Effect) : ∀ st, runS st (a ++ b) = (runS st a).bind fun st' => runS st' b := by
  intro st
  simp only [runS_eq]
  exact Disc.run_append a b st

end MRL.P
