/-
What the drop-one simulation (`C09R.drop_core`) needs, for histories WITH restarts
(`C01R.ReachD`): the journal of such a history still replays, entry by entry (`Drop.Run`), through
queues observationally equal to the in-memory ones (a restart replaces the queues by equivalent
ones).
-/
import MRL.Proofs.DropSim
import MRL.Props.C01Restart

namespace MRL.Drop

theorem okEntry_abs {a b : MemQueues} (h : H.AbsEq a b) {e : Entry} (ho : OkEntry a e) : OkEntry b e := by
  cases e with
  | append q pos recs =>
    obtain ⟨⟨z, hz⟩, hw⟩ := ho
    obtain ⟨y, hy, _⟩ := h.get_some hz
    exact ⟨⟨y, hy⟩, hw⟩
  | truncate q p =>
    obtain ⟨z, hz⟩ := ho
    obtain ⟨y, hy, _⟩ := h.get_some hz
    exact ⟨y, hy⟩
  | delete q p =>
    obtain ⟨z, hz⟩ := ho
    obtain ⟨y, hy, _⟩ := h.get_some hz
    exact ⟨y, hy⟩
  | touch q n =>
    rcases ho with ⟨hn, h0⟩ | ⟨z, hz, he, hnx⟩
    · exact Or.inl ⟨h.get_none hn, h0⟩
    · obtain ⟨y, hy, hxy⟩ := h.get_some hz
      have hr := H.abs_recs hxy
      rw [he, List.map_nil] at hr
      exact Or.inr ⟨y, hy, List.map_eq_nil_iff.mp hr.symm, by rw [← H.abs_next hxy]; exact hnx⟩

theorem okEntry_congr {a b : MemQueues} (h : QsEquiv a b) {e : Entry} (ho : OkEntry a e) : OkEntry b e :=
  okEntry_abs (H.AbsEq.of_qsEquiv h) ho

theorem run_congr {a a' : MemQueues} {js : List JE} (h : Run a js a') : ∀ {b : MemQueues}, QsEquiv a b →
    QsWF a → QsWF b → ∃ b', Run b js b' ∧ QsEquiv a' b' ∧ QsWF b' := by
  induction h with
  | nil => intro b he _ hb; exact ⟨b, Run.nil, he, hb⟩
  | cons ho hr _ ih =>
    intro b he ha hb
    obtain ⟨b1, hb1, he1⟩ := replayEntry_congr he ha hb hr
    obtain ⟨b', hrun, he', hw'⟩ := ih he1 (replayEntry_wf ha hr) (replayEntry_wf hb hb1)
    exact ⟨b', Run.cons (okEntry_congr he ho) hb1 hrun, he', hw'⟩

theorem reachD_run (g : Geom) (hB : g.B ≤ 65542) (cap : Nat) {l : Log} {J : List JE} {img : Image} {b : BufSt}
    (h : C01R.ReachD g cap l J img b) : (∀ j ∈ J, C07.WF j.e) →
    ∃ Lf, Run [] J Lf ∧ QsEquiv Lf l.queues ∧ QsWF Lf := by
  induction h with
  | init policy order r hr =>
    intro _
    have hinv := C01R.rinv_init g hB cap policy order r hr
    obtain ⟨qs, hrep, heq, _⟩ := hinv.c.jinv.rep
    simp only [replayJ, Option.some.injEq] at hrep
    subst hrep
    exact ⟨[], Run.nil, heq, QsWF.nil⟩
  | @step l J img b c tick order hreach ih =>
    intro hwf
    have hwf' := fun j hj => hwf j (List.mem_append_left _ hj)
    obtain ⟨Lf, hrun, heq, hw⟩ := ih hwf'
    have hI := (C01R.reach_rinv g hB cap hreach hwf').c.jinv.h.inv
    have hstep := run_step g l hI c tick order
    obtain ⟨Lf', hrun', heq', hw'⟩ := run_congr hstep heq.symm (QsWF.of_inv hI) hw
    exact ⟨Lf', hrun.append hrun', heq'.symm, hw'⟩
  | @reopen l J img b policy order lp e0 io r hreach hpre hrec ih =>
    intro hwf
    have hwf' := fun j hj => hwf j (List.mem_append_left _ hj)
    obtain ⟨Lf, hrun, heq, hw⟩ := ih hwf'
    have hr := C01R.reach_rinv g hB cap hreach hwf'
    obtain ⟨lp', io', r', hpre', hrec', hlog, _, hc, hq⟩ := G.recover_ok g hB hr.c hwf' policy order
    rw [hpre] at hpre'
    simp only [Except.ok.injEq, Prod.mk.injEq] at hpre'
    obtain ⟨rfl, _, _⟩ := hpre'
    rw [hrec] at hrec'
    simp only [Except.ok.injEq] at hrec'
    subst hrec'
    have hIlp := hc.jinv.h.inv
    have hgc := run_gc g lp order hIlp.1
    obtain ⟨Lf', hrun', heq', hw'⟩ := run_congr hgc (heq.trans hq.symm).symm (QsWF.of_inv hIlp) hw
    refine ⟨Lf', hrun.append hrun', ?_, hw'⟩
    rw [hlog, Step.runGc_queues]
    exact heq'.symm

end MRL.Drop
