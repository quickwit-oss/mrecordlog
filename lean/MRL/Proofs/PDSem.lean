/-
Power loss with a lazy directory, generically (`PD.powerD_prefix`: what `PX.power_prefix` is for `prun`,
for `prunD`). For effects obeying the discipline `PX.pd`, from a state in which everything is durable: as
long as no `fsync(file)` has made new content durable while unlinks were pending (`hard = false`), the
image left by a power loss after `n` effects, the first `u` pending unlinks being durable, is — for EVERY
`u` — the volatile image after some `q ≤ n` of the effects: an undone unlink just moves the instant back
to the unlink itself, because unlinks are issued only when everything is durable and nothing that follows
them (before the next `fsync(dir)`) is durable.
At an instant where `hard = true` (`PDC.hinvD`, `PDC.powerD_late`): the image is the volatile image of the
effects with the late unlinks beyond the first `u` UNDONE (`PDC.skipLate u`, MRL/Proofs/PDCList.lean) — the
older files are back, next to everything written since.
-/
import MRL.Proofs.PDBuf
import MRL.Proofs.PXSem
import MRL.Proofs.ImageOps
import MRL.Proofs.PDCList

namespace MRL.PD
open Buf P PX C17F

theorem filter_no_key (V : Image) (f : Nat) (h : ∀ kv ∈ V, kv.1 ≠ f) : V.filter (fun x => x.1 != f) = V := by
  rw [List.filter_eq_self]
  intro kv hkv
  simpa using h kv hkv

theorem lookupF_some_mem {m : List (Nat × Bytes)} {f : Nat} {c : Bytes} (h : lookupF m f = some c) : (f, c) ∈ m := by
  induction m with
  | nil => cases h
  | cons a m ih =>
    rw [lookupF_cons] at h
    split at h
    · rename_i he
      injection h with h
      rw [← he, ← h]; exact List.mem_cons_self
    · exact List.mem_cons_of_mem _ (ih h)

/-- An `unlink` of the discipline: the file, if it is there, has a durable name and durable content
    (`PInvX.old`), so it goes to the pending unlinks with its content as it is. -/
theorem prunD_unlink {σ : PDX} {d : DState} {f : Nat} (h : PInvX σ d.s) (hne : f ≠ σ.wf) :
    ((∀ kv ∈ d.s.vol, kv.1 ≠ f) ∧
      prunD d (directP (.unlink f)) = { d with s := prun d.s (directP (.unlink f)) }) ∨
    ∃ c, (f, c) ∈ d.s.vol ∧
      prunD d (directP (.unlink f)) = { d with s := prun d.s (directP (.unlink f)), und := d.und ++ [(f, c)] } := by
  have hstep : prunD d (directP (Effect.unlink f)) = pstepD d (.unlink f) := rfl
  rw [hstep]
  cases hl : lookupF d.s.vol f with
  | none =>
    refine .inl ⟨fun kv hkv he => ?_, by simp only [pstepD, hl]; rfl⟩
    have := lookupF_of_mem h.nodup hkv
    rw [he, hl] at this; cases this
  | some c =>
    have hmem := lookupF_some_mem hl
    have hold := h.old (f, c) hmem hne
    refine .inr ⟨c, hmem, ?_⟩
    simp only [pstepD, hl, hold.1, if_true]
    rw [show lookupF d.s.dur f = some c from hold.2, Option.getD_some, fitLen_self]
    rfl

theorem prunD_directP_quiet (d : DState) (e : Effect) (he : isSyncE e = false) (hu : isUnl e = false) :
    prunD d (directP e) = { d with s := prun d.s (directP e) } := by
  rw [directP_nonsync e he]
  exact prunD_quiet _ (direct_quiet e he hu) d

/-- **What one effect does to the window of pending unlinks**: `fsync(dir)` closes it; an `unlink` of a file
    that is there appends it, with its content; every other effect leaves the pending unlinks as they are, and
    `hard` can only be set by an `fsync(file)` while unlinks are pending. (What it does to the volatile image:
    `vol_step`.) Of the discipline only `PInvX.old` is used, for the `unlink`. -/
inductive DStep (d d' : DState) (e : Effect) : Prop
  | reset : e = .fsyncDir → d'.und = [] → d'.hard = false → DStep d d' e
  | unl (f : Nat) (c : Bytes) : e = .unlink f → (f, c) ∈ d.s.vol → d'.und = d.und ++ [(f, c)] →
      d'.hard = d.hard → DStep d d' e
  | keep : isSyncE e = false ∨ (∃ f, e = .fsyncFile f) → (isUnl e = false ∨ ∃ f, e = .unlink f ∧ ∀ kv ∈ d.s.vol, kv.1 ≠ f) →
      d'.und = d.und → (d'.hard = true → d.hard = true ∨ (d.und ≠ [] ∧ ∃ f, e = .fsyncFile f)) → DStep d d' e

theorem dstep {σ : PDX} {d : DState} {e : Effect} (h : PInvX σ d.s) (hne : ∀ f, e = .unlink f → f ≠ σ.wf) :
    DStep d (prunD d (directP e)) e := by
  have hq : isSyncE e = false → isUnl e = false → DStep d (prunD d (directP e)) e := fun h1 h2 => by
    rw [prunD_directP_quiet d e h1 h2]
    exact .keep (.inl h1) (.inl h2) rfl .inl
  cases e with
  | fsyncDir => exact .reset rfl rfl rfl
  | unlink f =>
    rcases prunD_unlink (d := d) h (hne f rfl) with ⟨hnk, heq⟩ | ⟨c, hmem, heq⟩
    · rw [heq]; exact .keep (.inl rfl) (.inr ⟨f, rfl, hnk⟩) rfl .inl
    · rw [heq]; exact .unl f c rfl hmem rfl rfl
  | fsyncFile f =>
    refine .keep (.inr ⟨f, rfl⟩) (.inl rfl) rfl fun hh => ?_
    have hhd : (prunD d (directP (Effect.fsyncFile f))).hard =
        (d.hard || (!d.und.isEmpty && (match lookupF d.s.vol f with
          | some c => lookupF d.s.dur f != some c
          | none => false))) := rfl
    rw [hhd] at hh
    cases hh1 : d.hard with
    | true => exact .inl rfl
    | false =>
      rw [hh1] at hh
      simp only [Bool.false_or, Bool.and_eq_true] at hh
      exact .inr ⟨fun hnil => by rw [hnil] at hh; simp at hh, f, rfl⟩
  | flush | listDir | openFile _ | readBlock _ | write _ _ _ | setLen _ _ | ensureLen _ _ | create _ => exact hq rfl rfl

theorem vol_step (d : DState) (e : Effect) : (prunD d (directP e)).s.vol = applyOsOps d.s.vol (direct e) := by
  rw [prunD_s]
  have := prun_vol_direct d.s [e]
  simpa [directOpsP, directOps] using this

/-- what one effect of the discipline does to the pending unlinks and to the power-loss image -/
inductive Outcome (d d' : DState) : Prop
  | reset : d'.und = [] → (d'.s.image = d'.s.vol ∨ d'.s.image = d.s.image) → Outcome d d'
  | same : d.hard = false → d'.und = d.und → d'.s.image = d.s.image → Outcome d d'
  | unl (f : Nat) (c : Bytes) : d.hard = false → d'.und = d.und ++ [(f, c)] → (f, c) ∈ d.s.vol → d.s.image = d.s.vol →
      d'.s.image = d'.s.vol → d'.s.vol = d.s.vol.filter (fun x => x.1 != f) → Outcome d d'

theorem Outcome.of_quiet {d : DState} {e : Effect} (he : isSyncE e = false) (hu : isUnl e = false)
    (hhard : (prunD d (directP e)).hard = false) (hi : (prun d.s (directP e)).image = d.s.image) :
    Outcome d (prunD d (directP e)) := by
  rw [prunD_directP_quiet d e he hu] at hhard ⊢
  exact .same hhard rfl hi

/-- one step with a lazy directory. `hlate`: an `ensureLen` comes when no unlink is pending (a roll-over
    into the next file, right after `fsync(dir)`) or changes nothing (what `open` issues on a full
    file); `hhard`: no `fsync(file)` has made new content durable while unlinks were pending -/
theorem pinvD_step (fb : Nat) (hfb : 0 < fb) {σ σ' : PDX} {d : DState} {e : Effect} (h : PInvX σ d.s)
    (hs : Step fb σ e σ') (hf0 : FullOrEmpty fb d.s.vol)
    (hf1 : FullOrEmpty fb (prun d.s (directP e)).vol)
    (hlate : ∀ f n, e = Effect.ensureLen f n → d.und = [] ∨ (prun d.s (directP e)).vol = d.s.vol)
    (hhard : (prunD d (directP e)).hard = false) : Outcome d (prunD d (directP e)) := by
  obtain ⟨hI', hdisj, hsame⟩ := hs.inv hfb h hf0 hf1
  have hs' : (prunD d (directP e)).s = prun d.s (directP e) := prunD_s _ d
  -- an `ensureLen`: either nothing is pending, or it is a no-op
  have hens : ∀ f n, e = Effect.ensureLen f n → Outcome d (prunD d (directP e)) := by
    intro f n he
    rcases hlate f n he with hu | hv
    · subst he
      exact .reset (by rw [prunD_directP_quiet d _ rfl rfl]; exact hu) (by rw [hs']; exact hdisj)
    · subst he
      refine .of_quiet rfl rfl hhard ?_
      rw [prun_ensureLen] at hv ⊢
      simp only at hv
      rw [hv]
  cases hs with
  | flush | listDir | openFile | readBlock | write | setLen | create =>
    exact .of_quiet rfl rfl hhard (hsame rfl (fun _ h => nomatch h) (fun _ _ h => nomatch h))
  | ensureFull => exact hens _ _ rfl
  | ensureNext => exact hens _ _ rfl
  | fsyncDir => exact .reset rfl (by rw [hs']; exact hdisj)
  | fsyncFile =>
    have hund : (prunD d (directP (Effect.fsyncFile σ.wf))).und = d.und := rfl
    have hhd : (prunD d (directP (Effect.fsyncFile σ.wf))).hard =
        (d.hard || (!d.und.isEmpty && (match lookupF d.s.vol σ.wf with
          | some c => lookupF d.s.dur σ.wf != some c
          | none => false))) := rfl
    rw [hhd] at hhard
    simp only [Bool.or_eq_false_iff, Bool.and_eq_false_iff] at hhard
    rcases hhard.2 with hu | hc
    · have hu' : d.und = [] := by simpa using hu
      exact .reset (by rw [hund]; exact hu') (by rw [hs']; exact hdisj)
    · -- nothing new is made durable
      refine .same hhard.1 hund ?_
      rw [hs']
      cases hl : lookupF d.s.vol σ.wf with
      | none => rw [prun_fsyncFile_none hl]
      | some c =>
        rw [hl] at hc
        rw [prun_fsyncFile_some hl]
        exact image_syncFile d.s σ.wf c (Or.inr (bne_eq_false_iff_eq.mp hc))
  | @unlink f hne _ hd hn =>
    have himg : d.s.image = d.s.vol := PX.image_alldur h hd hn
    have himg' : (prun d.s (directP (Effect.unlink f))).image = (prun d.s (directP (Effect.unlink f))).vol :=
      PX.image_alldur hI' hd hn
    have hvol' : (prun d.s (directP (Effect.unlink f))).vol = d.s.vol.filter (fun x => x.1 != f) := rfl
    rcases prunD_unlink (d := d) h hne with ⟨hnk, heq⟩ | ⟨c, hmem, heq⟩
    · rw [heq] at hhard ⊢
      refine .same hhard rfl ?_
      show (prun d.s (directP (Effect.unlink f))).image = _
      rw [himg', hvol', filter_no_key _ _ hnk, himg]
    · rw [heq] at hhard ⊢
      exact .unl f c hhard rfl hmem himg himg' hvol'

theorem image_nil (d : DState) (h : d.und = []) (u : Nat) : d.image u = d.s.image := by
  unfold DState.image; rw [h]; simp

/-- The `n`-th effect `e` of a run obeying the discipline, from a state with everything durable and nothing
    pending: the discipline state `σn` and the lazy-directory state `dn` before it, the step it takes, and what
    the inductions along the run need of them. -/
structure At (fb : Nat) (σ : PDX) (S : PState) (es : List Effect) (n : Nat) (e : Effect) (σn σ1 : PDX)
    (dn : DState) : Prop where
  tk : es.take (n + 1) = es.take n ++ [e]
  pdn : PX.pd fb σ (es.take n) = some σn
  pd1 : PX.pd1 fb σn e = some σ1
  pdn1 : PX.pd fb σ (es.take (n + 1)) = some σ1
  run : prunD ⟨S, [], false⟩ (directOpsP (es.take n)) = dn
  run1 : prunD ⟨S, [], false⟩ (directOpsP (es.take (n + 1))) = prunD dn (directP e)
  inv : PInvX σn dn.s
  vol : dn.s.vol = applyOsOps S.vol (directOps (es.take n))
  vol1 : applyOsOps S.vol (directOps (es.take (n + 1))) = applyOsOps dn.s.vol (direct e)
  foe0 : FullOrEmpty fb dn.s.vol
  foe1 : FullOrEmpty fb (prun dn.s (directP e)).vol
  sorted : KeySorted dn.s.vol
  img : ∃ p, p ≤ n ∧ dn.s.image = applyOsOps S.vol (directOps (es.take p))

theorem At.step {fb : Nat} {σ : PDX} {S : PState} {es : List Effect} {n : Nat} {e : Effect} {σn σ1 : PDX}
    {dn : DState} (a : At fb σ S es n e σn σ1 dn) : Step fb σn e σ1 := PX.step_of_pd1 a.pd1

theorem pd_at (fb : Nat) (hfb : 0 < fb) (es : List Effect) (σ : PDX) (S : PState) (hI : PInvX σ S)
    (hd : σ.dirty = false) (hn : σ.named = true) (σe : PDX) (hpd : PX.pd fb σ es = some σe)
    (hfoe : ∀ i, i ≤ es.length → FullOrEmpty fb (applyOsOps S.vol (directOps (es.take i))))
    (hsort : KeySorted S.vol) {n : Nat} (hlt : n < es.length) :
    ∃ e σn σ1 dn, es[n]? = some e ∧ At fb σ S es n e σn σ1 dn := by
  obtain ⟨e, he⟩ : ∃ e, es[n]? = some e := ⟨es[n], List.getElem?_eq_getElem hlt⟩
  have htk : es.take (n + 1) = es.take n ++ [e] := by rw [List.take_add_one, he]; rfl
  obtain ⟨σn, σ1, hpdn, hσ1, hpdn1⟩ := Disc.run_at hpd he
  obtain ⟨p, σn0, hp, hpdn0, hIn, himg⟩ := PX.power_prefix fb hfb es σ S hI hd hn σe hpd hfoe n (Nat.le_of_lt hlt)
  have e0 : σn = σn0 := Option.some.inj (hpdn.symm.trans hpdn0)
  subst e0
  have hs : (prunD ⟨S, [], false⟩ (directOpsP (es.take n))).s = prun S (directOpsP (es.take n)) := prunD_s _ _
  have hvol : (prunD ⟨S, [], false⟩ (directOpsP (es.take n))).s.vol = applyOsOps S.vol (directOps (es.take n)) := by
    rw [hs]; exact prun_vol_direct _ _
  have hvol1 : applyOsOps S.vol (directOps (es.take (n + 1))) =
      applyOsOps (prunD ⟨S, [], false⟩ (directOpsP (es.take n))).s.vol (direct e) := by
    rw [hvol, htk, directOps_append, applyOsOps_append]
    simp [directOps]
  refine ⟨e, σn, σ1, _, he, htk, hpdn, hσ1, hpdn1, rfl, ?_, by rw [hs]; exact hIn, hvol, hvol1, ?_, ?_, ?_,
    p, hp, by rw [hs]; exact himg⟩
  · rw [htk, directOpsP_append, prunD_append]
    simp [directOpsP]
  · rw [hvol]; exact hfoe n (Nat.le_of_lt hlt)
  · rw [hs, ← prun_append]
    have : directOpsP (es.take n) ++ directP e = directOpsP (es.take (n + 1)) := by
      rw [htk, directOpsP_append]; simp [directOpsP]
    rw [this, prun_vol_direct]
    exact hfoe (n + 1) hlt
  · rw [hvol]; exact hsort.applyOsOps _

/-- **power loss with a lazy directory after `n` effects = volatile image after `q ≤ n` of them, whatever the
    number `u` of pending unlinks that are durable**, as long as no `fsync(file)` has made new content durable
    while unlinks were pending. `hlate`: an `ensureLen` comes when no unlink is pending or changes nothing. -/
theorem powerD_prefix (fb : Nat) (hfb : 0 < fb) (es : List Effect) (σ : PDX) (S : PState) (hI : PInvX σ S)
    (hd : σ.dirty = false) (hn : σ.named = true) (σe : PDX) (hpd : PX.pd fb σ es = some σe)
    (hfoe : ∀ i, i ≤ es.length → FullOrEmpty fb (applyOsOps S.vol (directOps (es.take i))))
    (hsort : KeySorted S.vol)
    (hlate : ∀ i f n, es[i]? = some (Effect.ensureLen f n) →
      (prunD ⟨S, [], false⟩ (directOpsP (es.take i))).und = [] ∨
      applyOsOps S.vol (directOps (es.take (i + 1))) = applyOsOps S.vol (directOps (es.take i))) :
    ∀ n, n ≤ es.length → (prunD ⟨S, [], false⟩ (directOpsP (es.take n))).hard = false →
      ∀ u, ∃ q, q ≤ n ∧ (prunD ⟨S, [], false⟩ (directOpsP (es.take n))).image u =
        applyOsOps S.vol (directOps (es.take q)) := by
  intro n
  induction n with
  | zero =>
    intro _ _ u
    exact ⟨0, Nat.le_refl _, by rw [image_nil _ rfl]; exact PX.image_alldur hI hd hn⟩
  | succ n ih =>
    intro hle hhard u
    obtain ⟨e, σn, σ1, dn, he, a⟩ := pd_at fb hfb es σ S hI hd hn σe hpd hfoe hsort hle
    have ihn := ih (Nat.le_of_succ_le hle)
    rw [a.run] at ihn
    rw [a.run1] at hhard ⊢
    obtain ⟨p, hp, himg⟩ := a.img
    have hall : (prunD dn (directP e)).s.vol = applyOsOps S.vol (directOps (es.take (n + 1))) := by
      rw [vol_step, a.vol1]
    have hout := pinvD_step fb hfb a.inv a.step a.foe0 a.foe1
      (by
        intro f m hef
        have := hlate n f m (by rw [he, hef])
        rw [a.run] at this
        refine this.imp_right fun h => ?_
        rw [← prunD_s, hall, a.vol]; exact h)
      hhard
    cases hout with
    | reset hu hdisj =>
      rw [image_nil _ hu]
      rcases hdisj with h | h
      · exact ⟨n + 1, Nat.le_refl _, by rw [h, hall]⟩
      · exact ⟨p, Nat.le_succ_of_le hp, by rw [h, himg]⟩
    | same hhn hu hi =>
      obtain ⟨q, hq, hqi⟩ := ihn hhn u
      refine ⟨q, Nat.le_succ_of_le hq, ?_⟩
      unfold DState.image at hqi ⊢
      rw [hu, hi, hqi]
    | unl f c hhn hu hmem hi hi' hv =>
      by_cases hule : u ≤ dn.und.length
      · -- the last unlink is undone: back to the state before it
        obtain ⟨q, hq, hqi⟩ := ihn hhn u
        refine ⟨q, Nat.le_succ_of_le hq, ?_⟩
        unfold DState.image at hqi ⊢
        rw [hu, List.drop_append_of_le_length hule, List.foldr_append]
        simp only [List.foldr_cons, List.foldr_nil]
        rw [hi', hv, ImageOps.putFile_filter a.sorted hmem, ← hi, hqi]
      · -- all the pending unlinks are durable
        refine ⟨n + 1, Nat.le_refl _, ?_⟩
        unfold DState.image
        rw [hu, List.drop_of_length_le (by rw [List.length_append]; exact Nat.not_le.mp hule)]
        simp only [List.foldr_nil]
        rw [hi', hall]

end MRL.PD

namespace MRL.PDC
open Buf P PX PD C17F

theorem putFile_map (φ : Nat × Bytes → Nat × Bytes) (hk : ∀ kv, (φ kv).1 = kv.1) (f : Nat) (c : Bytes)
    (hfix : φ (f, c) = (f, c)) (V : Image) : putFile (V.map φ) f c = (putFile V f c).map φ := by
  induction V with
  | nil => rw [List.map_nil, putFile, List.map_cons, hfix, List.map_nil]
  | cons a V ih =>
    obtain ⟨f', c'⟩ := a
    have e : φ (f', c') = (f', (φ (f', c')).2) := Prod.ext (hk _) rfl
    rw [List.map_cons, e, putFile, putFile]
    by_cases h1 : f < f'
    · rw [if_pos h1, if_pos h1, List.map_cons, List.map_cons, hfix, ← e]
    · rw [if_neg h1, if_neg h1]
      by_cases h2 : f = f'
      · rw [if_pos h2, if_pos h2, List.map_cons, ← e]
      · rw [if_neg h2, if_neg h2, List.map_cons, ih, ← e]

theorem putFile_mapFile (g : Nat) (fn : Bytes → Bytes) (f : Nat) (c : Bytes) (hne : f ≠ g) (V : Image) :
    putFile (mapFile V g fn) f c = mapFile (putFile V f c) g fn := by
  unfold mapFile
  refine putFile_map _ (fun kv => ?_) f c ?_ V
  · show (if kv.1 = g then (kv.1, fn kv.2) else kv).1 = kv.1
    split <;> rfl
  · exact if_neg hne

theorem foldr_put_mapFile (g : Nat) (fn : Bytes → Bytes) : ∀ (Lo : List (Nat × Bytes)) (V : Image),
    (∀ kv ∈ Lo, kv.1 ≠ g) →
    Lo.foldr (fun kv acc => putFile acc kv.1 kv.2) (mapFile V g fn) =
      mapFile (Lo.foldr (fun kv acc => putFile acc kv.1 kv.2) V) g fn := by
  intro Lo
  induction Lo with
  | nil => intro V _; rfl
  | cons a Lo ih =>
    intro V h
    simp only [List.foldr_cons]
    rw [ih V (fun kv hkv => h kv (List.mem_cons_of_mem _ hkv)),
      putFile_mapFile g fn a.1 a.2 (h a List.mem_cons_self) _]

theorem pd1_wf_mono (fb : Nat) {σ σ' : PDX} {e : Effect} (h : PX.pd1 fb σ e = some σ') : σ.wf ≤ σ'.wf := by
  cases PX.step_of_pd1 h with
  | create _ _ _ hlt _ => exact Nat.le_of_lt hlt
  | ensureNext _ hlt => exact Nat.le_of_lt hlt
  | _ => exact Nat.le_refl _

/-- After the first `n` effects, from the volatile state `S` with nothing pending: the pending unlinks
    `und` of the lazy-directory model are the unlinks since the last `fsync(dir)` (`cnt`), of files older
    than the one being written (`keys`), issued with every name durable (`named`); `hard` (an `fsync(file)`
    made new content durable while unlinks were pending) can only have been set by the last effect
    (`hardF`); and putting the files `und.drop u` back gives the volatile image of the effects with the
    late unlinks beyond the first `u` undone (`img`). -/
structure HInvD (fb : Nat) (σ0 : PDX) (S : PState) (es : List Effect) (n : Nat) : Prop where
  cnt : (prunD ⟨S, [], false⟩ (directOpsP (es.take n))).und.length = lateCount (es.take n)
  keys : ∀ σn, PX.pd fb σ0 (es.take n) = some σn →
    ∀ kv ∈ (prunD ⟨S, [], false⟩ (directOpsP (es.take n))).und, kv.1 < σn.wf
  named : ∀ σn, PX.pd fb σ0 (es.take n) = some σn →
    (prunD ⟨S, [], false⟩ (directOpsP (es.take n))).und ≠ [] → σn.named = true
  hardF : (prunD ⟨S, [], false⟩ (directOpsP (es.take n))).hard = true →
    (prunD ⟨S, [], false⟩ (directOpsP (es.take n))).und ≠ [] ∧ ∃ f, 1 ≤ n ∧ es[n - 1]? = some (Effect.fsyncFile f)
  img : ∀ u, ((prunD ⟨S, [], false⟩ (directOpsP (es.take n))).und.drop u).foldr
      (fun kv acc => putFile acc kv.1 kv.2) (applyOsOps S.vol (directOps (es.take n))) =
    applyOsOps S.vol (directOps (skipLate u (es.take n)))
  absent : ∀ kv ∈ (prunD ⟨S, [], false⟩ (directOpsP (es.take n))).und,
    kv.1 ∉ (applyOsOps S.vol (directOps (es.take n))).map (·.1)

theorem pd1_named (fb : Nat) {σ σ' : PDX} {e : Effect} (h : PX.pd1 fb σ e = some σ') (hn : σ.named = true)
    (hc : ∀ f, e ≠ Effect.create f) : σ'.named = true := by
  cases PX.step_of_pd1 h with
  | create => exact absurd rfl (hc _)
  | fsyncDir => rfl
  | _ => exact hn

theorem HInvD.of {fb : Nat} {σ0 : PDX} {S : PState} {es : List Effect} {n : Nat} (d : DState)
    (hd : prunD ⟨S, [], false⟩ (directOpsP (es.take n)) = d) {σn : PDX} (hp : PX.pd fb σ0 (es.take n) = some σn)
    (cnt : d.und.length = lateCount (es.take n)) (keys : ∀ kv ∈ d.und, kv.1 < σn.wf)
    (named : d.und ≠ [] → σn.named = true)
    (hardF : d.hard = true → d.und ≠ [] ∧ ∃ f, 1 ≤ n ∧ es[n - 1]? = some (Effect.fsyncFile f))
    (img : ∀ u, (d.und.drop u).foldr (fun kv acc => putFile acc kv.1 kv.2)
        (applyOsOps S.vol (directOps (es.take n))) = applyOsOps S.vol (directOps (skipLate u (es.take n))))
    (absent : ∀ kv ∈ d.und, kv.1 ∉ (applyOsOps S.vol (directOps (es.take n))).map (·.1)) :
    HInvD fb σ0 S es n := by
  subst hd
  have hσ : ∀ σx, PX.pd fb σ0 (es.take n) = some σx → σx = σn := fun σx hx => Option.some.inj (hx.symm.trans hp)
  exact ⟨cnt, fun σx hx => hσ σx hx ▸ keys, fun σx hx => hσ σx hx ▸ named, hardF, img, absent⟩

theorem isDS_of_isSyncE {e : Effect} (h : isSyncE e = false) : isDS e = false := by
  cases e <;> first | rfl | cases h

theorem keys_sub (img : Image) (op : OsOp) (hnc : ∀ f, op ≠ .create f) :
    ∀ k ∈ (applyOs img op).map (·.1), k ∈ img.map (·.1) := by
  intro k hk
  cases op with
  | write f off d => simpa only [applyOs, ImageOps.mapFile_keys] using hk
  | setLen f n => simpa only [applyOs, ImageOps.mapFile_keys] using hk
  | ensureLen f n => simpa only [applyOs, ImageOps.mapFile_keys] using hk
  | sync => exact hk
  | create f => exact absurd rfl (hnc f)
  | unlink f =>
    simp only [applyOs] at hk
    obtain ⟨kv, hkv, rfl⟩ := List.mem_map.mp hk
    exact List.mem_map.mpr ⟨kv, (List.mem_filter.mp hkv).1, rfl⟩

theorem keys_sub_direct (img : Image) (e : Effect) (hnc : ∀ f, e ≠ .create f) :
    ∀ k ∈ (applyOsOps img (direct e)).map (·.1), k ∈ img.map (·.1) := by
  cases e with
  | create f => exact absurd rfl (hnc f)
  | write f off d => exact keys_sub img (.write f off d) (fun _ h => by cases h)
  | setLen f n => exact keys_sub img (.setLen f n) (fun _ h => by cases h)
  | ensureLen f n => exact keys_sub img (.ensureLen f n) (fun _ h => by cases h)
  | unlink f => exact keys_sub img (.unlink f) (fun _ h => by cases h)
  | fsyncFile _ | fsyncDir => exact keys_sub img .sync (fun _ h => by cases h)
  | flush | listDir | openFile _ | readBlock _ => exact fun k hk => hk

/-- Putting files `K` back commutes with an effect of the discipline that is neither an `unlink` nor touches
    one of them: the effect rewrites the file being written, whose number is above theirs; an `ensureLen` is on
    none of them; a `create` comes with `K = []`. -/
theorem put_comm {fb : Nat} {σ σ' : PDX} {e : Effect} (hs : Step fb σ e σ') (K : List (Nat × Bytes))
    (hK : ∀ kv ∈ K, kv.1 < σ.wf) (hens : ∀ f m, e = Effect.ensureLen f m → ∀ kv ∈ K, kv.1 ≠ f)
    (hce : ∀ f, e = Effect.create f → K = []) (hu : isUnl e = false) (V : Image) :
    K.foldr (fun kv acc => putFile acc kv.1 kv.2) (applyOsOps V (direct e)) =
      applyOsOps (K.foldr (fun kv acc => putFile acc kv.1 kv.2) V) (direct e) := by
  have hmap : ∀ (o : OsOp) (f0 : Nat) (fn : Bytes → Bytes), (∀ V, applyOs V o = mapFile V f0 fn) →
      (∀ kv ∈ K, kv.1 ≠ f0) → K.foldr (fun kv acc => putFile acc kv.1 kv.2) (applyOsOps V [o]) =
        applyOsOps (K.foldr (fun kv acc => putFile acc kv.1 kv.2) V) [o] := fun o f0 fn ho hne => by
    show K.foldr _ (applyOs V o) = applyOs _ o
    rw [ho, ho, foldr_put_mapFile _ _ _ _ hne]
  have hlt : ∀ kv ∈ K, kv.1 ≠ σ.wf := fun kv hkv => Nat.ne_of_lt (hK kv hkv)
  cases hs with
  | flush | listDir | openFile _ | readBlock _ | fsyncFile _ | fsyncDir _ _ _ => rfl
  | write off _ => exact hmap _ _ (fun c => overwrite c off _) (fun _ => rfl) hlt
  | setLen n _ _ => exact hmap _ _ (fun c => setLenBytes c n) (fun _ => rfl) hlt
  | ensureFull _ _ _ => exact hmap _ _ (ens fb) (fun _ => rfl) (hens _ _ rfl)
  | ensureNext _ _ _ _ _ => exact hmap _ _ (ens fb) (fun _ => rfl) (hens _ _ rfl)
  | create _ _ _ _ _ => rw [hce _ rfl]; rfl
  | unlink _ _ _ _ _ => cases hu

/-- **the invariant holds along effects obeying the discipline** `PX.pd` and: `hce` a `create` is issued only
    with no unlink pending (a roll-over follows an `fsync(dir)`); `hens` an `ensureLen` comes with nothing
    pending or is on a file that is there (that of `open`, on the first tracked file; a file whose unlink is
    pending is not there); `hpres` a file is there when it is unlinked; `hsp` every `fsync(file)` is
    immediately followed by `fsync(dir)` (`persist`, roll-over). `PDA.hist_discipline` shows them for the
    effects of every history. -/
theorem hinvD (fb : Nat) (hfb : 0 < fb) (es : List Effect) (σ : PDX) (S : PState) (hI : PInvX σ S)
    (hd : σ.dirty = false) (hn : σ.named = true) (σe : PDX) (hpd : PX.pd fb σ es = some σe)
    (hfoe : ∀ i, i ≤ es.length → FullOrEmpty fb (applyOsOps S.vol (directOps (es.take i))))
    (hsort : KeySorted S.vol)
    (hce : ∀ i f, es[i]? = some (Effect.create f) →
      (prunD ⟨S, [], false⟩ (directOpsP (es.take i))).und = [])
    (hens : ∀ i f m, es[i]? = some (Effect.ensureLen f m) →
      (prunD ⟨S, [], false⟩ (directOpsP (es.take i))).und = [] ∨
      f ∈ (applyOsOps S.vol (directOps (es.take i))).map (·.1))
    (hpres : ∀ i f, es[i]? = some (Effect.unlink f) →
      f ∈ (applyOsOps S.vol (directOps (es.take i))).map (·.1))
    (hsp : ∀ i f, es[i]? = some (Effect.fsyncFile f) → i + 1 < es.length → es[i + 1]? = some Effect.fsyncDir) :
    ∀ n, n ≤ es.length → HInvD fb σ S es n := by
  intro n
  induction n with
  | zero =>
    intro _
    refine ⟨rfl, ?_, ?_, ?_, ?_, ?_⟩
    · intro σn _ kv hkv; simp [prunD, directOpsP] at hkv
    · intro σn _ h; simp [prunD, directOpsP] at h
    · intro h; simp [prunD, directOpsP] at h
    · intro u; simp [prunD, directOpsP, skipLate_nil, directOps]
    · intro kv hkv; simp [prunD, directOpsP] at hkv
  | succ n ih =>
    intro hle
    obtain ⟨e, σn, σ1, dn, he, a⟩ := pd_at fb hfb es σ S hI hd hn σe hpd hfoe hsort hle
    obtain ⟨c0, k0, nm0, hf0, hi0, ab0⟩ := ih (Nat.le_of_succ_le hle)
    have k0' := k0 σn a.pdn
    have nm0' := nm0 σn a.pdn
    rw [a.run] at c0 k0' nm0' hf0 hi0 ab0
    rw [← a.vol] at ab0
    have htk := a.tk
    have hV1 : applyOsOps S.vol (directOps (es.take (n + 1))) =
        applyOsOps (applyOsOps S.vol (directOps (es.take n))) (direct e) := by rw [a.vol1, a.vol]
    have hwfmono := pd1_wf_mono fb a.pd1
    have hde : directOps [e] = direct e := by simp [directOps]
    -- a `hard` state (an `fsync(file)` came last) can only be followed by `fsync(dir)`
    have hnohard : isDS e = false → dn.hard = false := by
      intro h1
      cases hh : dn.hard with
      | false => rfl
      | true =>
        exfalso
        obtain ⟨_, f', hn1, hf'⟩ := hf0 hh
        have := hsp (n - 1) f' hf' (by rw [Nat.sub_add_cancel hn1]; exact hle)
        rw [Nat.sub_add_cancel hn1, he] at this
        rw [Option.some.inj this] at h1
        cases h1
    -- by what the effect does to the window (`PD.dstep`)
    cases dstep (d := dn) (e := e) a.inv (fun f hf => Nat.ne_of_lt (PX.pd1_unlink_lt (hf ▸ a.pd1))) with
    | reset he' hund hhard =>
      subst he'
      refine HInvD.of _ a.run1 a.pdn1 ?_ ?_ ?_ ?_ ?_ ?_
      · rw [hund, htk, lateCount_snoc]; rfl
      · intro kv hkv; rw [hund] at hkv; cases hkv
      · intro hne; exact absurd hund hne
      · intro hh; rw [hhard] at hh; cases hh
      · intro u
        rw [hund, htk, skipLate_snoc]
        simp [isDS]
      · intro kv hkv; rw [hund] at hkv; cases hkv
    | unl f0 c he' hmem hund hhard =>
      subst he'
      have hlt := PX.pd1_unlink_lt a.pd1
      cases a.step with
      | unlink _ _ _ hnn _ =>
        refine HInvD.of _ a.run1 a.pdn1 ?_ ?_ ?_ ?_ ?_ ?_
        · rw [hund, List.length_append, c0, htk, lateCount_snoc]; rfl
        · intro kv hkv
          rw [hund] at hkv
          rcases List.mem_append.mp hkv with hkv | hkv
          · exact k0' kv hkv
          · rw [List.mem_singleton] at hkv; rw [hkv]; exact hlt
        · exact fun _ => hnn
        · intro hh
          rw [hhard, hnohard rfl] at hh
          cases hh
        · intro u
          have hV' : applyOsOps (applyOsOps S.vol (directOps (es.take n))) (direct (Effect.unlink f0)) =
              dn.s.vol.filter (fun x => x.1 != f0) := by rw [← a.vol]; rfl
          rw [hund, hV1, hV', htk, skipLate_snoc]
          simp only [isDS, isUnl, Bool.false_eq_true, if_false, if_true]
          by_cases hlu : lateCount (es.take n) < u
          · -- the unlink is kept: nothing older is put back
            rw [if_pos hlu, List.drop_of_length_le (by rw [List.length_append, c0]; exact hlu)]
            simp only [List.foldr_nil]
            rw [directOps_append, applyOsOps_append]
            have h0 := hi0 u
            rw [List.drop_of_length_le (by rw [c0]; exact Nat.le_of_lt hlu)] at h0
            simp only [List.foldr_nil] at h0
            rw [← h0, ← a.vol]
            rfl
          · -- the unlink is undone: the file is put back where it was
            rw [if_neg hlu, List.append_nil, List.drop_append_of_le_length (by rw [c0]; exact Nat.le_of_not_lt hlu),
              List.foldr_append]
            simp only [List.foldr_cons, List.foldr_nil]
            rw [ImageOps.putFile_filter a.sorted hmem, a.vol]
            exact hi0 u
        · -- the file unlinked is gone, the others were not there
          intro kv hkv hm
          rw [hV1, ← a.vol] at hm
          obtain ⟨x, hx, hxk⟩ := List.mem_map.mp hm
          obtain ⟨hx1, hx2⟩ := List.mem_filter.mp hx
          rw [hund] at hkv
          rcases List.mem_append.mp hkv with hkv | hkv
          · exact ab0 kv hkv (hxk ▸ mem_keys hx1)
          · rw [List.mem_singleton.mp hkv] at hxk
            rw [hxk, bne_self_eq_false] at hx2; cases hx2
    | keep hsy hnu hund hhard =>
      -- a file is there when it is unlinked
      have hnu : isUnl e = false := hnu.resolve_right fun ⟨f, hf, habs⟩ => by
        have := hpres n f (hf ▸ he)
        rw [← a.vol] at this
        obtain ⟨kv, hkv, hk⟩ := List.mem_map.mp this
        exact habs kv hkv hk
      have hnd : isDS e = false := by
        rcases hsy with h1 | ⟨f, rfl⟩
        · exact isDS_of_isSyncE h1
        · rfl
      have hu0 : ∀ f, e = Effect.create f → dn.und = [] := fun f hf => by
        have := hce n f (hf ▸ he)
        rwa [a.run] at this
      refine HInvD.of _ a.run1 a.pdn1 ?_ ?_ ?_ ?_ ?_ ?_
      · rw [hund, c0, htk, lateCount_snoc, if_neg (by simp [hnd]), if_neg (by simp [hnu])]
      · intro kv hkv
        rw [hund] at hkv
        exact Nat.lt_of_lt_of_le (k0' kv hkv) hwfmono
      · intro hne
        rw [hund] at hne
        exact pd1_named fb a.pd1 (nm0' hne) fun f hf => hne (hu0 f hf)
      · intro hh
        rcases hhard hh with h1 | ⟨h1, f, hf⟩
        · rw [hnohard hnd] at h1; cases h1
        · rw [hund]
          exact ⟨h1, f, Nat.le_add_left 1 n, by rw [Nat.add_sub_cancel, he, hf]⟩
      · intro u
        rw [hund, hV1, htk, skipLate_snoc, if_neg (by simp [hnd]), if_neg (by simp [hnu]), directOps_append,
          applyOsOps_append, hde, ← hi0 u]
        refine put_comm a.step _ (fun kv hkv => k0' kv (List.mem_of_mem_drop hkv)) (fun f m hf kv hkv => ?_)
          (fun f hf => by rw [hu0 f hf, List.drop_nil]) hnu _
        have := hens n f m (hf ▸ he)
        rw [a.run, ← a.vol] at this
        rcases this with h0 | hp
        · rw [h0] at hkv; simp at hkv
        · exact fun hk => ab0 kv (List.mem_of_mem_drop hkv) (hk ▸ hp)
      · -- only a `create` adds a file, and it comes with nothing pending
        intro kv hkv hm
        rw [hund] at hkv
        rw [hV1, ← a.vol] at hm
        by_cases hcr : ∃ f, e = Effect.create f
        · obtain ⟨f, hf⟩ := hcr
          rw [hu0 f hf] at hkv; cases hkv
        · exact ab0 kv hkv (keys_sub_direct _ e (fun f hf => hcr ⟨f, hf⟩) _ hm)

/-- **the image at an instant where an `fsync(file)` has just made new content durable while unlinks were
    pending**: the volatile image with the late unlinks beyond the first `u` undone -/
theorem powerD_late (fb : Nat) (hfb : 0 < fb) (es : List Effect) (σ : PDX) (S : PState) (hI : PInvX σ S)
    (hd : σ.dirty = false) (hn : σ.named = true) (σe : PDX) (hpd : PX.pd fb σ es = some σe)
    (hfoe : ∀ i, i ≤ es.length → FullOrEmpty fb (applyOsOps S.vol (directOps (es.take i))))
    (hsort : KeySorted S.vol)
    (hce : ∀ i f, es[i]? = some (Effect.create f) →
      (prunD ⟨S, [], false⟩ (directOpsP (es.take i))).und = [])
    (hens : ∀ i f m, es[i]? = some (Effect.ensureLen f m) →
      (prunD ⟨S, [], false⟩ (directOpsP (es.take i))).und = [] ∨
      f ∈ (applyOsOps S.vol (directOps (es.take i))).map (·.1))
    (hpres : ∀ i f, es[i]? = some (Effect.unlink f) →
      f ∈ (applyOsOps S.vol (directOps (es.take i))).map (·.1))
    (hsp : ∀ i f, es[i]? = some (Effect.fsyncFile f) → i + 1 < es.length → es[i + 1]? = some Effect.fsyncDir)
    (n : Nat) (hle : n ≤ es.length) (hh : (prunD ⟨S, [], false⟩ (directOpsP (es.take n))).hard = true) (u : Nat) :
    (prunD ⟨S, [], false⟩ (directOpsP (es.take n))).image u =
      applyOsOps S.vol (directOps (skipLate u (es.take n))) := by
  have hH := hinvD fb hfb es σ S hI hd hn σe hpd hfoe hsort hce hens hpres hsp n hle
  obtain ⟨hune, f', hn1, hf'⟩ := hH.hardF hh
  obtain ⟨_, σn, _, hpdn, hIn, _⟩ := PX.power_prefix fb hfb es σ S hI hd hn σe hpd hfoe n hle
  have hnamed := hH.named σn hpdn hune
  -- the last effect was `fsync(file)`: nothing is dirty
  have hdirty : σn.dirty = false := by
    obtain ⟨σq, σ1, _, h1, hq1⟩ := Disc.run_at hpd hf'
    rw [Nat.sub_add_cancel hn1] at hq1
    have e1 : σ1 = σn := Option.some.inj (hq1.symm.trans hpdn)
    subst e1
    cases PX.step_of_pd1 h1
    rfl
  unfold DState.image
  rw [prunD_s, PX.image_alldur hIn hdirty hnamed, prun_vol_direct, hH.img u]

end MRL.PDC
