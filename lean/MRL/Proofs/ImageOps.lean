/-
Directory listings as key-sorted association lists. An `Image` lists the WAL files ascending by
number (`C17F.KeySorted`), and two such lists are equal as soon as they have the same members
(`KeySorted.ext`). So each operation on listings (`insertFile`, which is also `putFile`; `mapFile`;
removing a key) is characterised by what it does to membership and by keeping the order, and
equations between listings are checked on members.
-/
import MRL.Model.Disk
import MRL.Model.PowerLossDir

namespace MRL.C17F

def KeySorted (img : Image) : Prop := img.Pairwise fun a b => a.1 < b.1

theorem keySorted_iff_keys {img : Image} : KeySorted img ↔ (img.map (·.1)).Pairwise (· < ·) :=
  List.pairwise_map.symm

theorem _root_.MRL.nodup_of_sorted {α : Type} {l : List (Nat × α)} (h : l.Pairwise fun x y => x.1 < y.1) : l.Nodup :=
  List.Pairwise.imp (fun hab e => by subst e; exact Nat.lt_irrefl _ hab) h

theorem KeySorted.key_inj {img : Image} (h : KeySorted img) {x y : Nat × Bytes} (hx : x ∈ img) (hy : y ∈ img)
    (hk : x.1 = y.1) : x = y := by
  induction img with
  | nil => cases hx
  | cons a img ih =>
    obtain ⟨hlt, hs⟩ := List.pairwise_cons.mp h
    rcases List.mem_cons.mp hx with ex | hx' <;> rcases List.mem_cons.mp hy with ey | hy'
    · rw [ex, ey]
    · exact absurd (ex ▸ hk) (Nat.ne_of_lt (hlt y hy'))
    · exact absurd (ey ▸ hk.symm) (Nat.ne_of_lt (hlt x hx'))
    · exact ih hs hx' hy'

theorem _root_.MRL.eq_of_sorted_of_mem {α : Type} {a b : List (Nat × α)} (ha : a.Pairwise fun x y => x.1 < y.1)
    (hb : b.Pairwise fun x y => x.1 < y.1) (h : ∀ x, x ∈ a ↔ x ∈ b) : a = b :=
  List.Perm.eq_of_pairwise (fun _ _ _ _ h1 h2 => absurd h1 (Nat.lt_asymm h2)) ha hb
    ((List.perm_ext_iff_of_nodup (nodup_of_sorted ha) (nodup_of_sorted hb)).mpr h)

theorem KeySorted.ext {a b : Image} (ha : KeySorted a) (hb : KeySorted b) (h : ∀ x, x ∈ a ↔ x ∈ b) : a = b :=
  eq_of_sorted_of_mem ha hb h

theorem KeySorted.filter {img : Image} (h : KeySorted img) (p : Nat × Bytes → Bool) : KeySorted (img.filter p) :=
  List.Pairwise.filter p h

end MRL.C17F

namespace MRL.ImageOps
open C17F

/-- the two model functions that put a file at its place in a listing are one function -/
theorem putFile_eq_insertFile (img : Image) (f : Nat) (c : Bytes) : putFile img f c = insertFile img f c := by
  induction img with
  | nil => rfl
  | cons a img ih =>
    obtain ⟨f', c'⟩ := a
    simp only [putFile, insertFile, ih]

theorem mem_insertFile_imp {img : Image} {f : Nat} {c : Bytes} {x : Nat × Bytes} (h : x ∈ insertFile img f c) :
    x ∈ img ∨ x = (f, c) := by
  induction img with
  | nil => exact .inr (List.mem_singleton.mp h)
  | cons a img ih =>
    obtain ⟨f', c'⟩ := a
    simp only [insertFile] at h
    split at h
    · exact (List.mem_cons.mp h).symm
    · split at h
      · exact .inl h
      · rcases List.mem_cons.mp h with h | h
        · exact .inl (h ▸ List.mem_cons_self)
        · exact (ih h).imp (List.mem_cons_of_mem _) id

/-- **`create_new` on a sorted listing**: the old entries stay, and `(f, c)` is added exactly if
    no entry has the number `f`; the order is kept -/
theorem insertFile_spec {img : Image} (hs : KeySorted img) (f : Nat) (c : Bytes) :
    KeySorted (insertFile img f c) ∧
    ∀ x, x ∈ insertFile img f c ↔ x ∈ img ∨ (x = (f, c) ∧ ∀ y ∈ img, y.1 ≠ f) := by
  induction img with
  | nil =>
    exact ⟨List.pairwise_singleton _ _, fun x => by
      simp only [insertFile, List.mem_singleton, List.not_mem_nil, false_or]
      exact ⟨fun h => ⟨h, fun _ h => (nomatch h)⟩, fun h => h.1⟩⟩
  | cons a img ih =>
    obtain ⟨f', c'⟩ := a
    obtain ⟨hlt, hs'⟩ := List.pairwise_cons.mp hs
    obtain ⟨ih1, ih2⟩ := ih hs'
    simp only [insertFile]
    by_cases h1 : f < f'
    · rw [if_pos h1]
      have hall : ∀ y ∈ (f', c') :: img, f < y.1 := fun y hy => by
        rcases List.mem_cons.mp hy with rfl | hy
        · exact h1
        · exact Nat.lt_trans h1 (hlt y hy)
      refine ⟨List.pairwise_cons.mpr ⟨hall, hs⟩, fun x => ?_⟩
      rw [List.mem_cons]
      exact ⟨fun h => h.symm.imp id fun e => ⟨e, fun y hy => Nat.ne_of_gt (hall y hy)⟩,
        fun h => h.symm.imp (·.1) id⟩
    · rw [if_neg h1]
      by_cases h2 : f = f'
      · rw [if_pos h2]
        exact ⟨hs, fun x => ⟨.inl, fun h => h.elim id fun h => absurd h2.symm (h.2 _ List.mem_cons_self)⟩⟩
      · rw [if_neg h2]
        have hff : f' < f := Nat.lt_of_le_of_ne (Nat.not_lt.mp h1) (Ne.symm h2)
        refine ⟨List.pairwise_cons.mpr ⟨fun x hx => ?_, ih1⟩, fun x => ?_⟩
        · rcases mem_insertFile_imp hx with hx | rfl
          · exact hlt x hx
          · exact hff
        · rw [List.mem_cons, ih2 x, List.mem_cons, or_assoc]
          refine or_congr_right (or_congr_right (and_congr_right fun _ => ?_))
          exact ⟨fun h y hy => (List.mem_cons.mp hy).elim (fun e => e ▸ Ne.symm h2) (h y),
            fun h y hy => h y (List.mem_cons_of_mem _ hy)⟩

theorem _root_.MRL.C17F.KeySorted.insertFile {img : Image} (hs : KeySorted img) (f : Nat) (c : Bytes) :
    KeySorted (insertFile img f c) :=
  (insertFile_spec hs f c).1

theorem mem_insertFile {img : Image} (hs : KeySorted img) {f : Nat} {c : Bytes} {x : Nat × Bytes} :
    x ∈ insertFile img f c ↔ x ∈ img ∨ (x = (f, c) ∧ ∀ y ∈ img, y.1 ≠ f) :=
  (insertFile_spec hs f c).2 x

theorem mapFile_keys (img : Image) (f : Nat) (fn : Bytes → Bytes) :
    (mapFile img f fn).map (·.1) = img.map (·.1) := by
  unfold mapFile
  rw [List.map_map]
  exact List.map_congr_left fun kv _ => by simp only [Function.comp]; split <;> rfl

theorem _root_.MRL.C17F.KeySorted.mapFile {img : Image} (hs : KeySorted img) (f : Nat) (fn : Bytes → Bytes) :
    KeySorted (mapFile img f fn) := by
  rw [keySorted_iff_keys, mapFile_keys]; exact keySorted_iff_keys.mp hs

theorem _root_.MRL.C17F.KeySorted.applyOs {img : Image} (h : KeySorted img) (op : OsOp) :
    KeySorted (applyOs img op) := by
  cases op with
  | write f off d => simp only [MRL.applyOs]; exact h.mapFile f _
  | setLen f n => simp only [MRL.applyOs]; exact h.mapFile f _
  | ensureLen f n => simp only [MRL.applyOs]; exact h.mapFile f _
  | create f => exact h.insertFile f []
  | unlink f => exact h.filter _
  | sync => exact h

theorem _root_.MRL.C17F.KeySorted.applyOsOps (ops : List OsOp) :
    ∀ {img : Image}, KeySorted img → KeySorted (applyOsOps img ops) := by
  induction ops with
  | nil => exact id
  | cons o ops ih => exact fun h => ih (h.applyOs o)

theorem putFile_filter {V : Image} {f : Nat} {c : Bytes} (hs : KeySorted V) (hm : (f, c) ∈ V) :
    putFile (V.filter (fun x => x.1 != f)) f c = V := by
  rw [putFile_eq_insertFile]
  refine KeySorted.ext ((hs.filter _).insertFile f c) hs fun x => ?_
  rw [mem_insertFile (hs.filter _), List.mem_filter, bne_iff_ne]
  constructor
  · rintro (h | ⟨rfl, _⟩)
    · exact h.1
    · exact hm
  · intro hx
    by_cases hk : x.1 = f
    · exact .inr ⟨hs.key_inj hx hm hk, fun y hy => by simpa using (List.mem_filter.mp hy).2⟩
    · exact .inl ⟨hx, hk⟩

theorem insertFile_of_mem {img : Image} (hs : KeySorted img) (f : Nat) (c : Bytes) (h : ∃ x ∈ img, x.1 = f) :
    insertFile img f c = img :=
  KeySorted.ext (hs.insertFile f c) hs fun x => by
    rw [mem_insertFile hs]
    obtain ⟨y, hy, hk⟩ := h
    exact ⟨fun h => h.elim id fun h => absurd hk (h.2 y hy), .inl⟩

end MRL.ImageOps

namespace MRL.PDA

/-! ### Filtering by file number commutes with every operation but a `create` -/

theorem filter_mapFile (p : Nat → Bool) (img : Image) (f : Nat) (fn : Bytes → Bytes) :
    (mapFile img f fn).filter (fun kv => p kv.1) = mapFile (img.filter (fun kv => p kv.1)) f fn := by
  -- `mapFile` keeps the keys
  have hkeys : ((fun kv : Nat × Bytes => p kv.1) ∘ fun kv => if kv.1 = f then (kv.1, fn kv.2) else kv) =
      fun kv => p kv.1 := by
    funext kv
    by_cases hk : kv.1 = f
    · simp only [Function.comp, hk, if_true]
    · simp only [Function.comp, hk, if_false]
  unfold mapFile
  rw [List.filter_map, hkeys]

theorem filter_applyOs (p : Nat → Bool) (img : Image) (op : OsOp) (hnc : ∀ f, op ≠ .create f) :
    (applyOs img op).filter (fun kv => p kv.1) = applyOs (img.filter (fun kv => p kv.1)) op := by
  cases op with
  | write f off d => simp only [applyOs]; exact filter_mapFile p img f _
  | setLen f n => simp only [applyOs]; exact filter_mapFile p img f _
  | ensureLen f n => simp only [applyOs]; exact filter_mapFile p img f _
  | sync => rfl
  | create f => exact absurd rfl (hnc f)
  | unlink f =>
    simp only [applyOs, List.filter_filter]
    congr 1
    funext kv
    exact Bool.and_comm _ _

theorem filter_applyOsOps (p : Nat → Bool) (ops : List OsOp) : ∀ (img : Image), (∀ f, OsOp.create f ∉ ops) →
    (applyOsOps img ops).filter (fun kv => p kv.1) = applyOsOps (img.filter (fun kv => p kv.1)) ops := by
  induction ops with
  | nil => intro img _; rfl
  | cons op ops ih =>
    intro img h
    show (applyOsOps (applyOs img op) ops).filter _ = applyOsOps (applyOs (img.filter _) op) ops
    rw [ih _ (fun f hf => h f (List.mem_cons_of_mem _ hf)),
      filter_applyOs p img op (fun f hf => h f (hf ▸ List.mem_cons_self))]

theorem unlinks_filter (fs : List Nat) : ∀ img : Image,
    applyOsOps img (fs.map OsOp.unlink) = img.filter (fun kv => !fs.contains kv.1) := by
  induction fs with
  | nil =>
    intro img
    show img = _
    symm
    rw [List.filter_eq_self]
    intro kv _; rfl
  | cons f fs ih =>
    intro img
    show applyOsOps (applyOs img (.unlink f)) (fs.map OsOp.unlink) = _
    rw [ih]
    simp only [applyOs, List.filter_filter]
    congr 1
    funext kv
    simp only [List.contains_cons]
    cases h1 : fs.contains kv.1 <;> cases h2 : (kv.1 == f) <;> simp [h2, bne]

end MRL.PDA
