/-
Transparency of the `BufWriter` model: for effect lists in which the buffer is used the way the
rolling writer uses it (contiguous non-empty writes, a flush before every file-level operation and
before switching files), the image obtained after a final flush is the image obtained by applying
every effect *directly*, unbuffered (`flushed_image`). `run` checks that discipline on an effect list;
that the effects of every call pass the check is `C14.step_Disc` (StepDisc). Second, every boundary between two OS
operations of the `BufWriter` is a boundary between two effects (`op_boundary`). Both come from
`bufStep_shape`, the four things `bufStep` can do with one effect.
-/
import MRL.Model.Disk
import MRL.Proofs.Disc

namespace MRL.Buf

theorem mapFile_mapFile (img : Image) (f : Nat) (g1 g2 : Bytes → Bytes) :
    mapFile (mapFile img f g1) f g2 = mapFile img f (fun c => g2 (g1 c)) := by
  unfold mapFile
  rw [List.map_map]
  apply List.map_congr_left
  intro kv _
  by_cases h : kv.1 = f <;> simp [h]

theorem mapFile_id (img : Image) (f : Nat) (fn : Bytes → Bytes) (h : ∀ kv ∈ img, kv.1 = f → fn kv.2 = kv.2) :
    mapFile img f fn = img := by
  unfold mapFile
  conv => rhs; rw [← List.map_id img]
  apply List.map_congr_left
  intro kv hkv
  by_cases hf : kv.1 = f
  · simp only [hf, if_true, id]
    rw [h kv hkv hf, ← hf]
  · simp only [hf, if_false, id]

theorem overwrite_append (c : Bytes) (o : Nat) (p d : Bytes) :
    overwrite (overwrite c o p) (o + p.length) d = overwrite c o (p ++ d) := by
  unfold overwrite
  generalize hc' : (if c.length < o then c ++ zeros (o - c.length) else c) = c'
  have hlen : o ≤ c'.length := by
    rw [← hc']
    by_cases h : c.length < o
    · rw [if_pos h, List.length_append, zeros, List.length_replicate]; omega
    · rw [if_neg h]; exact Nat.le_of_not_lt h
  have hA : (c'.take o ++ p).length = o + p.length := by
    rw [List.length_append, List.length_take_of_le hlen]
  simp only
  have hr1 : ¬ (c'.take o ++ p ++ c'.drop (o + p.length)).length < o + p.length := by
    rw [List.length_append, hA]; exact Nat.not_lt.mpr (Nat.le_add_right _ _)
  have h2 : (c'.take o ++ p ++ c'.drop (o + p.length)).drop (o + p.length + d.length) =
      c'.drop (o + (p ++ d).length) := by
    rw [← hA, ← List.drop_drop, List.drop_left, List.drop_drop, hA, List.length_append, Nat.add_assoc]
  rw [if_neg hr1, List.take_left' hA, h2]
  simp only [List.append_assoc]

theorem write_write (img : Image) (f o : Nat) (p d : Bytes) :
    applyOs (applyOs img (.write f o p)) (.write f (o + p.length) d) = applyOs img (.write f o (p ++ d)) := by
  simp only [applyOs, mapFile_mapFile, overwrite_append]

def direct : Effect → List OsOp
  | .write f off data => [.write f off data]
  | .flush => []
  | .fsyncFile _ => [.sync]
  | .fsyncDir => [.sync]
  | .create f => [.create f]
  | .setLen f n => [.setLen f n]
  | .ensureLen f n => [.ensureLen f n]
  | .unlink f => [.unlink f]
  | .listDir | .openFile _ | .readBlock _ => []

def directOps (es : List Effect) : List OsOp := es.flatMap direct

theorem applyOsOps_append (img : Image) (a b : List OsOp) :
    applyOsOps img (a ++ b) = applyOsOps (applyOsOps img a) b := by
  simp [applyOsOps, List.foldl_append]

theorem directOps_cons (e : Effect) (es : List Effect) : directOps (e :: es) = direct e ++ directOps es := by
  simp [directOps]

theorem directOps_append (a b : List Effect) : directOps (a ++ b) = directOps a ++ directOps b := by
  simp [directOps]

theorem directOps_unlinks (fs : List Nat) : directOps (fs.map Effect.unlink) = fs.map OsOp.unlink := by
  induction fs with
  | nil => rfl
  | cons f fs ih => rw [List.map_cons, directOps_cons, ih]; rfl

/-- abstract buffer state: `none` = known clean; `some (f, o)` = possibly dirty, and if dirty the
    pending bytes end at offset `o` of file `f` -/
abbrev St := Option (Nat × Nat)

/-- one effect: `none` when the discipline is violated -/
def run1 (st : St) : Effect → Option St
  | .write f off data =>
    if data ≠ [] ∧ (st = none ∨ st = some (f, off)) then some (some (f, off + data.length)) else none
  | .flush => some none
  | .fsyncFile _ | .fsyncDir | .listDir | .openFile _ | .readBlock _ => some st
  | .create _ | .setLen _ _ | .ensureLen _ _ | .unlink _ => if st = none then some none else none

def run : St → List Effect → Option St
  | st, [] => some st
  | st, e :: es => (run1 st e).bind fun st' => run st' es

theorem run_eq (st : St) (es : List Effect) : run st es = Disc.run run1 st es := by
  induction es generalizing st with
  | nil => rfl
  | cons e es ih => simp only [run, Disc.run, ih]

theorem run_append (a b : List Effect) (st : St) : run st (a ++ b) = (run st a).bind fun st' => run st' b := by
  simp only [run_eq]
  exact Disc.run_append a b st

/-- ties the `BufWriter` to the abstract state of `run1`: pending bytes, if any, end where `st` says the next
    contiguous write must start, so `bufStep` only ever appends to them; `≤ cap`: `bufStep` flushes before a
    write that would overflow -/
def Inv (cap : Nat) (b : BufSt) (st : St) : Prop :=
  (b.pend = [] ∨ st = some (b.file, b.off + b.pend.length)) ∧ b.pend.length ≤ cap

theorem flushOps_nil (b : BufSt) (h : b.pend = []) : b.flushOps = [] := by simp [BufSt.flushOps, h]

theorem flushOps_ne (b : BufSt) (h : b.pend ≠ []) : b.flushOps = [.write b.file b.off b.pend] := by
  simp [BufSt.flushOps, h]

theorem inv_empty (cap : Nat) (st : St) : Inv cap {} st := ⟨.inl rfl, Nat.zero_le _⟩

/-- the buffer after pushing `data` (the two places of `bufStep` that do it) -/
def push (b : BufSt) (f off : Nat) (data : Bytes) : BufSt :=
  if b.pend.isEmpty then { pend := data, file := f, off := off } else { b with pend := b.pend ++ data }

theorem bufStep_write (cap : Nat) (b : BufSt) (f off : Nat) (data : Bytes) :
    bufStep cap b (.write f off data) =
      if data.length < cap - b.pend.length then (push b f off data, [])
      else if data.length > cap - b.pend.length then
        if data.length ≥ cap then ({}, b.flushOps ++ [.write f off data])
        else (push {} f off data, b.flushOps)
      else
        if data.length ≥ cap then (b, [.write f off data])
        else (push b f off data, []) := by
  unfold bufStep push
  by_cases h1 : data.length < cap - b.pend.length
  · simp only [h1, if_true]
  · simp only [h1, if_false]
    by_cases h2 : data.length > cap - b.pend.length
    · simp only [h2, if_true]
    · simp only [h2, if_false, List.nil_append]

theorem pend_nil_of_fill {cap : Nat} {b : BufSt} {data : Bytes} (hcap : b.pend.length ≤ cap)
    (h2 : ¬ data.length > cap - b.pend.length) (h3 : data.length ≥ cap) : b.pend = [] := by
  apply List.eq_nil_of_length_eq_zero
  omega

end MRL.Buf

namespace MRL.H

/-- the pending bytes of the buffer as a (virtual) write effect -/
def pendW (b : BufSt) : List Effect := if b.pend = [] then [] else [.write b.file b.off b.pend]

theorem pendW_nil (b : BufSt) (h : b.pend = []) : pendW b = [] := by simp [pendW, h]
theorem pendW_ne (b : BufSt) (h : b.pend ≠ []) : pendW b = [.write b.file b.off b.pend] := by simp [pendW, h]

end MRL.H

namespace MRL.Buf
open H

theorem directOps_pendW (b : BufSt) : directOps (pendW b) = b.flushOps := by
  by_cases hp : b.pend = []
  · rw [pendW_nil b hp, flushOps_nil b hp]; rfl
  · rw [pendW_ne b hp, flushOps_ne b hp]; rfl

/-! ### one effect through the `BufWriter`

`bufStep` either holds the effect back (merged into the pending write), flushes and holds it back,
flushes and passes it on, or passes a sync by the pending bytes. Everything the crash analyses need
of `bufStep` is read off this. -/

/-- the pending write `P'` once `e` is held back behind the pending write `P` -/
def Held (P : List Effect) (e : Effect) (P' : List Effect) : Prop :=
  (direct e = [] ∧ (∀ f o d, e ≠ .write f o d) ∧ P' = P) ∨
  (∃ f o d, e = .write f o d ∧ P = [] ∧ P' = [e]) ∨
  (∃ f o p d, P = [.write f o p] ∧ e = .write f (o + p.length) d ∧ P' = [.write f o (p ++ d)])

theorem inv_push (cap : Nat) (b : BufSt) (f off : Nat) (data : Bytes)
    (hfo : b.pend ≠ [] → f = b.file ∧ off = b.off + b.pend.length) (hfit : b.pend.length + data.length ≤ cap) :
    Inv cap (push b f off data) (some (f, off + data.length)) := by
  by_cases hp : b.pend = []
  · have : push b f off data = { pend := data, file := f, off := off } := by simp [push, hp]
    rw [this]
    exact ⟨.inr rfl, by simpa [hp] using hfit⟩
  · obtain ⟨rfl, rfl⟩ := hfo hp
    have : push b b.file (b.off + b.pend.length) data = { b with pend := b.pend ++ data } := by simp [push, hp]
    rw [this]
    exact ⟨.inr (by simp [List.length_append, Nat.add_assoc]), by simpa using hfit⟩

theorem held_push (b : BufSt) (f off : Nat) (data : Bytes) (hne : data ≠ [])
    (hfo : b.pend ≠ [] → f = b.file ∧ off = b.off + b.pend.length) :
    Held (pendW b) (.write f off data) (pendW (push b f off data)) := by
  by_cases hp : b.pend = []
  · have : push b f off data = { pend := data, file := f, off := off } := by simp [push, hp]
    exact .inr (.inl ⟨f, off, data, rfl, pendW_nil b hp, by rw [this, pendW_ne _ hne]⟩)
  · obtain ⟨rfl, rfl⟩ := hfo hp
    have : push b b.file (b.off + b.pend.length) data = { b with pend := b.pend ++ data } := by simp [push, hp]
    exact .inr (.inr ⟨b.file, b.off, b.pend, data, pendW_ne b hp, rfl, by rw [this, pendW_ne _ (by simp [hp])]⟩)

theorem bufStep_shape (cap : Nat) (b : BufSt) (st st1 : St) (e : Effect) (hinv : Inv cap b st)
    (hr : run1 st e = some st1) :
    Inv cap (bufStep cap b e).1 st1 ∧
    (((bufStep cap b e).2 = [] ∧ Held (pendW b) e (pendW (bufStep cap b e).1)) ∨
     ((bufStep cap b e).2 = b.flushOps ∧
       (pendW (bufStep cap b e).1 = [e] ∨ (e = .flush ∧ pendW (bufStep cap b e).1 = []))) ∨
     ((bufStep cap b e).2 = b.flushOps ++ direct e ∧ pendW (bufStep cap b e).1 = []) ∨
     ((bufStep cap b e).2 = direct e ∧ (bufStep cap b e).1 = b ∧ direct e = [.sync])) := by
  -- file-level operations are issued with nothing pending
  have fileop : (if st = none then some (none : St) else none) = some st1 → (bufStep cap b e).1 = b →
      (bufStep cap b e).2 = direct e →
      Inv cap (bufStep cap b e).1 st1 ∧
      (bufStep cap b e).2 = b.flushOps ++ direct e ∧ pendW (bufStep cap b e).1 = [] := by
    intro h hb hd
    by_cases hst : st = none
    · have hp : b.pend = [] := hinv.1.resolve_right (fun h1 => by rw [hst] at h1; cases h1)
      rw [if_pos hst] at h
      rw [hb, hd, flushOps_nil b hp, ← Option.some.inj h]
      exact ⟨⟨.inl hp, hinv.2⟩, rfl, pendW_nil b hp⟩
    · rw [if_neg hst] at h; cases h
  cases e with
  | write f off data =>
    simp only [run1] at hr
    by_cases hc : data ≠ [] ∧ (st = none ∨ st = some (f, off))
    case neg => rw [if_neg hc] at hr; cases hr
    rw [if_pos hc] at hr
    obtain ⟨hne, hst⟩ := hc
    rw [← Option.some.inj hr]
    -- where the pending bytes end, if any
    have hfo : b.pend ≠ [] → f = b.file ∧ off = b.off + b.pend.length := by
      intro hp
      have hs : st = some (b.file, b.off + b.pend.length) := hinv.1.resolve_left hp
      rcases hst with h | h
      · rw [h] at hs; cases hs
      · rw [h] at hs
        injection hs with hs
        injection hs with h1 h2
        exact ⟨h1, h2⟩
    have hcap := hinv.2
    have hpush0 : pendW (push {} f off data) = [.write f off data] := by
      rw [show push {} f off data = { pend := data, file := f, off := off } by simp [push], pendW_ne _ hne]
    rw [bufStep_write]
    by_cases h1 : data.length < cap - b.pend.length
    · rw [if_pos h1]
      exact ⟨inv_push cap b f off data hfo (by omega), .inl ⟨rfl, held_push b f off data hne hfo⟩⟩
    rw [if_neg h1]
    by_cases h2 : data.length > cap - b.pend.length
    · rw [if_pos h2]
      by_cases h3 : data.length ≥ cap
      · rw [if_pos h3]; exact ⟨inv_empty cap _, .inr (.inr (.inl ⟨rfl, pendW_nil _ rfl⟩))⟩
      · rw [if_neg h3]
        exact ⟨inv_push cap {} f off data (fun h => absurd rfl h)
          (by simp only [List.length_nil, Nat.zero_add]; omega), .inr (.inl ⟨rfl, .inl hpush0⟩)⟩
    · rw [if_neg h2]
      by_cases h3 : data.length ≥ cap
      · rw [if_pos h3]
        have hp : b.pend = [] := pend_nil_of_fill hinv.2 h2 h3
        exact ⟨⟨.inl hp, hinv.2⟩, .inr (.inr (.inl ⟨by rw [flushOps_nil b hp]; rfl, pendW_nil b hp⟩))⟩
      · rw [if_neg h3]
        exact ⟨inv_push cap b f off data hfo (by omega), .inl ⟨rfl, held_push b f off data hne hfo⟩⟩
  | flush =>
    rw [← Option.some.inj hr]
    exact ⟨inv_empty cap _, .inr (.inl ⟨rfl, .inr ⟨rfl, pendW_nil _ rfl⟩⟩)⟩
  | fsyncFile f => rw [← Option.some.inj hr]; exact ⟨hinv, .inr (.inr (.inr ⟨rfl, rfl, rfl⟩))⟩
  | fsyncDir => rw [← Option.some.inj hr]; exact ⟨hinv, .inr (.inr (.inr ⟨rfl, rfl, rfl⟩))⟩
  | listDir => rw [← Option.some.inj hr]; exact ⟨hinv, .inl ⟨rfl, .inl ⟨rfl, (fun _ _ _ h => by cases h), rfl⟩⟩⟩
  | openFile f => rw [← Option.some.inj hr]; exact ⟨hinv, .inl ⟨rfl, .inl ⟨rfl, (fun _ _ _ h => by cases h), rfl⟩⟩⟩
  | readBlock f => rw [← Option.some.inj hr]; exact ⟨hinv, .inl ⟨rfl, .inl ⟨rfl, (fun _ _ _ h => by cases h), rfl⟩⟩⟩
  | create f => exact (fileop hr rfl rfl).imp id fun h => .inr (.inr (.inl h))
  | setLen f n => exact (fileop hr rfl rfl).imp id fun h => .inr (.inr (.inl h))
  | ensureLen f n => exact (fileop hr rfl rfl).imp id fun h => .inr (.inr (.inl h))
  | unlink f => exact (fileop hr rfl rfl).imp id fun h => .inr (.inr (.inl h))

theorem toOsOps_cons (cap : Nat) (b : BufSt) (e : Effect) (es : List Effect) :
    toOsOps cap b (e :: es) =
      ((toOsOps cap (bufStep cap b e).1 es).1, (bufStep cap b e).2 ++ (toOsOps cap (bufStep cap b e).1 es).2) := rfl

theorem toOsOps_append (cap : Nat) (a c : List Effect) : ∀ b : BufSt,
    toOsOps cap b (a ++ c) =
      ((toOsOps cap (toOsOps cap b a).1 c).1, (toOsOps cap b a).2 ++ (toOsOps cap (toOsOps cap b a).1 c).2) := by
  induction a with
  | nil => intro b; simp [toOsOps]
  | cons e es ih =>
    intro b
    rw [List.cons_append, toOsOps_cons, toOsOps_cons, ih]
    simp [List.append_assoc]

/-! ### operation boundaries are effect boundaries

The image after the first `k` OS operations is the image after a whole number of the effects (the pending
bytes first), so the crash points "after `k` operations" are covered by the theorems stated for effect
boundaries. The argument (`op_boundary_fold`, and `ok_fold` for the whole list followed by a flush) is made
for any kind of state run by folding operations and any refinement of the `BufWriter` that has the shape of
`bufStep`; of the fold it needs one law, that two contiguous writes are the merged write. -/

theorem _root_.MRL.L.pendW_length_le (b : BufSt) : (pendW b).length ≤ 1 := by
  by_cases hp : b.pend = []
  · rw [pendW_nil b hp]; simp
  · rw [pendW_ne b hp]; simp

theorem direct_length_le (e : Effect) : (direct e).length ≤ 1 := by
  cases e <;> simp [direct]

theorem take_small {α : Type} {A B : List α} (hA : A.length ≤ 1) (hB : B.length ≤ 1) {k : Nat}
    (hk : k < (A ++ B).length) : (A ++ B).take k = [] ∨ (A ++ B).take k = A := by
  rw [List.length_append] at hk
  cases k with
  | zero => exact .inl rfl
  | succ k =>
    right
    have hk0 : k = 0 := by omega
    have hA1 : A.length = 1 := by omega
    subst hk0
    rw [List.take_append_of_le_length (Nat.le_of_eq hA1.symm), List.take_of_length_le (Nat.le_of_eq hA1)]

section
variable {α σ : Type} (F : σ → List α → σ) (dir : Effect → List α)

/-- the shape of `bufStep` (`Buf.bufStep_shape`), for a refinement of the `BufWriter` that emits the
    operations `ops` of type `α` and leaves the buffer `b'`; `dir` translates an effect directly -/
def ShapeOf (b : BufSt) (e : Effect) (b' : BufSt) (ops : List α) : Prop :=
  (ops = [] ∧ Held (pendW b) e (pendW b')) ∨
  (ops = (pendW b).flatMap dir ∧ (pendW b' = [e] ∨ (e = .flush ∧ pendW b' = []))) ∨
  (ops = (pendW b).flatMap dir ++ dir e ∧ pendW b' = []) ∨
  (ops = dir e ∧ b' = b ∧ ∀ S, F S (dir e) = S)

theorem hstep_of_shape (hFnil : ∀ S, F S [] = S) (hFapp : ∀ S a b, F S (a ++ b) = F (F S a) b)
    (hlen : ∀ e, (dir e).length ≤ 1) (hsil : ∀ e, direct e = [] → dir e = [])
    (hmerge : ∀ S f o p d, F S (dir (.write f o (p ++ d))) =
      F (F S (dir (.write f o p))) (dir (.write f (o + p.length) d)))
    {b b' : BufSt} {e : Effect} {ops : List α} (h : ShapeOf F dir b e b' ops) (S : σ) :
    F (F S ops) ((pendW b').flatMap dir) = F (F S ((pendW b).flatMap dir)) (dir e) ∧
    (∀ k, k < ops.length → F S (ops.take k) = S ∨ F S (ops.take k) = F S ((pendW b).flatMap dir)) ∧
    (F S ops = S ∨ F S ops = F S ((pendW b).flatMap dir) ∨ F S ops = F (F S ((pendW b).flatMap dir)) (dir e)) := by
  have hpl : ((pendW b).flatMap dir).length ≤ 1 := by
    by_cases hp : b.pend = []
    · rw [pendW_nil b hp]; exact Nat.zero_le _
    · rw [pendW_ne b hp, List.flatMap_cons, List.flatMap_nil, List.append_nil]; exact hlen _
  have one : ∀ v : Effect, [v].flatMap dir = dir v := fun v => by
    rw [List.flatMap_cons, List.flatMap_nil, List.append_nil]
  have key : ∀ {A B : List α}, A.length ≤ 1 → B.length ≤ 1 → ops = A ++ B →
      ∀ k, k < ops.length → F S (ops.take k) = S ∨ F S (ops.take k) = F S A := by
    intro A B hA hB hE k hk
    rw [hE] at hk ⊢
    exact (take_small hA hB hk).imp (fun h => by rw [h, hFnil]) (fun h => by rw [h])
  rcases h with ⟨h, hh⟩ | ⟨h, hh⟩ | ⟨h, hh⟩ | ⟨h, hb, hs⟩
  · subst h
    refine ⟨?_, (fun k hk => by cases hk), .inl (hFnil S)⟩
    rw [hFnil]
    rcases hh with ⟨hd, _, hP⟩ | ⟨f, o, d, rfl, hP, hP'⟩ | ⟨f, o, p, d, hP, rfl, hP'⟩
    · rw [hP, hsil e hd, hFnil]
    · rw [hP, hP', one, List.flatMap_nil, hFnil]
    · rw [hP, hP', one, one]; exact hmerge S f o p d
  · subst h
    refine ⟨?_, key hpl (Nat.zero_le _) (List.append_nil _).symm, .inr (.inl rfl)⟩
    rcases hh with hP' | ⟨rfl, hP'⟩ <;> rw [hP']
    · rw [one]
    · rw [hsil .flush rfl]; rfl
  · subst h
    exact ⟨by rw [hh, List.flatMap_nil, hFnil, hFapp], key hpl (hlen e) rfl, .inr (.inr (hFapp _ _ _))⟩
  · subst h hb
    refine ⟨by rw [hs, hs], fun k hk => .inl ?_, .inl (hs S)⟩
    rcases key (A := []) (Nat.zero_le _) (hlen e) (List.nil_append _).symm k hk with h | h
    · exact h
    · rw [h, hFnil]

end

/-- `emit` for one effect, `emitAll` for a list; `dir` translates an effect directly; `ok` is the
    discipline (`Disc.run ok`) -/
theorem op_boundary_fold {α σ : Type} (F : σ → List α → σ) (hFnil : ∀ S, F S [] = S)
    (hFapp : ∀ S a b, F S (a ++ b) = F (F S a) b) (cap : Nat)
    (emit : BufSt → Effect → BufSt × List α) (emitAll : BufSt → List Effect → BufSt × List α)
    (dir : Effect → List α) (ok : St → Effect → Option St)
    (hnil : ∀ b, emitAll b [] = (b, []))
    (hcons : ∀ b e es, emitAll b (e :: es) =
      ((emitAll (emit b e).1 es).1, (emit b e).2 ++ (emitAll (emit b e).1 es).2))
    (hlen : ∀ e, (dir e).length ≤ 1) (hsil : ∀ e, direct e = [] → dir e = [])
    (hmerge : ∀ S f o p d, F S (dir (.write f o (p ++ d))) =
      F (F S (dir (.write f o p))) (dir (.write f (o + p.length) d)))
    (hstep : ∀ b st st1 e, Inv cap b st → ok st e = some st1 →
      Inv cap (emit b e).1 st1 ∧ ShapeOf F dir b e (emit b e).1 (emit b e).2) :
    ∀ (es : List Effect) (b : BufSt) (st st' : St) (S : σ), Inv cap b st → Disc.run ok st es = some st' → ∀ k,
    ∃ n, F S ((emitAll b es).2.take k) = F S (((pendW b ++ es).take n).flatMap dir) := by
  intro es
  induction es with
  | nil =>
    intro b st st' S _ _ k
    exact ⟨0, by rw [hnil]; simp [hFnil]⟩
  | cons e es ih =>
    intro b st st' S hinv hr k
    simp only [Disc.run] at hr
    cases h1 : ok st e with
    | none => rw [h1] at hr; cases hr
    | some st1 =>
      rw [h1] at hr
      obtain ⟨hinv1, hsh⟩ := hstep b st st1 e hinv h1
      obtain ⟨hok, hpre, hall⟩ := hstep_of_shape F dir hFnil hFapp hlen hsil hmerge hsh S
      rw [hcons]
      simp only
      -- the three kinds of effect boundaries around `e`
      have hb0 : S = F S (((pendW b ++ e :: es).take 0).flatMap dir) := by simp [hFnil]
      have hb1 : F S ((pendW b).flatMap dir) = F S (((pendW b ++ e :: es).take (pendW b).length).flatMap dir) := by
        rw [List.take_left' rfl]
      have hb2 : ∀ m, F (F (F S ((pendW b).flatMap dir)) (dir e)) ((es.take m).flatMap dir) =
          F S (((pendW b ++ e :: es).take ((pendW b).length + 1 + m)).flatMap dir) := by
        intro m
        have htk : (pendW b ++ e :: es).take ((pendW b).length + 1 + m) = pendW b ++ ([e] ++ es.take m) := by
          rw [Nat.add_assoc, List.take_length_add_append, Nat.add_comm 1 m, List.take_succ_cons]
          rfl
        rw [htk, List.flatMap_append, List.flatMap_append, hFapp, hFapp]
        simp
      by_cases hk : k < (emit b e).2.length
      · rw [List.take_append_of_le_length (Nat.le_of_lt hk)]
        rcases hpre k hk with h | h
        · exact ⟨0, by rw [h]; exact hb0⟩
        · exact ⟨(pendW b).length, by rw [h]; exact hb1⟩
      · rw [List.take_append, List.take_of_length_le (Nat.le_of_not_lt hk), hFapp]
        obtain ⟨n', hn'⟩ := ih (emit b e).1 st1 st' (F S (emit b e).2) hinv1 hr (k - (emit b e).2.length)
        rw [hn']
        cases n' with
        | zero =>
          rw [List.take_zero, List.flatMap_nil, hFnil]
          rcases hall with h | h | h
          · exact ⟨0, by rw [h]; exact hb0⟩
          · exact ⟨(pendW b).length, by rw [h]; exact hb1⟩
          · exact ⟨(pendW b).length + 1 + 0, by rw [h, ← hb2 0]; simp [hFnil]⟩
        | succ m =>
          -- at least one effect: the pending bytes of the new buffer are among them
          have hpl1 := L.pendW_length_le (emit b e).1
          refine ⟨(pendW b).length + 1 + (m + 1 - (pendW (emit b e).1).length), ?_⟩
          rw [List.take_append, List.take_of_length_le (Nat.le_trans hpl1 (Nat.le_add_left 1 m)),
            List.flatMap_append, hFapp, hok, hb2]

theorem ok_fold {α σ : Type} (F : σ → List α → σ) (hFnil : ∀ S, F S [] = S)
    (hFapp : ∀ S a b, F S (a ++ b) = F (F S a) b) (cap : Nat)
    (emit : BufSt → Effect → BufSt × List α) (emitAll : BufSt → List Effect → BufSt × List α)
    (dir : Effect → List α) (ok : St → Effect → Option St)
    (hnil : ∀ b, emitAll b [] = (b, []))
    (hcons : ∀ b e es, emitAll b (e :: es) =
      ((emitAll (emit b e).1 es).1, (emit b e).2 ++ (emitAll (emit b e).1 es).2))
    (hlen : ∀ e, (dir e).length ≤ 1) (hsil : ∀ e, direct e = [] → dir e = [])
    (hmerge : ∀ S f o p d, F S (dir (.write f o (p ++ d))) =
      F (F S (dir (.write f o p))) (dir (.write f (o + p.length) d)))
    (hstep : ∀ b st st1 e, Inv cap b st → ok st e = some st1 →
      Inv cap (emit b e).1 st1 ∧ ShapeOf F dir b e (emit b e).1 (emit b e).2) :
    ∀ (es : List Effect) (b : BufSt) (st st' : St), Inv cap b st → Disc.run ok st es = some st' →
      Inv cap (emitAll b es).1 st' ∧
      ∀ S, F (F S (emitAll b es).2) ((pendW (emitAll b es).1).flatMap dir) =
        F (F S ((pendW b).flatMap dir)) (es.flatMap dir) := by
  intro es
  induction es with
  | nil =>
    intro b st st' hinv hr
    injection hr with hr
    subst hr
    rw [hnil]
    exact ⟨hinv, fun S => by simp [hFnil]⟩
  | cons e es ih =>
    intro b st st' hinv hr
    simp only [Disc.run] at hr
    cases h1 : ok st e with
    | none => rw [h1] at hr; cases hr
    | some st1 =>
      rw [h1] at hr
      obtain ⟨hinv1, hsh⟩ := hstep b st st1 e hinv h1
      obtain ⟨hinv2, hrest⟩ := ih (emit b e).1 st1 st' hinv1 hr
      rw [hcons]
      refine ⟨hinv2, fun S => ?_⟩
      simp only
      rw [hFapp, hrest, (hstep_of_shape F dir hFnil hFapp hlen hsil hmerge hsh S).1, List.flatMap_cons, hFapp]

theorem bufStep_shapeOf (cap : Nat) (b : BufSt) (st st1 : St) (e : Effect) (hi : Inv cap b st)
    (h1 : run1 st e = some st1) :
    Inv cap (bufStep cap b e).1 st1 ∧ ShapeOf applyOsOps direct b e (bufStep cap b e).1 (bufStep cap b e).2 := by
  obtain ⟨hinv', hsh⟩ := bufStep_shape cap b st st1 e hi h1
  rw [← directOps_pendW] at hsh
  exact ⟨hinv', hsh.imp id (Or.imp id (Or.imp id fun ⟨h1, h2, h3⟩ => ⟨h1, h2, fun S => by rw [h3]; rfl⟩))⟩

theorem toOsOps_ok (cap : Nat) (es : List Effect) (b : BufSt) (st st' : St) (hinv : Inv cap b st)
    (hr : run st es = some st') :
    Inv cap (toOsOps cap b es).1 st' ∧
    ∀ img, applyOsOps (applyOsOps img (toOsOps cap b es).2) (toOsOps cap b es).1.flushOps =
      applyOsOps (applyOsOps img b.flushOps) (directOps es) := by
  have := ok_fold applyOsOps (fun _ => rfl) applyOsOps_append cap (bufStep cap) (toOsOps cap) direct run1
    (fun _ => rfl) (toOsOps_cons cap) direct_length_le (fun _ h => h)
    (fun S f o p d => (write_write S f o p d).symm) (bufStep_shapeOf cap) es b st st' hinv (run_eq st es ▸ hr)
  refine ⟨this.1, fun img => ?_⟩
  rw [← directOps_pendW, ← directOps_pendW]
  exact this.2 img

theorem op_boundary (cap : Nat) (es : List Effect) (b : BufSt) (st st' : St) (img : Image)
    (hinv : Inv cap b st) (hr : run st es = some st') (k : Nat) :
    ∃ n, applyOsOps img ((toOsOps cap b es).2.take k) = applyOsOps img (directOps ((pendW b ++ es).take n)) :=
  op_boundary_fold applyOsOps (fun _ => rfl) applyOsOps_append cap (bufStep cap) (toOsOps cap) direct
    run1 (fun _ => rfl) (toOsOps_cons cap) direct_length_le (fun _ h => h)
    (fun S f o p d => (write_write S f o p d).symm) (bufStep_shapeOf cap) es b st st' img hinv (run_eq st es ▸ hr) k

theorem flushed_image (cap : Nat) (img : Image) (es : List Effect) (h : (run none es).isSome) :
    applyOsOps img (toOsOps cap {} (es ++ [.flush])).2 = applyOsOps img (directOps es) := by
  obtain ⟨st', hst'⟩ := Option.isSome_iff_exists.mp h
  obtain ⟨_, hk⟩ := toOsOps_ok cap es {} none st' (inv_empty cap none) hst'
  rw [toOsOps_append]
  simp only [toOsOps, bufStep, List.append_nil]
  rw [applyOsOps_append, hk]
  simp [flushOps_nil, applyOsOps]

end MRL.Buf
