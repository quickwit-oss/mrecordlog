/-
The three phases of a crash, from a state satisfying the relaxed invariant: while a call writes its entry,
while the GC touches are written, and while the GC pass unlinks the files (a prefix of the deletable files
is gone: `L.gc_partial`). At ANY byte, `open` succeeds with the queues before or after the call up to the file
handles, and the recovered log satisfies the relaxed invariant again (`XInvResQ`). The closing `PDA`
section is about `XRes`, the same without the invariant of the recovered log.
-/
import MRL.Proofs.LInv

namespace MRL.L
open Codec Consts G H Torn Log Buf C05 C01J

/-- `open` succeeds on `X` with the queues before the call or after it, up to the handles -/
def XRes (g : Geom) (qsBefore qsAfter : MemQueues) (X : Image) : Prop :=
  ∀ policy, ∃ lp e0 io, recoverPre g X policy none = .ok (lp, e0, io) ∧
    (AbsEq lp.queues qsBefore ∨ AbsEq lp.queues qsAfter)

/-- `XRes`, and moreover the recovered log satisfies the relaxed invariant on `X` for a journal of
    serialisable entries -/
def XInvRes (g : Geom) (qsBefore qsAfter : MemQueues) (X : Image) : Prop :=
  ∀ policy, ∃ (J' : List JE) (lp : Log) (io F' : Nat),
    recoverPre g X policy none = .ok (lp, [.ensureLen F' g.fileBytes], io) ∧ lp.files.headD 0 = F' ∧
    CInvX g lp J' X ∧ (∀ j ∈ J', C07.WF j.e) ∧ lp.policy = policy ∧
    (AbsEq lp.queues qsBefore ∨ AbsEq lp.queues qsAfter)

/-- `XInvRes` for an arbitrary predicate `Q` carried by the journal of the recovered log; `XInvRes` is the
    case "every entry is serialisable" -/
def XInvResQ (g : Geom) (Q : List JE → MemQueues → Prop) (qsBefore qsAfter : MemQueues) (X : Image) : Prop :=
  ∀ policy, ∃ (J' : List JE) (lp : Log) (io F' : Nat),
    recoverPre g X policy none = .ok (lp, [.ensureLen F' g.fileBytes], io) ∧ lp.files.headD 0 = F' ∧
    CInvX g lp J' X ∧ Q J' lp.queues ∧ lp.policy = policy ∧
    (AbsEq lp.queues qsBefore ∨ AbsEq lp.queues qsAfter)

theorem XInvResQ.mono {g : Geom} {Q Q' : List JE → MemQueues → Prop} {qB qA : MemQueues} {X : Image}
    (h : XInvResQ g Q qB qA X) (hQ : ∀ J q, Q J q → Q' J q) : XInvResQ g Q' qB qA X := by
  intro policy
  obtain ⟨J', lp, io, F', a1, a2, a3, a4, a5, a6⟩ := h policy
  exact ⟨J', lp, io, F', a1, a2, a3, hQ _ _ a4, a5, a6⟩

theorem XInvResQ.of_same {g : Geom} {Q : List JE → MemQueues → Prop} {q qB qA : MemQueues} {X : Image}
    (h : XInvResQ g Q q q X) (hq : AbsEq q qB ∨ AbsEq q qA) : XInvResQ g Q qB qA X := by
  intro policy
  obtain ⟨J', lp, io, F', a1, a2, a3, a4, a5, a6⟩ := h policy
  exact ⟨J', lp, io, F', a1, a2, a3, a4, a5, hq.imp (a6.elim id id).trans (a6.elim id id).trans⟩

theorem XInvRes.xres {g : Geom} {qB qA : MemQueues} {X : Image} (h : XInvRes g qB qA X) : XRes g qB qA X := by
  intro policy
  obtain ⟨J', lp, io, F', h1, _, _, _, _, h5⟩ := h policy
  exact ⟨lp, _, io, h1, h5⟩

theorem XRes.of_same {g : Geom} {q qB qA : MemQueues} {X : Image} (h : XRes g q q X)
    (hq : AbsEq q qB ∨ AbsEq q qA) : XRes g qB qA X := by
  intro policy
  obtain ⟨lp, e0, io, h1, h2⟩ := h policy
  exact ⟨lp, e0, io, h1, hq.imp (h2.elim id id).trans (h2.elim id id).trans⟩

section
variable {N : Entry → Prop} {Q : List JE → MemQueues → Prop} (cq : Carry N Q) (g : Geom) (hB : g.B ≤ 65542)
include cq hB

theorem Carry.xinvres {l : Log} {J : List JE} {D : Image} (h : CInvX g l J D) (hQ : Q J l.queues) :
    XInvResQ g Q l.queues l.queues D := by
  intro policy
  obtain ⟨J', lp, io, hrec, hc, hw, hab, hpol, hhead⟩ := cq.open_ok g hB h hQ policy
  exact ⟨J', lp, io, _, hrec, hhead, hc, hw, hpol, Or.inl hab⟩

theorem Carry.xinvres_disk {X : Image} {F : Nat} {J : List JE} (hd : DiskX g X F J) (hewf : ∀ j ∈ J, EntryWF j.e)
    (hmono : J.Pairwise (fun a b => a.loc ≤ b.loc)) {qs q0 qB qA : MemQueues} (hrep : replayJ F [] J = some qs)
    (hQ : Q J q0) (h0 : AbsEq q0 qs) (hqe : AbsEq qs qB ∨ AbsEq qs qA) : XInvResQ g Q qB qA X := by
  intro policy
  obtain ⟨J', lp, io, hrec, hc, hw, hab, hpol, hhead⟩ := cq.open_disk g hB hd hewf hmono qs hrep hQ h0 policy
  exact ⟨J', lp, io, _, hrec, hhead, hc, hw, hpol, hqe.imp hab.symm.trans hab.symm.trans⟩

/-- at any byte the disk is a `DiskX` disk for the journal without or with the new entry; only the
    journal's tie to the queues up to the handles is used (`CInvA`) -/
theorem Carry.entry_phase_crash {l : Log} {J : List JE} {D : Image}
    (h : CInvA g l J D) (e : Entry) (qs' : MemQueues) (hewf : EntryWF e)
    (hre : replayEntry l.queues l.cur e = some qs') (hQ0 : Q J l.queues) (hQ1 : Q (J ++ [l.je g e]) qs')
    (htorn : TornEffs (Log.writeEntry g l e).2.1) (w : Bool) (X : Image)
    (hX : CutW w D (Log.writeEntry g l e).2.1 X) :
    XInvResQ g Q l.queues qs' X := by
  obtain ⟨init, t, x, res, ais, lead, gs, x0⟩ := h.disk
  obtain ⟨_, _, _, _, _, _, _, _, _, hcut, _⟩ := entry_extX g x0 e
  rcases hcut htorn w X hX with hd | hd
  · obtain ⟨qs, hrep, heq, _⟩ := h.rep
    exact cq.xinvres_disk g hB hd h.chunk.wf h.chunk.mono hrep hQ0 heq.symm (Or.inl heq)
  · obtain ⟨r, hrep, heq, _⟩ := rep_entryA g h e qs' hewf hre
    have hch := h.chunk.append (je_chunk g l e h.files hewf)
    exact cq.xinvres_disk g hB hd hch.wf hch.mono hrep hQ1 heq.symm (Or.inr heq)

theorem Carry.touch_phase_crash {l : Log} {J : List JE} {D : Image}
    (h : CInvA g l J D) (names : List Bytes) (hnames : ∀ n ∈ names, n ∈ l.queues.emptyNames)
    (hQ : ∀ i, Q (J ++ (touchesJ g l names).take i) l.queues)
    (htorn : TornEffs (writeTouches g l names).2.1) (w : Bool) (X : Image)
    (hX : CutW w D (writeTouches g l names).2.1 X) :
    XInvResQ g Q l.queues l.queues X := by
  obtain ⟨init, t, x, res, ais, lead, gs, x0⟩ := h.disk
  obtain ⟨i3, t3, x3, r3, ais3, gs3, y3, hcut3⟩ :=
    touches_extX g (l.files.headD 0) lead names _ _ _ _ _ _ _ _ _ x0
  obtain ⟨i, hd⟩ := hcut3 htorn w X hX
  have hch := h.chunk.append (touchesJ_chunk g names l h.files)
  have hsub : (J ++ (touchesJ g l names).take i).Sublist (J ++ touchesJ g l names) :=
    List.Sublist.append_left (List.take_sublist _ _) _
  -- the touches written so far replay to the same queues
  obtain ⟨q, hq, hqe, _⟩ := rep_extendA h ((touchesJ g l names).take i) l.queues
    (fun _ hj => h.loc_ge (touchesJ_chunk g names l h.files) (List.mem_of_mem_take hj))
    (by rw [touchesJ_take]
        exact touches_replay g (l.files.headD 0) (names.take i) l h.files h.hF h.inv.1
          (fun n hn => hnames n (List.mem_of_mem_take hn)))
  exact cq.xinvres_disk g hB hd (fun j hj => hch.wf j (hsub.subset hj)) (hch.mono.sublist hsub) hq
    (hQ i) hqe.symm (Or.inl hqe)

/-- a crash after `k` of the unlinks: `open` on the state of `gc_partial` -/
theorem Carry.unlink_phase_crash {l2 : Log} {J2 : List JE} {D2 : Image}
    (h : CInvX g l2 J2 D2) (order : List Bytes) (names : List Bytes)
    (hj : gcJ g l2 order = touchesJ g l2 names)
    (hr : (runGc g l2 order).1 = { (writeTouches g l2 names).1 with
      files := (gcFiles ((writeTouches g l2 names).1.canDelete l2.cur) (writeTouches g l2 names).1.files).1 })
    (hQ : Q (J2 ++ touchesJ g l2 names) l2.queues) (k : Nat)
    (hk : k ≤ (gcFiles ((writeTouches g l2 names).1.canDelete l2.cur) (writeTouches g l2 names).1.files).2.length) :
    XInvResQ g Q l2.queues l2.queues
      (applyOsOps (applyOsOps D2 (directOps (writeTouches g l2 names).2.1))
        (((gcFiles ((writeTouches g l2 names).1.canDelete l2.cur) (writeTouches g l2 names).1.files).2.take k).map
          OsOp.unlink)) := by
  have hq : (runGc g l2 order).1.queues = l2.queues := Step.runGc_queues g l2 order
  have := cq.xinvres g hB (gc_partial g h order names hj hr k hk) (by rw [hj]; exact hq ▸ hQ)
  exact hq ▸ this

end

theorem filterMap_take {α β : Type} (f : α → Option β) : ∀ (l : List α) (k : Nat),
    ∃ i, i ≤ (l.filterMap f).length ∧ (l.take k).filterMap f = (l.filterMap f).take i := by
  intro l
  induction l with
  | nil => intro k; exact ⟨0, Nat.le_refl _, by simp⟩
  | cons a l ih =>
    intro k
    cases k with
    | zero => exact ⟨0, Nat.zero_le _, by simp⟩
    | succ k =>
      obtain ⟨i, hi, he⟩ := ih k
      rw [List.take_succ_cons, List.filterMap_cons, List.filterMap_cons]
      cases f a with
      | none => exact ⟨i, hi, he⟩
      | some b => exact ⟨i + 1, by simpa using hi, by simp [he]⟩

end MRL.L

namespace MRL.PDA
open Codec Consts G H Torn Log Buf C05 C01J L

theorem cinva_xres (g : Geom) (hB : g.B ≤ 65542) {l : Log} {J : List JE} {D : Image} (h : CInvA g l J D)
    (hwf : ∀ j ∈ J, C07.WF j.e) : XRes g l.queues l.queues D := by
  intro policy
  obtain ⟨_, lp, io, hrec, _, _, hab⟩ := cinva_open g hB h hwf policy
  exact ⟨lp, _, io, hrec, Or.inl hab⟩

end MRL.PDA
