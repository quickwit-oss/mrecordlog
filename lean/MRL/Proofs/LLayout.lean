/-
Prefixes of a layout. Buffer-wise: after the first `j` buffers of the layout of some frames the
writer stands after a whole number `i` of frames, possibly after the padding that precedes the next
one; the bytes up to such a position are the layout of the first `i` frames and zeros. The same for a
tape of items, also up to a cut inside the slot of the next item; where a byte position falls among
the frames of a layout.
-/
import MRL.Proofs.LItems

namespace MRL.L
open Codec Consts G Torn

theorem bufs_prefix (g : Geom) : ∀ (fs : List Frm) (p j : Nat), Fits g (p % g.B) fs →
    j ≤ (layoutBufs g (p % g.B) fs).length →
    ∃ i, i ≤ fs.length ∧ endPos g p (fs.take i) ≤ p + totalLen ((layoutBufs g (p % g.B) fs).take j) ∧
      p + totalLen ((layoutBufs g (p % g.B) fs).take j) ≤ hdrPos g (endPos g p (fs.take i)) := by
  intro fs
  induction fs with
  | nil =>
    intro p j _ _
    exact ⟨0, Nat.le_refl _, by simp [layoutBufs, endPos], by simp [layoutBufs, endPos, le_hdrPos]⟩
  | cons fr fs ih =>
    intro p j hf hj
    rw [Fits_pos_cons] at hf
    rw [layoutBufs_pos_cons g p fr fs hf.1] at hj ⊢
    have htot := totalLen_frameWrites g p fr.1 fr.2
    by_cases hjk : (frameWrites g (p % g.B) fr.1 fr.2).length ≤ j
    · -- the whole frame is written
      rw [List.take_append, List.take_of_length_le hjk, totalLen_append, ← Nat.add_assoc, htot]
      obtain ⟨i, hi, h1, h2⟩ := ih (nextPos g p fr.2.length) (j - (frameWrites g (p % g.B) fr.1 fr.2).length) hf.2
        (by rw [List.length_append, Nat.add_comm] at hj; exact Nat.sub_le_of_le_add hj)
      exact ⟨i + 1, Nat.succ_le_succ hi, h1, h2⟩
    · -- inside the frame's buffers: nothing, or the padding
      refine ⟨0, Nat.zero_le _, ?_, ?_⟩
      · simp [endPos]
      · simp only [List.take_zero, endPos]
        rw [List.take_append_of_le_length (Nat.le_of_lt (Nat.lt_of_not_le hjk))]
        rw [frameWrites_eq] at hjk ⊢
        unfold hdrPos
        simp only [HEADER_LEN] at hjk ⊢
        by_cases hp : g.B - p % g.B < 7
        · rw [if_pos hp] at hjk ⊢
          rw [if_pos hp]
          have : j = 0 ∨ j = 1 := Nat.le_one_iff_eq_zero_or_eq_one.mp (Nat.le_of_lt_succ (Nat.lt_of_not_le hjk))
          rcases this with rfl | rfl <;> simp
        · rw [if_neg hp] at hjk ⊢
          rw [if_neg hp]
          have : j = 0 := Nat.lt_one_iff.mp (Nat.lt_of_not_le hjk)
          subst this
          simp

theorem layout_take_pad (g : Geom) (A Bf : List Frm) (hf : Fits g 0 (A ++ Bf)) (m : Nat)
    (h1 : endPos g 0 A ≤ m) (h2 : m ≤ hdrPos g (endPos g 0 A)) (h3 : m ≤ endPos g 0 (A ++ Bf)) :
    (layoutBufs g 0 (A ++ Bf)).flatten.take m =
      (layoutBufs g 0 A).flatten ++ zeros (m - endPos g 0 A) := by
  have hfA : Fits g 0 A := by rw [Fits_append] at hf; exact hf.1
  have hLA : (layoutBufs g 0 A).flatten.length = endPos g 0 A := G.layout0_length g A hfA
  by_cases hB : Bf = []
  · subst hB
    rw [List.append_nil] at h3 ⊢
    obtain rfl : m = endPos g 0 A := Nat.le_antisymm h3 h1
    rw [← hLA, List.take_length, Nat.sub_self]; exact (List.append_nil _).symm
  · have hcur : endCursor g 0 A = endPos g 0 A % g.B := by
      have := endCursor_pos g A 0 (by rw [Nat.zero_mod]; exact hfA)
      rwa [Nat.zero_mod] at this
    rw [layoutBufs_append, List.flatten_append, hcur, layout_hdrPos g _ Bf hB]
    exact take_in_zeros _ _ _ m hLA h1 (by have := le_hdrPos g (endPos g 0 A); omega)

theorem endCursor_frs (g : Geom) (A : List AItm) (hf : Fits g 0 (frs A)) :
    endCursor g 0 (frs A) = endPos g 0 (frs A) % g.B := by
  have := endCursor_pos g (frs A) 0 (by rw [Nat.zero_mod]; exact hf)
  rwa [Nat.zero_mod] at this

theorem padLen_hdrPos (g : Geom) (p : Nat) : padLen g (hdrPos g p % g.B) = 0 := by
  have := hdrPos_room g p
  unfold padLen; simp only [HEADER_LEN]; rw [if_neg (by omega)]

theorem cut_pos (g : Geom) : ∀ (fs : List Frm) (p m : Nat), p ≤ m → m ≤ endPos g p fs →
    ∃ i, (endPos g p (fs.take i) ≤ m ∧ m ≤ hdrPos g (endPos g p (fs.take i))) ∨
       (∃ fr, fs[i]? = some fr ∧ hdrPos g (endPos g p (fs.take i)) < m ∧
          m < hdrPos g (endPos g p (fs.take i)) + 7 + fr.2.length) := by
  intro fs
  induction fs with
  | nil => exact fun p m h1 h2 => ⟨0, Or.inl ⟨h1, Nat.le_trans h2 (le_hdrPos g p)⟩⟩
  | cons fr fs ih =>
    intro p m h1 h2
    by_cases ha : m ≤ hdrPos g p
    · exact ⟨0, Or.inl ⟨h1, ha⟩⟩
    · by_cases hb : m < nextPos g p fr.2.length
      · exact ⟨0, Or.inr ⟨fr, rfl, Nat.lt_of_not_le ha, hb⟩⟩
      · obtain ⟨i, h⟩ := ih (nextPos g p fr.2.length) m (Nat.le_of_not_lt hb) h2
        exact ⟨i + 1, h⟩

theorem drop_get {α : Type} : ∀ {l : List α} {i : Nat} {x : α}, l[i]? = some x → l.drop i = x :: l.drop (i + 1)
  | [], _, _, h => by cases h
  | _ :: _, 0, _, h => by cases h; rfl
  | _ :: l, i + 1, x, h => drop_get (l := l) (i := i) (x := x) h

theorem split_at {α : Type} {l : List α} {i : Nat} {x : α} (h : l[i]? = some x) :
    l = l.take i ++ x :: l.drop (i + 1) := by
  rw [← drop_get h, List.take_append_drop]

theorem take_succ_get {α : Type} {l : List α} {i : Nat} {x : α} (h : l[i]? = some x) :
    l.take (i + 1) = l.take i ++ [x] := by
  rw [List.take_add_one, h]; rfl

theorem flatJ_snoc (g : Geom) (A : List AItm) (a : AItm) (hf : Fits g 0 (frs A)) :
    flatJ g 0 (A ++ [a]) =
      flatJ g 0 A ++ zeros (hdrPos g (endPos g 0 (frs A)) - endPos g 0 (frs A)) ++ slot a := by
  rw [flatJ_append, endCursor_frs g A hf, flatJ_hdrPos g _ [a] (by simp), List.append_assoc]
  simp only [flatJ, padLen_hdrPos, zeros, List.replicate_zero, List.nil_append, List.append_nil]

theorem flatJ_take_pad (g : Geom) (A Bi : List AItm) (hr : ∀ a ∈ A ++ Bi, RawLen a) (hf : Fits g 0 (frs (A ++ Bi)))
    (m : Nat) (h1 : endPos g 0 (frs A) ≤ m) (h2 : m ≤ hdrPos g (endPos g 0 (frs A)))
    (h3 : m ≤ endPos g 0 (frs (A ++ Bi))) :
    (flatJ g 0 (A ++ Bi)).take m = flatJ g 0 A ++ zeros (m - endPos g 0 (frs A)) := by
  have hfA : Fits g 0 (frs A) := by rw [frs_append, Fits_append] at hf; exact hf.1
  have hLA : (flatJ g 0 A).length = endPos g 0 (frs A) :=
    flatJ0_len g A (fun a ha => hr a (List.mem_append_left _ ha)) hfA
  by_cases hB : Bi = []
  · subst hB
    rw [List.append_nil] at h3 ⊢
    obtain rfl : m = endPos g 0 (frs A) := Nat.le_antisymm h3 h1
    rw [← hLA, List.take_length, Nat.sub_self]; exact (List.append_nil _).symm
  · rw [flatJ_append, endCursor_frs g A hfA, flatJ_hdrPos g _ Bi hB]
    exact take_in_zeros _ _ _ m hLA h1 (by have := le_hdrPos g (endPos g 0 (frs A)); omega)

theorem flatJ_take_slot (g : Geom) (A : List AItm) (a : AItm) (Bi : List AItm) (hr : ∀ x ∈ A, RawLen x)
    (hfA : Fits g 0 (frs A)) (c : Nat) (hc : c ≤ (slot a).length) :
    (flatJ g 0 (A ++ a :: Bi)).take (hdrPos g (endPos g 0 (frs A)) + c) =
      flatJ g 0 A ++ zeros (hdrPos g (endPos g 0 (frs A)) - endPos g 0 (frs A)) ++ (slot a).take c := by
  have hfl : flatJ g (hdrPos g (endPos g 0 (frs A)) % g.B) (a :: Bi) =
      slot a ++ flatJ g (frameEndCursor g (hdrPos g (endPos g 0 (frs A)) % g.B) a.1.2.2.length) Bi := by
    simp only [flatJ, padLen_hdrPos, zeros, List.replicate_zero, List.nil_append]
  have e : hdrPos g (endPos g 0 (frs A)) + c =
      endPos g 0 (frs A) + (hdrPos g (endPos g 0 (frs A)) - endPos g 0 (frs A)) + c := by
    rw [Nat.add_sub_cancel' (le_hdrPos g _)]
  rw [flatJ_append, endCursor_frs g A hfA, flatJ_hdrPos g _ (a :: Bi) (List.cons_ne_nil _ _), e,
    take_past_zeros _ _ _ c (flatJ0_len g A hr hfA), hfl, List.take_append_of_le_length hc]

theorem JOK_shift (g : Geom) (L m : Nat) (hm : m % g.B = 0) (ais : List AItm) : ∀ p,
    JOK g (L + m) (p + m) ais ↔ JOK g L p ais := by
  induction ais with
  | nil => intro p; exact Iff.rfl
  | cons a ais ih =>
    intro p
    have e : (hdrPos g p + m) % g.B = hdrPos g p % g.B := by
      rw [Nat.add_mod, hm, Nat.add_zero, Nat.mod_mod]
    simp only [JOK, hdrPos_shift g p m hm, nextPos_shift g p m _ hm, ih, e]
    exact ⟨fun h => ⟨h.1.of_lt Nat.lt_of_add_lt_add_right, h.2⟩,
      fun h => ⟨h.1.of_lt fun h => Nat.add_lt_add_right h m, h.2⟩⟩

end MRL.L
