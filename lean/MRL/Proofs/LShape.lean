/-
What the relaxed invariant says of the directory (`DShape`): the tracked files are the files present;
those up to the current one have the nominal size; a file beyond it is its successor and is empty. Two
logs described by the same directory therefore track the same files and write in the same file
(`dshape_same`), and the next file, if any, is what `nextFile` finds (`dshape_next`).
-/
import MRL.Proofs.LInv

namespace MRL.L
open G Log

structure DShape (fb : Nat) (l : Log) (D : Image) : Prop where
  files : l.files = D.map (·.1)
  fw : FilesWF l
  full : ∀ kv ∈ D, kv.1 ≤ l.cur → kv.2.length = fb
  empty : ∀ kv ∈ D, l.cur < kv.1 → kv.2 = []
  one : ∀ kv ∈ D, l.cur < kv.1 → kv.1 = l.cur + 1

theorem dshape_of_tape {g : Geom} {l : Log} {D : Image} {init : List Bytes} {t : Bytes} {x : Bool} {res : Bytes}
    (hT : TapeR g l D (l.files.headD 0) init t x res) (hf : FilesWF l) : DShape g.fileBytes l D := by
  have hfull := tapeR_chunks hT
  generalize hcs : init ++ [t ++ (res ++ zeros (g.fileBytes - l.off - res.length))] = cs at hfull
  have hlen : cs.length = init.length + 1 := by rw [← hcs, List.length_append]; rfl
  have himg : D = imgOf (l.files.headD 0) cs ++ xtra x (l.files.headD 0 + init.length + 1) := by
    rw [← hcs]; exact hT.img
  have hcur := hT.cur
  have hin : ∀ kv ∈ imgOf (l.files.headD 0) cs, kv.1 ≤ l.cur := by
    intro kv hkv
    have := (imgOf_key_bounds _ _ kv hkv).2
    rw [hlen, ← Nat.add_assoc, ← hcur] at this
    exact Nat.le_of_lt_succ this
  have hx : ∀ kv ∈ xtra x (l.files.headD 0 + init.length + 1), kv = (l.cur + 1, []) := by
    intro kv hkv
    cases x
    · cases hkv
    · simp only [xtra, if_true, List.mem_singleton] at hkv
      rw [hkv, hcur]
  refine ⟨?_, hf, ?_, ?_, ?_⟩
  · rw [himg, List.map_append, imgOf_keys, xtra_map_keys, hlen]
    conv => lhs; rw [hT.files]
    cases x
    · simp only [Bool.false_eq_true, if_false, List.append_nil, Nat.add_zero]
    · simp only [if_true]
      exact (range'_snoc _ (init.length + 1)).symm
  · intro kv hkv hle
    rw [himg] at hkv
    rcases List.mem_append.mp hkv with hkv | hkv
    · exact hfull _ (imgOf_values _ _ kv hkv)
    · rw [hx kv hkv] at hle
      exact absurd hle (Nat.not_succ_le_self _)
  · intro kv hkv hlt
    rw [himg] at hkv
    rcases List.mem_append.mp hkv with hkv | hkv
    · exact absurd (hin kv hkv) (Nat.not_le.mpr hlt)
    · rw [hx kv hkv]
  · intro kv hkv hlt
    rw [himg] at hkv
    rcases List.mem_append.mp hkv with hkv | hkv
    · exact absurd (hin kv hkv) (Nat.not_le.mpr hlt)
    · rw [hx kv hkv]

theorem dshape_of_cinvx {g : Geom} {l : Log} {J : List JE} {D : Image} (h : CInvX g l J D) :
    DShape g.fileBytes l D := by
  obtain ⟨init, t, x, res, ais, lead, gs, hx⟩ := h.disk
  exact dshape_of_tape hx.tape h.jinv.h.files

theorem dshape_same {fb : Nat} (hfb : 0 < fb) {l lp : Log} {D : Image} (h : DShape fb l D) (hp : DShape fb lp D) :
    lp.files = l.files ∧ lp.cur = l.cur := by
  refine ⟨by rw [h.files, hp.files], ?_⟩
  have key : ∀ {a b : Log}, DShape fb a D → DShape fb b D → ¬ a.cur < b.cur := by
    intro a b ha hb hlt
    have hm := hb.fw.cur_mem
    rw [hb.files] at hm
    obtain ⟨kv, hkv, hk⟩ := List.mem_map.mp hm
    have h1 := ha.empty kv hkv (by rw [hk]; exact hlt)
    have h2 := hb.full kv hkv (by rw [hk]; exact Nat.le_refl _)
    rw [h1] at h2
    exact Nat.ne_of_lt hfb h2
  exact Nat.le_antisymm (Nat.not_lt.mp (key h hp)) (Nat.not_lt.mp (key hp h))

theorem dshape_next {fb : Nat} {l : Log} {D : Image} (h : DShape fb l D) :
    ∀ f ∈ l.files, l.cur < f → nextFile l.files l.cur = some f := by
  intro f hf hlt
  have hf' := hf
  rw [h.files] at hf'
  obtain ⟨kv, hkv, hk⟩ := List.mem_map.mp hf'
  have h1 := h.one kv hkv (by rw [hk]; exact hlt)
  cases hn : nextFile l.files l.cur with
  | none =>
    exact absurd hlt (Nat.not_lt.mpr (nextFile_none hn f hf))
  | some nf =>
    obtain ⟨hm, hl⟩ := nextFile_some hn
    rw [h.files] at hm
    obtain ⟨kv', hkv', hk'⟩ := List.mem_map.mp hm
    have h2 := h.one kv' hkv' (by rw [hk']; exact hl)
    rw [← hk, ← hk', h1, h2]

end MRL.L
