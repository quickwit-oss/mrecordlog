/-
Journal segments: a journal entry with its tagged frames (`Seg`, `SegOK`: one `EntryFrames true` group,
preceded on the tape by non-first "lead" frames, which `assemble` skips). The reader attributes an
entry to the tag of the last frame of the previous segment; where the segments are chained (`Chain`)
these are the journal's own attributions (`AttrOK`). What `assemble` delivers over segments is the
case without junk of `L.asm_reattr`.
-/
import MRL.Proofs.GRead
import MRL.Proofs.Journal

namespace MRL.G
open Codec

theorem assemble_lead (st : AsmSt) (hst : st.within = false) (lead : List TFrm) (evs : List RdEv)
    (h : ∀ a ∈ lead, a.2.1.isFirst = false) : assemble st (Rec.evsOf lead ++ evs) = assemble st evs := by
  refine assemble_skip_all st hst _ evs fun ev hev => ?_
  obtain ⟨a, ha, rfl⟩ := List.mem_map.mp hev
  exact ⟨_, _, _, rfl, h a ha⟩

abbrev Seg := JE × List TFrm

structure SegOK (s : Seg) : Prop where
  frames : EntryFrames true (untag s.2)
  payload : payloadOf (untag s.2) = s.1.e.encode
  first : ∀ a, s.2.head? = some a → a.1 = s.1.loc

/-- the reader's attributions are the journal's (clamped at `F`) -/
def AttrOK (F : Nat) : Nat → List Seg → Prop
  | _, [] => True
  | a, s :: rest => a = max s.1.attr F ∧ AttrOK F (lastTag s.2 0) rest

/-- consecutive segments: the next entry is attributed to the file where the previous one ended -/
def Chain : List Seg → Prop
  | [] => True
  | [_] => True
  | s1 :: s2 :: rest => lastTag s1.2 0 = s2.1.attr ∧ Chain (s2 :: rest)

theorem Chain.tail {s : Seg} {rest : List Seg} (h : Chain (s :: rest)) : Chain rest := by
  cases rest with
  | nil => trivial
  | cons s2 rest => exact h.2

theorem lastTag_ge {F : Nat} {fs : List TFrm} (hne : fs ≠ []) (h : ∀ x ∈ fs, F ≤ x.1) :
    F ≤ lastTag fs 0 := by
  unfold lastTag
  cases hl : fs.getLast? with
  | none => rw [List.getLast?_eq_none_iff] at hl; exact absurd hl hne
  | some a => exact h a (List.mem_of_getLast? hl)

theorem AttrOK_of_chain (F : Nat) : ∀ (segs : List Seg) (a : Nat),
    (∀ s ∈ segs, s.2 ≠ [] ∧ ∀ x ∈ s.2, F ≤ x.1) → Chain segs →
    (∀ s, segs.head? = some s → a = max s.1.attr F) → AttrOK F a segs := by
  intro segs
  induction segs with
  | nil => intro a _ _ _; trivial
  | cons s segs ih =>
    intro a hs hc hh
    refine ⟨hh s rfl, ih _ (fun s' hs' => hs s' (List.mem_cons_of_mem _ hs')) hc.tail ?_⟩
    intro s2 h2
    cases segs with
    | nil => cases h2
    | cons s2' rest =>
      simp only [List.head?_cons, Option.some.injEq] at h2
      subst h2
      have h1 := hc.1
      have h3 := lastTag_ge (hs s List.mem_cons_self).1 (hs s List.mem_cons_self).2
      rw [← h1]; exact (Nat.max_eq_left h3).symm

end MRL.G
