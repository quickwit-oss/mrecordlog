/-
Reassembly of well-formed frame lists (C07): `assemble` over the frames of one entry, each read from
any file; over a proper prefix of them (nothing is delivered); over non-first frames outside an entry
(ignored); over the frames of a list of entries read from one file.
-/
import MRL.Proofs.GPos
import MRL.Proofs.RecAssemble

namespace MRL.Codec

def tagF (f : Nat) (fs : List Frm) : List RdEv := fs.map (fun fr => RdEv.frame f fr.1 fr.2)

theorem tagF_append (f : Nat) (a b : List Frm) : tagF f (a ++ b) = tagF f a ++ tagF f b := by
  simp [tagF]

theorem assemble_skip_all (st : AsmSt) (hw : st.within = false) (l evs : List RdEv)
    (h : ∀ ev ∈ l, ∃ f t p, ev = RdEv.frame f t p ∧ t.isFirst = false) :
    assemble st (l ++ evs) = assemble st evs := by
  induction l with
  | nil => rfl
  | cons ev l ih =>
    obtain ⟨f, t, p, rfl, hf⟩ := h ev List.mem_cons_self
    rw [List.cons_append, assemble_skip st f t p _ hw hf]
    exact ih fun ev' h' => h ev' (List.mem_cons_of_mem _ h')

theorem isFirst_ofFlags (b l : Bool) : (FrameType.ofFlags b l).isFirst = b := by cases b <;> cases l <;> rfl

theorem isLast_ofFlags (b l : Bool) : (FrameType.ofFlags b l).isLast = l := by cases b <;> cases l <;> rfl

theorem within_or {w b : Bool} (h : b = true ∨ w = true) : (w || b) = true := by
  rcases h with h | h <;> simp [h]

theorem assemble_partial (part : List G.TFrm) :
    ∀ (b : Bool) (rest : List Frm) (st : AsmSt) (evs : List RdEv),
    rest ≠ [] → EntryFrames b (G.untag part ++ rest) → (b = true ∨ st.within = true) →
    ∃ st', st'.attr = st.attr ∧ assemble st (Rec.evsOf part ++ evs) = assemble st' evs := by
  induction part with
  | nil => intro b rest st evs _ _ _; exact ⟨st, rfl, rfl⟩
  | cons a part ih =>
    intro b rest st evs hrest hE hw
    obtain ⟨f, t, p⟩ := a
    have hne : G.untag part ++ rest ≠ [] := fun h => hrest (List.append_eq_nil_iff.mp h).2
    have ht : t = FrameType.ofFlags b false := by
      rw [← List.isEmpty_eq_false_iff.mpr hne]; exact hE.1
    have hlast : t.isLast = false := by rw [ht, isLast_ofFlags]
    have hfirst : t.isFirst = b := by rw [ht, isFirst_ofFlags]
    have hw2 : (st.within || t.isFirst) = true := by rw [hfirst]; exact within_or hw
    show ∃ st', st'.attr = st.attr ∧ assemble st (RdEv.frame f t p :: (Rec.evsOf part ++ evs)) = assemble st' evs
    rw [assemble_more st f t p _ hlast hw2]
    exact ih false rest { within := true, buf := (if t.isFirst then [] else st.buf) ++ p, attr := st.attr } evs
      hrest (hE.2 hne) (Or.inr rfl)

end MRL.Codec

namespace MRL.G
open Codec

def lastTag (fs : List TFrm) (d : Nat) : Nat := (fs.getLast?.map (·.1)).getD d

theorem lastTag_cons_cons (a b : TFrm) (fs : List TFrm) (d : Nat) :
    lastTag (a :: b :: fs) d = lastTag (b :: fs) d := by
  simp [lastTag, List.getLast?_cons_cons]

/-- the frames of one entry, each with the file it is read from: the entry is delivered with the
    running attribution, and the next one is attributed to the file of the last frame -/
theorem assemble_tagged (afs : List TFrm) :
    ∀ (b : Bool) (st : AsmSt) (evs : List RdEv), EntryFrames b (untag afs) → (b = true ∨ st.within = true) →
      assemble st (Rec.evsOf afs ++ evs) =
        RecEv.entry st.attr ((if b then [] else st.buf) ++ payloadOf (untag afs)) ::
          assemble { within := false, buf := (if b then [] else st.buf) ++ payloadOf (untag afs),
                     attr := lastTag afs 0 } evs := by
  induction afs with
  | nil => intro b st evs h; exact h.elim
  | cons a afs ih =>
    intro b st evs h hw
    obtain ⟨f, t, p⟩ := a
    simp only [untag, List.map_cons] at h
    obtain ⟨ht, htail⟩ := h
    simp only at ht
    have hfirst : t.isFirst = b := by rw [ht, isFirst_ofFlags]
    have hw2 : (st.within || t.isFirst) = true := by rw [hfirst]; exact within_or hw
    cases afs with
    | nil =>
      have hlast : t.isLast = true := by rw [ht, isLast_ofFlags]; rfl
      show assemble st (RdEv.frame f t p :: evs) = _
      rw [assemble_last st f t p evs hlast hw2, hfirst]
      simp [untag, lastTag]
    | cons a2 afs =>
      have h2 := htail (List.cons_ne_nil _ _)
      have hlast : t.isLast = false := by rw [ht, isLast_ofFlags]; rfl
      show assemble st (RdEv.frame f t p :: (Rec.evsOf (a2 :: afs) ++ evs)) = _
      rw [assemble_more st f t p _ hlast hw2, hfirst, ih false _ evs h2 (Or.inr rfl), lastTag_cons_cons]
      simp [untag, List.append_assoc]

end MRL.G

namespace MRL.Torn
open Codec G

def tagC (f : Nat) (fs : List Frm) : List TFrm := fs.map fun fr => (f, fr)

theorem untag_tagC (f : Nat) (fs : List Frm) : untag (tagC f fs) = fs := by
  simp only [untag, tagC, List.map_map]; exact List.map_id' fs

theorem tagC_tag {f : Nat} {fs : List Frm} {a : TFrm} (h : a ∈ tagC f fs) : a.1 = f := by
  obtain ⟨fr, _, rfl⟩ := List.mem_map.mp h; rfl

theorem evsOf_tagC (f : Nat) (fs : List Frm) : Rec.evsOf (tagC f fs) = tagF f fs := by
  simp only [Rec.evsOf, tagC, tagF, List.map_map]; rfl

theorem lastTag_tagC (f : Nat) {fs : List Frm} (h : fs ≠ []) : lastTag (tagC f fs) 0 = f := by
  unfold lastTag tagC
  rw [List.getLast?_map]
  cases hl : fs.getLast? with
  | none => exact absurd (List.getLast?_eq_none_iff.mp hl) h
  | some a => rfl

/-- initial state of the record reader standing in `file` -/
def st0 (file : Nat) : AsmSt := { within := false, buf := [], attr := file }

/-- the entries among record events (corrupt events dropped) -/
def entriesOf (l : List RecEv) : List RecEv :=
  l.filter fun ev => match ev with | .entry _ _ => true | .corrupt => false

theorem entriesOf_append (a b : List RecEv) : entriesOf (a ++ b) = entriesOf a ++ entriesOf b := by
  simp only [entriesOf, List.filter_append]

theorem entriesOf_entries (f : Nat) (es : List Bytes) : entriesOf (es.map (RecEv.entry f)) = es.map (RecEv.entry f) :=
  List.filter_eq_self.mpr fun a ha => by obtain ⟨e, _, rfl⟩ := List.mem_map.mp ha; rfl

theorem entriesOf_cons_entry (a : Nat) (b : Bytes) (l : List RecEv) :
    entriesOf (RecEv.entry a b :: l) = RecEv.entry a b :: entriesOf l := rfl

theorem entriesOf_cons_corrupt (l : List RecEv) : entriesOf (RecEv.corrupt :: l) = entriesOf l := rfl

theorem _root_.MRL.Codec.assemble_entryFrames (f : Nat) (fs : List Frm) (b : Bool) (st : AsmSt) (evs : List RdEv)
    (h : EntryFrames b fs) (hw : b = true ∨ st.within = true) :
    assemble st (tagF f fs ++ evs) =
      RecEv.entry st.attr ((if b then [] else st.buf) ++ payloadOf fs) ::
        assemble { within := false, buf := (if b then [] else st.buf) ++ payloadOf fs, attr := f } evs := by
  have := assemble_tagged (tagC f fs) b st evs (by rw [untag_tagC]; exact h) hw
  rwa [evsOf_tagC, untag_tagC, lastTag_tagC f h.ne_nil] at this

theorem asm_groups (f : Nat) {es : List Bytes} {G : List Frm} (h : EntriesFrames es G) :
    ∀ (st : AsmSt) (evs : List RdEv), st.attr = f →
      ∃ st', st'.attr = f ∧ assemble st (tagF f G ++ evs) = es.map (RecEv.entry f) ++ assemble st' evs := by
  induction h with
  | nil => intro st evs hst; exact ⟨st, hst, by simp only [tagF, List.map_nil, List.nil_append]⟩
  | cons h1 h2 _ ih =>
    intro st evs hst
    rw [tagF_append, List.append_assoc, assemble_entryFrames f _ true st _ h1 (Or.inl rfl)]
    obtain ⟨st', hs', he⟩ := ih { within := false, buf := (if true = true then [] else st.buf) ++ payloadOf _, attr := f } evs rfl
    refine ⟨st', hs', ?_⟩
    rw [he, hst]
    simp [h2]

theorem asm_partial (f : Nat) (gp : List Frm) (b : Bool) (gs : List Frm) (st : AsmSt) (evs : List RdEv)
    (hgs : gs ≠ []) (hE : EntryFrames b (gp ++ gs)) (hw : b = true ∨ st.within = true) (hst : st.attr = f) :
    ∃ st', st'.attr = f ∧ assemble st (tagF f gp ++ evs) = assemble st' evs := by
  obtain ⟨st', h1, h2⟩ := assemble_partial (tagC f gp) b gs st evs hgs (by rw [untag_tagC]; exact hE) hw
  exact ⟨st', h1.trans hst, evsOf_tagC f gp ▸ h2⟩

theorem _root_.MRL.Codec.assemble_entriesFrames (f : Nat) (es : List Bytes) (fs : List Frm) (h : EntriesFrames es fs) (buf : Bytes) :
    assemble { within := false, buf := buf, attr := f } (tagF f fs) = es.map (RecEv.entry f) := by
  obtain ⟨st', _, he⟩ := asm_groups f h { within := false, buf := buf, attr := f } [] rfl
  rwa [List.append_nil, show assemble st' [] = [] from rfl, List.append_nil] at he

end MRL.Torn
