/-
Power loss, generically. The second discipline (`PX.pd`) is that of `PSem.lean` and also allows
* `ensureLen f n` (with `n` the file size `fb`) on a file that is not beyond the current one and is
  known to be non-empty — hence full-size: a no-op (what `open` issues on the first file);
* ONE file `nxt` beyond the current one, whose name and (empty or not) content are durable — the
  file pre-created by a roll-over that was interrupted: when everything is durable, `ensureLen nxt fb`
  makes it the current file (the roll-over into an existing file). No file is created while it
  exists.
Both disciplines (`Disc.run` of `P.pd1`, of `PX.pd1`) only take the steps of `PX.Step`. For a list accepted
by a discipline that does so, from a state in which everything is durable, the image left by a power loss
after any number `n` of effects is the VOLATILE image after some number `p ≤ n` of them
(`power_of_refines`; `PX.power_prefix`, `P.power_prefix`).
-/
import MRL.Proofs.PSem
import MRL.Proofs.ImageOps

namespace MRL.PX
open Buf P

/-- current file; written since its last `fsync`; its name is durable; it is known non-empty; the
    `BufWriter` is empty; the file beyond the current one, if any -/
structure PDX where
  wf : Nat
  dirty : Bool
  named : Bool
  wrt : Bool
  clean : Bool
  nxt : Option Nat
  deriving Repr

/-- one effect: accepted or not, and the state after it (`wrt`: the current file is known to be
    non-empty, i.e. written, or full when `ensureLen` made it current) -/
def pd1 (fb : Nat) (σ : PDX) : Effect → Option PDX
  | .write f _ d => if f = σ.wf ∧ d ≠ [] then some { σ with dirty := true, wrt := true, clean := false } else none
  | .flush => some { σ with clean := true }
  | .fsyncFile f => if f = σ.wf ∧ σ.clean = true then some { σ with dirty := false } else none
  | .fsyncDir => if σ.dirty = false ∧ σ.wrt = true ∧ σ.clean = true then some { σ with named := true } else none
  | .create f =>
    if σ.dirty = false ∧ σ.named = true ∧ σ.clean = true ∧ σ.wf < f ∧ σ.nxt = none then
      some { σ with wf := f, dirty := true, named := false, wrt := false }
    else none
  | .setLen f _ => if f = σ.wf ∧ σ.named = false ∧ σ.clean = true then some { σ with dirty := true, wrt := false } else none
  | .ensureLen f n =>
    if f ≤ σ.wf then (if σ.wrt = true ∧ σ.clean = true ∧ n = fb then some σ else none)
    else if σ.nxt = some f ∧ σ.dirty = false ∧ σ.named = true ∧ σ.clean = true ∧ n = fb then
      some { σ with wf := f, nxt := none, dirty := true, wrt := true }
    else none
  | .unlink f => if f < σ.wf ∧ σ.dirty = false ∧ σ.named = true ∧ σ.clean = true then some σ else none
  | .listDir | .openFile _ | .readBlock _ => some σ

def pd (fb : Nat) : PDX → List Effect → Option PDX := Disc.run (pd1 fb)

theorem pd_append (fb : Nat) (a b : List Effect) (σ : PDX) :
    pd fb σ (a ++ b) = (pd fb σ a).bind fun σ' => pd fb σ' b := Disc.run_append a b σ

/-- one effect that keeps the invariant below. `P.pd1` never has a file beyond the current one;
    `PX.pd1` only unlinks files older than the current one. -/
inductive Step (fb : Nat) (σ : PDX) : Effect → PDX → Prop
  | write (off : Nat) {d : Bytes} : d ≠ [] →
      Step fb σ (.write σ.wf off d) { σ with dirty := true, wrt := true, clean := false }
  | flush : Step fb σ .flush { σ with clean := true }
  | fsyncFile : σ.clean = true → Step fb σ (.fsyncFile σ.wf) { σ with dirty := false }
  | fsyncDir : σ.dirty = false → σ.wrt = true → σ.clean = true → Step fb σ .fsyncDir { σ with named := true }
  | create {f : Nat} : σ.dirty = false → σ.named = true → σ.clean = true → σ.wf < f → σ.nxt = none →
      Step fb σ (.create f) { σ with wf := f, dirty := true, named := false, wrt := false }
  | setLen (n : Nat) : σ.named = false → σ.clean = true →
      Step fb σ (.setLen σ.wf n) { σ with dirty := true, wrt := false }
  | ensureFull {f : Nat} : f ≤ σ.wf → σ.wrt = true → σ.clean = true → Step fb σ (.ensureLen f fb) σ
  | ensureNext {f : Nat} : σ.nxt = some f → σ.wf < f → σ.dirty = false → σ.named = true → σ.clean = true →
      Step fb σ (.ensureLen f fb) { σ with wf := f, nxt := none, dirty := true, wrt := true }
  | unlink {f : Nat} : f ≠ σ.wf → (σ.nxt = none ∨ f < σ.wf) → σ.dirty = false → σ.named = true → σ.clean = true →
      Step fb σ (.unlink f) σ
  | listDir : Step fb σ .listDir σ
  | openFile (f : Nat) : Step fb σ (.openFile f) σ
  | readBlock (f : Nat) : Step fb σ (.readBlock f) σ

theorem step_of_pd1 {fb : Nat} {σ σ' : PDX} {e : Effect} (h : pd1 fb σ e = some σ') : Step fb σ e σ' := by
  cases e with
  | write f off d =>
    simp only [pd1, Option.ite_none_right_eq_some, Option.some.injEq] at h
    obtain ⟨⟨rfl, hd⟩, rfl⟩ := h
    exact .write off hd
  | flush => injection h with h; subst h; exact .flush
  | fsyncFile f =>
    simp only [pd1, Option.ite_none_right_eq_some, Option.some.injEq] at h
    obtain ⟨⟨rfl, hc⟩, rfl⟩ := h
    exact .fsyncFile hc
  | fsyncDir =>
    simp only [pd1, Option.ite_none_right_eq_some, Option.some.injEq] at h
    obtain ⟨⟨hd, hw, hc⟩, rfl⟩ := h
    exact .fsyncDir hd hw hc
  | create f =>
    simp only [pd1, Option.ite_none_right_eq_some, Option.some.injEq] at h
    obtain ⟨⟨hd, hn, hc, hlt, hx⟩, rfl⟩ := h
    exact .create hd hn hc hlt hx
  | setLen f n =>
    simp only [pd1, Option.ite_none_right_eq_some, Option.some.injEq] at h
    obtain ⟨⟨rfl, hn, hc⟩, rfl⟩ := h
    exact .setLen n hn hc
  | ensureLen f n =>
    simp only [pd1] at h
    by_cases hle : f ≤ σ.wf
    · rw [if_pos hle, Option.ite_none_right_eq_some, Option.some.injEq] at h
      obtain ⟨⟨hw, hc, rfl⟩, rfl⟩ := h
      exact .ensureFull hle hw hc
    · rw [if_neg hle, Option.ite_none_right_eq_some, Option.some.injEq] at h
      obtain ⟨⟨hx, hd, hn, hc, rfl⟩, rfl⟩ := h
      exact .ensureNext hx (Nat.lt_of_not_le hle) hd hn hc
  | unlink f =>
    simp only [pd1, Option.ite_none_right_eq_some, Option.some.injEq] at h
    obtain ⟨⟨hlt, hd, hn, hc⟩, rfl⟩ := h
    exact .unlink (Nat.ne_of_lt hlt) (.inr hlt) hd hn hc
  | listDir => injection h with h; subst h; exact .listDir
  | openFile f => injection h with h; subst h; exact .openFile f
  | readBlock f => injection h with h; subst h; exact .readBlock f

/-- `PX.pd1` unlinks only files OLDER than the current one. `Step.unlink` asks less (`f ≠ wf`, so that `P.pd1`
    takes its steps too); the lazy directory needs the order — an undone unlink puts a file back in FRONT of the
    tracked ones — and gets it here. -/
theorem pd1_unlink_lt {fb : Nat} {σ σ' : PDX} {f : Nat} (h : pd1 fb σ (.unlink f) = some σ') : f < σ.wf := by
  simp only [pd1, Option.ite_none_right_eq_some] at h
  exact h.1.1

theorem Step.run1S {fb : Nat} {σ σ' : PDX} {e : Effect} (hs : Step fb σ e σ') {st st1 : St}
    (hr : run1 st e = some st1) (hc : σ.clean = true → st = none) :
    run1S st e = some st1 ∧ (σ'.clean = true → st1 = none) := by
  -- `create`, `set_len`, `unlink` are only possible with an empty buffer, and leave it empty
  have hnone : (if st = none then some (none : St) else none) = some st1 → st1 = none := by
    intro h
    split at h
    · injection h with h; exact h.symm
    · cases h
  -- an `fsync` leaves the buffer as it is: empty
  have hsync : ∀ {e : Effect}, isSyncE e = true → σ.clean = true → run1 st e = some st → run1 st e = some st1 →
      P.run1S st e = some st1 ∧ st1 = none := by
    intro e he hcl h0 h1
    have hst := hc hcl
    have : st1 = none := by rw [h0] at h1; injection h1 with h1; rw [← h1]; exact hst
    exact ⟨by subst this hst; simp [P.run1S, he], this⟩
  cases hs with
  | write off hd => exact ⟨hr, fun h => by cases h⟩
  | flush => exact ⟨hr, fun _ => by injection hr with hr; exact hr.symm⟩
  | fsyncFile hcl => exact ⟨(hsync rfl hcl rfl hr).1, fun _ => (hsync rfl hcl rfl hr).2⟩
  | fsyncDir _ _ hcl => exact ⟨(hsync rfl hcl rfl hr).1, fun _ => (hsync rfl hcl rfl hr).2⟩
  | create => exact ⟨hr, fun _ => hnone hr⟩
  | setLen => exact ⟨hr, fun _ => hnone hr⟩
  | ensureFull => exact ⟨hr, fun _ => hnone hr⟩
  | ensureNext => exact ⟨hr, fun _ => hnone hr⟩
  | unlink => exact ⟨hr, fun _ => hnone hr⟩
  | listDir => injection hr with hr; subst hr; exact ⟨rfl, hc⟩
  | openFile f => injection hr with hr; subst hr; exact ⟨rfl, hc⟩
  | readBlock f => injection hr with hr; subst hr; exact ⟨rfl, hc⟩

/-- the discipline makes every `fsync` come with an empty buffer -/
theorem runS_of_pd (fb : Nat) (es : List Effect) (st st' : St) (σ σ' : PDX) (hr : run st es = some st')
    (hp : pd fb σ es = some σ') (hc : σ.clean = true → st = none) :
    runS st es = some st' ∧ (σ'.clean = true → st' = none) := by
  refine Disc.run_induct (M := fun es σ' => ∀ st', run st es = some st' →
      runS st es = some st' ∧ (σ'.clean = true → st' = none))
    (fun st' hr => by injection hr with hr; subst hr; exact ⟨rfl, hc⟩)
    (fun es e σ1 σ2 _ h1 ih st' hr => ?_) es σ' hp st' hr
  rw [run_append] at hr
  cases h0 : run st es with
  | none => rw [h0] at hr; cases hr
  | some st0 =>
    rw [h0] at hr
    simp only [Option.bind_some, run] at hr
    cases h2 : run1 st0 e with
    | none => rw [h2] at hr; cases hr
    | some st2 =>
      rw [h2] at hr
      injection hr with hr
      subst hr
      obtain ⟨r0, c0⟩ := ih st0 h0
      obtain ⟨r1, c1⟩ := (step_of_pd1 h1).run1S h2 c0
      exact ⟨by rw [runS_append, r0]; simp only [Option.bind_some, P.runS, r1], c1⟩

/-- What the discipline state `σ` knows of the power-loss state `S`. The files are distinct, none lies
    beyond the current one except the one next file (`le_wf`, `dirs_le`, `nxt_gt`, `nxt_mem`);
    every file but the current one has a durable name and its content is durable (`old`); the name
    of the current one is durable iff `σ.named`, its content is durable unless `σ.dirty`
    (`cleanF`); it is not empty once `σ.wrt` (which a durable name implies, `nw`), and the older
    files are not empty (`oldne`) — with `FullOrEmpty`, not empty means full-size. -/
structure PInvX (σ : PDX) (S : PState) : Prop where
  nodup : (S.vol.map (·.1)).Nodup
  wf_mem : σ.wf ∈ S.vol.map (·.1)
  le_wf : ∀ kv ∈ S.vol, kv.1 ≤ σ.wf ∨ σ.nxt = some kv.1
  dirs_le : ∀ k ∈ S.dirs, k ≤ σ.wf ∨ σ.nxt = some k
  nxt_gt : ∀ nf, σ.nxt = some nf → σ.wf < nf
  nxt_mem : ∀ nf, σ.nxt = some nf → nf ∈ S.vol.map (·.1)
  old : ∀ kv ∈ S.vol, kv.1 ≠ σ.wf → S.dirs.contains kv.1 = true ∧ lookupF S.dur kv.1 = some kv.2
  named : σ.named = true → S.dirs.contains σ.wf = true
  unnamed : σ.named = false → S.dirs.contains σ.wf = false
  cleanF : σ.dirty = false → ∀ kv ∈ S.vol, kv.1 = σ.wf → lookupF S.dur σ.wf = some kv.2
  wrt : σ.wrt = true → ∀ kv ∈ S.vol, kv.1 = σ.wf → kv.2 ≠ []
  nw : σ.named = true → σ.wrt = true
  oldne : ∀ kv ∈ S.vol, kv.1 < σ.wf → kv.2 ≠ []

theorem PInvX.clean {σ : PDX} {S : PState} (h : PInvX σ S) (c : Bool) : PInvX { σ with clean := c } S :=
  ⟨h.nodup, h.wf_mem, h.le_wf, h.dirs_le, h.nxt_gt, h.nxt_mem, h.old, h.named, h.unnamed, h.cleanF, h.wrt, h.nw,
    h.oldne⟩

theorem PInvX.named_of_dirs {σ : PDX} {S : PState} (h : PInvX σ S) (hc : S.dirs.contains σ.wf = true) :
    σ.named = true := by
  cases hn : σ.named with
  | true => rfl
  | false => rw [h.unnamed hn] at hc; cases hc

theorem PInvX.alldur {σ : PDX} {S : PState} (h : PInvX σ S) (hd : σ.dirty = false) (hn : σ.named = true) :
    ∀ kv ∈ S.vol, S.dirs.contains kv.1 = true ∧ lookupF S.dur kv.1 = some kv.2 := by
  intro kv hkv
  by_cases hw : kv.1 = σ.wf
  · rw [hw]; exact ⟨h.named hn, h.cleanF hd kv hkv hw⟩
  · exact h.old kv hkv hw

theorem PInvX.ne_nil {σ : PDX} {S : PState} (h : PInvX σ S) (hw : σ.wrt = true) :
    ∀ kv ∈ S.vol, kv.1 ≤ σ.wf → kv.2 ≠ [] := by
  intro kv hkv hle
  rcases Nat.lt_or_ge kv.1 σ.wf with h1 | h1
  · exact h.oldne kv hkv h1
  · exact h.wrt hw kv hkv (Nat.le_antisymm hle h1)

theorem image_alldur {σ : PDX} {S : PState} (h : PInvX σ S) (hd : σ.dirty = false) (hn : σ.named = true) :
    S.image = S.vol :=
  image_eq_vol fun kv hkv => ⟨(h.alldur hd hn kv hkv).1, kv.2, (h.alldur hd hn kv hkv).2, fitLen_self _⟩

/-- a write into the current file, once its name is durable, does not change its length: the file
    is known to be non-empty, hence full, and stays so -/
theorem image_write {fb : Nat} {σ : PDX} {S : PState} (h : PInvX σ S) (off : Nat) {d : Bytes} (hd : d ≠ [])
    (hf0 : FullOrEmpty fb S.vol) (hf1 : FullOrEmpty fb (mapFile S.vol σ.wf fun c => overwrite c off d)) :
    ({ S with vol := mapFile S.vol σ.wf fun c => overwrite c off d } : PState).image = S.image := by
  apply image_mapFile
  intro hc kv hkv hw
  have hne : kv.2 ≠ [] := h.wrt (h.nw (h.named_of_dirs hc)) kv hkv hw
  have h0 : kv.2.length = fb := (hf0 kv hkv).resolve_right hne
  have hm : (kv.1, overwrite kv.2 off d) ∈ mapFile S.vol σ.wf (fun c => overwrite c off d) := by
    unfold mapFile
    exact List.mem_map.mpr ⟨kv, hkv, by simp [hw]⟩
  rw [h0]
  exact (hf1 _ hm).resolve_right (overwrite_ne_nil _ off d hd)

theorem PInvX.fresh {σ : PDX} {S : PState} (h : PInvX σ S) {f : Nat} (hlt : σ.wf < f) (hnx : σ.nxt = none) :
    f ∉ S.vol.map (·.1) ∧ S.dirs.contains f = false := by
  constructor
  · intro hm
    obtain ⟨kv, hkv, rfl⟩ := List.mem_map.mp hm
    rcases h.le_wf kv hkv with h1 | h1
    · exact Nat.lt_irrefl _ (Nat.lt_of_lt_of_le hlt h1)
    · rw [hnx] at h1; cases h1
  · cases hx : S.dirs.contains f with
    | false => rfl
    | true =>
      rcases h.dirs_le f (List.contains_iff_mem.mp hx) with h1 | h1
      · exact absurd (Nat.lt_of_lt_of_le hlt h1) (Nat.lt_irrefl _)
      · rw [hnx] at h1; cases h1

/-- rewriting the current file, which is then dirty: the other files, the names and the durable
    contents are what they were -/
theorem PInvX.mapCur {σ σ' : PDX} {S : PState} (h : PInvX σ S) (fn : Bytes → Bytes) (hwf : σ'.wf = σ.wf)
    (hnx : σ'.nxt = σ.nxt) (hn : σ'.named = σ.named) (hd : σ'.dirty = true)
    (hw : σ'.wrt = true → ∀ c, fn c ≠ []) (hnw : σ'.named = true → σ'.wrt = true) :
    PInvX σ' { S with vol := mapFile S.vol σ.wf fn } := by
  refine ⟨by rw [ImageOps.mapFile_keys]; exact h.nodup, by rw [ImageOps.mapFile_keys, hwf]; exact h.wf_mem, ?_,
    by rw [hwf, hnx]; exact h.dirs_le, by rw [hwf, hnx]; exact h.nxt_gt,
    by rw [ImageOps.mapFile_keys, hnx]; exact h.nxt_mem, ?_, by rw [hn, hwf]; exact h.named,
    by rw [hn, hwf]; exact h.unnamed, (fun hx => by rw [hd] at hx; cases hx), ?_, hnw, ?_⟩
  · intro kv hkv
    rw [hwf, hnx]
    rcases mem_mapFile hkv with ⟨_, hm⟩ | ⟨hk, _⟩
    · exact h.le_wf kv hm
    · exact .inl (Nat.le_of_eq hk)
  · intro kv hkv hne
    rw [hwf] at hne
    rcases mem_mapFile hkv with ⟨_, hm⟩ | ⟨hk, _⟩
    · exact h.old kv hm hne
    · exact absurd hk hne
  · intro hx kv hkv hk
    rw [hwf] at hk
    rcases mem_mapFile hkv with ⟨hk', _⟩ | ⟨_, c, _, hc⟩
    · exact absurd hk hk'
    · rw [hc]; exact hw hx c
  · intro kv hkv hlt
    rw [hwf] at hlt
    rcases mem_mapFile hkv with ⟨_, hm⟩ | ⟨hk, _⟩
    · exact h.oldne kv hm hlt
    · exact absurd hk (Nat.ne_of_lt hlt)

/-- making a file `σ'.wf` beyond the current one the current file, when everything is durable: the files
    of the new volatile image `V` other than it are old ones, and the next file, if any, is it -/
theorem PInvX.advance {σ σ' : PDX} {S : PState} {V : Image} (h : PInvX σ S) (hd : σ.dirty = false)
    (hn : σ.named = true) (hlt : σ.wf < σ'.wf) (hnx : ∀ k, σ.nxt = some k → k = σ'.wf) (hnx' : σ'.nxt = none)
    (hd' : σ'.dirty = true) (hnd : (V.map (·.1)).Nodup) (hmem : σ'.wf ∈ V.map (·.1))
    (hV : ∀ kv ∈ V, kv.1 = σ'.wf ∨ kv ∈ S.vol) (hnm : σ'.named = true → S.dirs.contains σ'.wf = true)
    (hun : σ'.named = false → S.dirs.contains σ'.wf = false)
    (hw : σ'.wrt = true → ∀ kv ∈ V, kv.1 = σ'.wf → kv.2 ≠ []) (hnw : σ'.named = true → σ'.wrt = true) :
    PInvX σ' { S with vol := V } := by
  have hle : ∀ k, k ≤ σ.wf ∨ σ.nxt = some k → k ≤ σ'.wf := fun k hk =>
    hk.elim (fun h1 => Nat.le_of_lt (Nat.lt_of_le_of_lt h1 hlt)) fun h1 => Nat.le_of_eq (hnx k h1)
  have hold : ∀ kv ∈ S.vol, kv.1 ≠ σ'.wf → kv.1 ≤ σ.wf := fun kv hkv hne =>
    (h.le_wf kv hkv).resolve_right fun h1 => hne (hnx _ h1)
  refine ⟨hnd, hmem, fun kv hkv => .inl ((hV kv hkv).elim Nat.le_of_eq fun hm => hle _ (h.le_wf kv hm)),
    fun k hk => .inl (hle k (h.dirs_le k hk)), (fun nf hx => by rw [hnx'] at hx; cases hx),
    (fun nf hx => by rw [hnx'] at hx; cases hx), fun kv hkv hne => h.alldur hd hn kv ((hV kv hkv).resolve_left hne),
    hnm, hun, (fun hx => by rw [hd'] at hx; cases hx), hw, hnw, fun kv hkv hlt' => ?_⟩
  have hm := (hV kv hkv).resolve_left (Nat.ne_of_lt hlt')
  exact h.ne_nil (h.nw hn) kv hm (hold kv hm (Nat.ne_of_lt hlt'))

def ens (n : Nat) (c : Bytes) : Bytes := if c.length < n then setLenBytes c n else c

theorem ens_length_ge (n : Nat) (c : Bytes) : n ≤ (ens n c).length := by
  unfold ens
  by_cases h : c.length < n
  · rw [if_pos h, setLenBytes, if_pos h, List.length_append, zeros, List.length_replicate,
      Nat.add_sub_cancel' (Nat.le_of_lt h)]
    exact Nat.le_refl n
  · rw [if_neg h]
    exact Nat.le_of_not_lt h

theorem fitLen_ens (n : Nat) (c : Bytes) : fitLen c (ens n c).length = ens n c := by
  unfold ens
  by_cases h : c.length < n
  · rw [if_pos h, setLenBytes, if_pos h, fitLen, List.length_append, List.take_of_length_le (Nat.le_add_right _ _),
      Nat.add_sub_cancel_left]
    simp only [zeros, List.length_replicate]
  · rw [if_neg h]
    exact fitLen_self c

theorem ens_full (n : Nat) (c : Bytes) (h : c.length = n) : ens n c = c := by
  unfold ens; rw [if_neg (by omega)]

theorem applyOs_ensureLen (img : Image) (f n : Nat) : applyOs img (.ensureLen f n) = mapFile img f (ens n) := rfl

theorem prun_ensureLen (S : PState) (f n : Nat) :
    prun S (directP (.ensureLen f n)) = { S with vol := mapFile S.vol f (ens n) } := rfl

/-- The idea of the power-loss analysis: one effect either leaves the power-loss image as it was, or leaves
    everything durable, and then the image IS the volatile one; hence "power loss after `n` effects = volatile
    image after some `p ≤ n`". The third clause (which effects cannot change the image) serves `PD.pinvD_step`. -/
theorem Step.inv {fb : Nat} (hfb : 0 < fb) {σ σ' : PDX} {S : PState} {e : Effect} (hs : Step fb σ e σ')
    (h : PInvX σ S) (hf0 : FullOrEmpty fb S.vol) (hf1 : FullOrEmpty fb (prun S (directP e)).vol) :
    PInvX σ' (prun S (directP e)) ∧
    ((prun S (directP e)).image = (prun S (directP e)).vol ∨ (prun S (directP e)).image = S.image) ∧
    (isSyncE e = false → (∀ f, e ≠ .unlink f) → (∀ f n, e ≠ .ensureLen f n) → (prun S (directP e)).image = S.image) := by
  -- the image did not change
  have same : ∀ {σ' : PDX} {S' : PState}, PInvX σ' S' → S'.image = S.image →
      PInvX σ' S' ∧ (S'.image = S'.vol ∨ S'.image = S.image) ∧
        (isSyncE e = false → (∀ f, e ≠ .unlink f) → (∀ f n, e ≠ .ensureLen f n) → S'.image = S.image) :=
    fun hI hi => ⟨hI, .inr hi, fun _ _ _ => hi⟩
  have hcont : ∀ k, k ∈ S.vol.map (·.1) → (S.vol.map (·.1)).contains k = true :=
    fun k hk => List.contains_iff_mem.mpr hk
  cases hs with
  | flush => exact same (h.clean true) rfl
  | listDir => exact same h rfl
  | openFile f => exact same h rfl
  | readBlock f => exact same h rfl
  | @write off d hd =>
    rw [prun_write] at hf1 ⊢
    exact same (h.mapCur _ rfl rfl rfl rfl (fun _ c => overwrite_ne_nil c off d hd) (fun _ => rfl))
      (image_write h off hd hf0 hf1)
  | setLen n hn =>
    rw [prun_setLen]
    exact same (h.mapCur _ rfl rfl rfl rfl (fun hx => by cases hx) (fun hx => by rw [hn] at hx; cases hx))
      (image_mapFile _ _ _ fun hc => by rw [h.unnamed hn] at hc; cases hc)
  | @ensureFull f hle hw =>
    -- a no-op: the file is full
    rw [prun_ensureLen] at hf1 ⊢
    have hid : mapFile S.vol f (ens fb) = S.vol := by
      apply mapFile_id
      intro kv hkv hk
      exact ens_full _ _ ((hf0 kv hkv).resolve_right (h.ne_nil hw kv hkv (by rw [hk]; exact hle)))
    rw [hid]
    exact same h rfl
  | @ensureNext f hnx hlt hd hn =>
    rw [prun_ensureLen] at hf1 ⊢
    obtain ⟨kf, hkf, hkf1⟩ := List.mem_map.mp (h.nxt_mem f hnx)
    have hkfo := h.old kf hkf (by rw [hkf1]; exact Nat.ne_of_gt hlt)
    rw [hkf1] at hkfo
    have hI : PInvX { σ with wf := f, nxt := none, dirty := true, wrt := true }
        { S with vol := mapFile S.vol f (ens fb) } := by
      refine h.advance hd hn hlt (fun k hk => by rw [hnx] at hk; exact (Option.some.inj hk).symm) rfl rfl
        (by rw [ImageOps.mapFile_keys]; exact h.nodup) (by rw [ImageOps.mapFile_keys]; exact h.nxt_mem f hnx)
        (fun kv hkv => (mem_mapFile hkv).symm.imp (·.1) (·.2)) (fun _ => hkfo.1)
        (fun hx => by rw [hn] at hx; cases hx) (fun _ kv hkv hw => ?_) fun _ => rfl
      rcases mem_mapFile hkv with ⟨hk, _⟩ | ⟨_, c, _, hc⟩
      · exact absurd hw hk
      · rw [hc]
        exact List.ne_nil_of_length_pos (Nat.lt_of_lt_of_le hfb (ens_length_ge fb c))
    -- the durable content of the next file, fitted to its new length, is its new content
    refine ⟨hI, Or.inl ?_, fun _ _ h3 => absurd rfl (h3 _ _)⟩
    apply image_eq_vol
    intro kv hkv
    rcases mem_mapFile (img := S.vol) (f := f) (fn := ens fb) hkv with ⟨hk, hm⟩ | ⟨hk, c, hc, hc2⟩
    · exact ⟨(h.alldur hd hn kv hm).1, kv.2, (h.alldur hd hn kv hm).2, fitLen_self _⟩
    · have := h.old (f, c) hc (Nat.ne_of_gt hlt)
      refine ⟨by rw [hk]; exact this.1, c, by rw [hk]; exact this.2, ?_⟩
      rw [hc2]; exact fitLen_ens fb c
  | fsyncFile =>
    cases hl : lookupF S.vol σ.wf with
    | none =>
      -- the current file is there
      obtain ⟨kv, hkv, hw⟩ := List.mem_map.mp h.wf_mem
      have := lookupF_of_mem h.nodup hkv
      rw [hw, hl] at this; cases this
    | some c =>
      rw [prun_fsyncFile_some hl]
      have hI : PInvX { σ with dirty := false } { S with dur := (σ.wf, c) :: S.dur } := by
        refine ⟨h.nodup, h.wf_mem, h.le_wf, h.dirs_le, h.nxt_gt, h.nxt_mem, ?_, h.named, h.unnamed, ?_, h.wrt, h.nw,
          h.oldne⟩
        · intro kv hkv hne
          obtain ⟨h1, h2⟩ := h.old kv hkv hne
          refine ⟨h1, ?_⟩
          show lookupF ((σ.wf, c) :: S.dur) kv.1 = _
          rw [lookupF_cons, if_neg (fun e => hne e.symm)]; exact h2
        · intro _ kv hkv hw
          show lookupF ((σ.wf, c) :: S.dur) σ.wf = _
          rw [lookupF_cons, if_pos rfl]
          have := lookupF_of_mem h.nodup hkv
          rw [hw, hl] at this
          exact this
      refine ⟨hI, ?_, fun h1 => nomatch h1⟩
      cases hn : σ.named with
      | true => exact Or.inl (image_alldur hI rfl hn)
      | false => exact Or.inr (image_syncFile S σ.wf c (Or.inl (h.unnamed hn)))
  | fsyncDir hd hw =>
    rw [prun_fsyncDir]
    have hI : PInvX { σ with named := true } { S with dirs := S.vol.map (·.1) } := by
      refine ⟨h.nodup, h.wf_mem, h.le_wf, ?_, h.nxt_gt, h.nxt_mem, ?_, fun _ => hcont _ h.wf_mem,
        (fun hx => by cases hx), h.cleanF, h.wrt, fun _ => hw, h.oldne⟩
      · intro k hk
        obtain ⟨kv, hkv, rfl⟩ := List.mem_map.mp hk
        exact h.le_wf kv hkv
      · intro kv hkv hne
        exact ⟨hcont _ (mem_keys hkv), (h.old kv hkv hne).2⟩
    exact ⟨hI, Or.inl (image_alldur hI hd rfl), fun h1 => nomatch h1⟩
  | @create f hd hn _ hlt hnx =>
    rw [prun_create] at hf1 ⊢
    obtain ⟨hfresh, hnd⟩ := h.fresh hlt hnx
    have hp := insertFile_perm S.vol f [] hfresh
    exact same (h.advance hd hn hlt (fun k hk => by rw [hnx] at hk; cases hk) hnx rfl
        ((hp.map (·.1)).nodup_iff.mpr (List.nodup_cons.mpr ⟨hfresh, h.nodup⟩))
        ((hp.map (·.1)).mem_iff.mpr List.mem_cons_self)
        (fun kv hkv => (List.mem_cons.mp (hp.mem_iff.mp hkv)).imp_left fun e => by rw [e])
        (fun hx => by cases hx) (fun _ => hnd) (fun hx => by cases hx) (fun hx => by cases hx))
      (image_insertFile S f [] hfresh hnd)
  | @unlink f hne hnx hd hn =>
    rw [prun_unlink] at hf1 ⊢
    have hsub : ∀ kv, kv ∈ S.vol.filter (fun x => x.1 != f) → kv ∈ S.vol := fun kv hkv => (List.mem_filter.mp hkv).1
    have hkeep : ∀ k, k ∈ S.vol.map (·.1) → k ≠ f → k ∈ (S.vol.filter (fun x => x.1 != f)).map (·.1) := by
      intro k hk hne
      obtain ⟨kv, hkv, hk⟩ := List.mem_map.mp hk
      refine List.mem_map.mpr ⟨kv, List.mem_filter.mpr ⟨hkv, ?_⟩, hk⟩
      simp only [bne_iff_ne, ne_eq]
      rw [hk]; exact hne
    have hI : PInvX σ { S with vol := S.vol.filter (fun x => x.1 != f) } := by
      refine ⟨?_, hkeep _ h.wf_mem hne.symm, fun kv hkv => h.le_wf kv (hsub kv hkv), h.dirs_le, h.nxt_gt, ?_,
        fun kv hkv => h.old kv (hsub kv hkv),
        h.named, h.unnamed, fun hx kv hkv => h.cleanF hx kv (hsub kv hkv), fun hx kv hkv => h.wrt hx kv (hsub kv hkv),
        h.nw, fun kv hkv => h.oldne kv (hsub kv hkv)⟩
      · exact h.nodup.sublist (List.Sublist.map _ List.filter_sublist)
      · intro nf hx
        refine hkeep _ (h.nxt_mem nf hx) ?_
        rcases hnx with h0 | h0
        · rw [h0] at hx; cases hx
        · exact Nat.ne_of_gt (Nat.lt_trans h0 (h.nxt_gt nf hx))
    exact ⟨hI, Or.inl (image_alldur hI hd hn), fun _ h2 => absurd rfl (h2 _)⟩

/-- **Power loss after `n` effects = volatile image after `p ≤ n` effects**, from a state in which everything is
    durable, for every discipline whose steps, seen through `φ`, are steps of `PX.Step` (`PX.power_prefix`: `φ = id`;
    `P.power_prefix`: `φ = PD.toX`). Nothing that was made durable is ever lost, nothing is reordered. -/
theorem power_of_refines {σ : Type} {step : σ → Effect → Option σ} (fb : Nat) (hfb : 0 < fb) (φ : σ → PDX)
    (href : ∀ s e s', step s e = some s' → Step fb (φ s) e (φ s'))
    (es : List Effect) (s : σ) (S : PState) (hI : PInvX (φ s) S) (hd : (φ s).dirty = false)
    (hn : (φ s).named = true) (se : σ) (hpd : Disc.run step s es = some se)
    (hfoe : ∀ i, i ≤ es.length → FullOrEmpty fb (applyOsOps S.vol (directOps (es.take i)))) :
    ∀ n, n ≤ es.length → ∃ p sn, p ≤ n ∧ Disc.run step s (es.take n) = some sn ∧
      PInvX (φ sn) (prun S (directOpsP (es.take n))) ∧
      (prun S (directOpsP (es.take n))).image = applyOsOps S.vol (directOps (es.take p)) := by
  intro n hle
  obtain ⟨sn, hsn⟩ := Disc.run_take hpd n
  -- along the accepted prefix, one effect appended at a time
  have key := Disc.run_induct (step := step) (s := s)
    (M := fun es' s' => (∀ i, i ≤ es'.length → FullOrEmpty fb (applyOsOps S.vol (directOps (es'.take i)))) →
      PInvX (φ s') (prun S (directOpsP es')) ∧
      ∃ p, p ≤ es'.length ∧ (prun S (directOpsP es')).image = applyOsOps S.vol (directOps (es'.take p)))
    (fun _ => ⟨hI, 0, Nat.le_refl _, image_alldur hI hd hn⟩)
    (fun es' e s0 s1 _ h1 ih hf => by
      have hlen : (es' ++ [e]).length = es'.length + 1 := by simp
      have hf' : ∀ i, i ≤ es'.length → FullOrEmpty fb (applyOsOps S.vol (directOps (es'.take i))) := by
        intro i hi
        have := hf i (by rw [hlen]; exact Nat.le_succ_of_le hi)
        rwa [List.take_append_of_le_length hi] at this
      obtain ⟨hI1, p, hp, himg⟩ := ih hf'
      have hrun : prun S (directOpsP (es' ++ [e])) = prun (prun S (directOpsP es')) (directP e) := by
        rw [directOpsP_append, prun_append]; simp [directOpsP]
      have hf0 : FullOrEmpty fb (prun S (directOpsP es')).vol := by
        rw [prun_vol_direct]
        have := hf' es'.length (Nat.le_refl _)
        rwa [List.take_length] at this
      have hf1 : FullOrEmpty fb (prun (prun S (directOpsP es')) (directP e)).vol := by
        rw [← hrun, prun_vol_direct]
        have := hf (es' ++ [e]).length (Nat.le_refl _)
        rwa [List.take_length] at this
      obtain ⟨hI2, hsame, _⟩ := (href _ _ _ h1).inv hfb hI1 hf0 hf1
      rw [← hrun] at hI2 hsame
      refine ⟨hI2, ?_⟩
      rcases hsame with hsame | hsame
      · exact ⟨(es' ++ [e]).length, Nat.le_refl _, by rw [hsame, prun_vol_direct, List.take_length]⟩
      · exact ⟨p, by rw [hlen]; exact Nat.le_succ_of_le hp,
          by rw [hsame, himg, List.take_append_of_le_length hp]⟩)
    (es.take n) sn hsn
  obtain ⟨hIn, p, hp, himg⟩ := key (fun i hi => by
    rw [List.length_take] at hi
    rw [List.take_take]
    exact hfoe _ (Nat.le_trans (Nat.min_le_left i n) (Nat.le_trans hi (Nat.min_le_right _ _))))
  have hpn : p ≤ n := by rw [List.length_take] at hp; exact Nat.le_trans hp (Nat.min_le_left _ _)
  exact ⟨p, sn, hpn, hsn, hIn, by rw [himg, List.take_take, Nat.min_eq_left hpn]⟩

theorem power_prefix (fb : Nat) (hfb : 0 < fb) (es : List Effect) (σ : PDX) (S : PState) (hI : PInvX σ S)
    (hd : σ.dirty = false) (hn : σ.named = true) (σe : PDX) (hpd : pd fb σ es = some σe)
    (hfoe : ∀ i, i ≤ es.length → FullOrEmpty fb (applyOsOps S.vol (directOps (es.take i)))) :
    ∀ n, n ≤ es.length → ∃ p σn, p ≤ n ∧ pd fb σ (es.take n) = some σn ∧
      PInvX σn (prun S (directOpsP (es.take n))) ∧
      (prun S (directOpsP (es.take n))).image = applyOsOps S.vol (directOps (es.take p)) :=
  power_of_refines fb hfb id (fun _ _ _ h => step_of_pd1 h) es σ S hI hd hn σe hpd hfoe

end MRL.PX

namespace MRL.P
open Buf PX

def PD.toX (σ : PD) : PDX := ⟨σ.wf, σ.dirty, σ.named, σ.wrt, σ.clean, none⟩

theorem step_of_pd1 (fb : Nat) {σ σ' : PD} {e : Effect} (h : pd1 σ e = some σ') : Step fb σ.toX e σ'.toX := by
  cases e with
  | write f off d =>
    simp only [pd1, Option.ite_none_right_eq_some, Option.some.injEq] at h
    obtain ⟨⟨rfl, hd⟩, rfl⟩ := h
    exact .write off hd
  | flush => injection h with h; subst h; exact .flush
  | fsyncFile f =>
    simp only [pd1, Option.ite_none_right_eq_some, Option.some.injEq] at h
    obtain ⟨⟨rfl, hc⟩, rfl⟩ := h
    exact .fsyncFile hc
  | fsyncDir =>
    simp only [pd1, Option.ite_none_right_eq_some, Option.some.injEq] at h
    obtain ⟨⟨hd, hw, hc⟩, rfl⟩ := h
    exact .fsyncDir hd hw hc
  | create f =>
    simp only [pd1, Option.ite_none_right_eq_some, Option.some.injEq] at h
    obtain ⟨⟨hd, hn, hc, hlt⟩, rfl⟩ := h
    exact .create hd hn hc hlt rfl
  | setLen f n =>
    simp only [pd1, Option.ite_none_right_eq_some, Option.some.injEq] at h
    obtain ⟨⟨rfl, hn, hc⟩, rfl⟩ := h
    exact .setLen n hn hc
  | ensureLen f n => cases h
  | unlink f =>
    simp only [pd1, Option.ite_none_right_eq_some, Option.some.injEq] at h
    obtain ⟨⟨hne, hd, hn, hc⟩, rfl⟩ := h
    exact .unlink hne (.inl rfl) hd hn hc
  | listDir => injection h with h; subst h; exact .listDir
  | openFile f => injection h with h; subst h; exact .openFile f
  | readBlock f => injection h with h; subst h; exact .readBlock f

theorem power_prefix (fb : Nat) (hfb : 0 < fb) (es : List Effect) (σ : PD) (S : PState) (hI : PInvX σ.toX S)
    (hd : σ.dirty = false) (hn : σ.named = true) (σe : PD) (hpd : pd σ es = some σe)
    (hfoe : ∀ i, i ≤ es.length → FullOrEmpty fb (applyOsOps S.vol (directOps (es.take i)))) :
    ∀ n, n ≤ es.length → ∃ p σn, p ≤ n ∧ pd σ (es.take n) = some σn ∧
      PInvX σn.toX (prun S (directOpsP (es.take n))) ∧
      (prun S (directOpsP (es.take n))).image = applyOsOps S.vol (directOps (es.take p)) := by
  simp only [pd_eq] at hpd ⊢
  exact power_of_refines fb hfb PD.toX (fun _ _ _ h => step_of_pd1 fb h) es σ S hI hd hn σe hpd hfoe

end MRL.P
