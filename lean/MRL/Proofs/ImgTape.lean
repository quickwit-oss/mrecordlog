/-
Reading a damaged image whose clean tape is an item tape given by its witnesses (`L.TapeD`: the disk
of a crash-reachable state, `L.CInvX.tapeD`, or of a state reached without crashes, `L.tapeD_of_cinv`,
where every item is a frame as written). The image is full files holding a tape of ITEMS, a residue,
zeros, and possibly an empty next file. Its genuine located frames (`glocs`) are the items written as
frames (`a.2 = none`), each with the absolute position of its header; junk slots are placeholders and
contribute nothing. Under `Gen.NoAcc` against them, what a successful `recover` replays is a
sub-sequence of the entries of the live groups (`tapeD_delivered`).
-/
import MRL.Proofs.ImgRead

namespace MRL.Img
open Codec Gen G L

def glocs (g : Geom) : Nat → List AItm → List (Nat × Frm)
  | _, [] => []
  | P, a :: rest =>
    (if a.2.isNone then [(hdrPos g P, a.1.2)] else []) ++ glocs g (nextPos g P a.1.2.2.length) rest

def gfrs (ais : List AItm) : List Frm := (ais.filter fun a => a.2.isNone).map (·.1.2)

theorem gfrs_append (a b : List AItm) : gfrs (a ++ b) = gfrs a ++ gfrs b := by simp [gfrs]

theorem gfrs_none {ais : List AItm} (h : ∀ a ∈ ais, a.2 = none) : gfrs ais = frs ais := by
  unfold gfrs frs tfs untag
  rw [List.filter_eq_self.mpr (fun a ha => by rw [h a ha]; rfl), List.map_map]
  rfl

theorem glocs_snd (g : Geom) (ais : List AItm) : ∀ P, (glocs g P ais).map (·.2) = gfrs ais := by
  induction ais with
  | nil => intro P; rfl
  | cons a ais ih =>
    intro P
    simp only [glocs, List.map_append, ih, gfrs, List.filter_cons]
    cases h : a.2.isNone <;> simp

theorem glocs_plain (g : Geom) (afs : List TFrm) : ∀ P, glocs g P (plain afs) = locs g P (untag afs) := by
  induction afs with
  | nil => intro P; rfl
  | cons a afs ih => intro P; simp only [plain_cons, glocs, Option.isNone_none, if_true, untag, List.map_cons, locs]
                     exact congrArg _ (ih _)

theorem glocs_mem_locs (g : Geom) (ais : List AItm) : ∀ P, ∀ y ∈ glocs g P ais, y ∈ locs g P (frs ais) := by
  induction ais with
  | nil => intro P y hy; cases hy
  | cons a ais ih =>
    intro P y hy
    simp only [glocs, List.mem_append] at hy
    show y ∈ (hdrPos g P, a.1.2) :: locs g (nextPos g P a.1.2.2.length) (frs ais)
    rcases hy with hy | hy
    · split at hy
      · rw [List.mem_singleton.mp hy]; exact List.mem_cons_self
      · cases hy
    · exact List.mem_cons_of_mem _ (ih _ y hy)

theorem located_glocs (g : Geom) (ais : List AItm) : ∀ P, Located g (glocs g P ais) := by
  induction ais with
  | nil => intro P; exact ⟨List.Pairwise.nil, fun A x Bl h => by cases A <;> simp [glocs] at h⟩
  | cons a ais ih =>
    intro P
    cases hn : a.2.isNone with
    | false =>
      have e : glocs g P (a :: ais) = glocs g (nextPos g P a.1.2.2.length) ais := by simp [glocs, hn]
      rw [e]; exact ih _
    | true =>
      have e : glocs g P (a :: ais) = (hdrPos g P, a.1.2) :: glocs g (nextPos g P a.1.2.2.length) ais := by
        simp [glocs, hn]
      rw [e]
      exact (ih _).cons fun y hy => locs_ge g (frs ais) (nextPos g P a.1.2.2.length) y (glocs_mem_locs g ais _ y hy)

/-- `ais` is an item layout of the tape of `W`: the stream is the bytes of the items from position
    0, zeros, a residue, zeros; junk is junk (`JOK`: a junk slot fails its check or is a torn
    header) -/
def ItemTape (g : Geom) (W : Image) (ais : List AItm) : Prop :=
  Fits g 0 (frs ais) ∧ JOK g (streamOf W).length 0 ais ∧
    ∃ z0 res z1, streamOf W = flatJ g 0 ais ++ zeros z0 ++ res ++ zeros z1

/-- **the collision clause, for images whose tape has junk**: wherever the reader's acceptance
    test passes on the stream of `W'`, the tape of `W` has that very frame — a frame as written,
    not a junk slot — at that very location.
    TRAP: `ItemTape` leaves the residue free, so `ItemTape g W []` holds (`itemTape_nil`) and the clause forces that
    NO position of `W'` passes the test (`CD.old_clause_forces_none`); it fails for `W' = W` as soon as `W` holds a
    frame (`CD.old_clause_not_refl`). A theorem under it says nothing of such images: `Img.CleanDamage` is the
    clause they can satisfy, and `Gen.NoAcc` against `glocs` of the state's own tape what the proofs use. -/
def NoAccidentalFrameImgX (g : Geom) (W W' : Image) : Prop :=
  ∀ ais, ItemTape g W ais → NoAcc g (glocs g 0 ais) (streamOf W')

theorem chunks_of_groups : ∀ (gs : List Grp), (∀ y ∈ gs, GrpOK y) →
    Chunks ((liveOf gs).map fun s => s.1.e.encode) (gfrs (gs.flatMap (·.2)))
  | [], _ => Chunks.nil
  | y :: gs, h => by
    have ih := chunks_of_groups gs fun y' hy' => h y' (List.mem_cons_of_mem _ hy')
    have hy := h y List.mem_cons_self
    obtain ⟨oj, fs⟩ := y
    rw [List.flatMap_cons, gfrs_append]
    cases oj with
    | some j =>
      rw [liveOf_cons_some, List.map_cons]
      have hy' : SegOK (j, tfs fs) ∧ ∀ a ∈ fs, a.2 = none := hy
      have hg : gfrs fs = untag (tfs fs) := gfrs_none hy'.2
      show Chunks _ (gfrs fs ++ _)
      rw [hg]
      exact Chunks.live hy'.1.frames hy'.1.payload ih
    | none =>
      rw [liveOf_cons_none]
      have hy' : (∃ rest : List Frm, rest ≠ [] ∧ EntryFrames true (frs fs ++ rest) ∧ ∀ a ∈ fs, a.2 = none) ∨
          (∃ a r, fs = [a] ∧ a.2 = some r) := hy
      show Chunks _ (gfrs fs ++ _)
      rcases hy' with ⟨rest, hrest, hE, hnone⟩ | ⟨a, r, hfs, ha⟩
      · rw [gfrs_none hnone]
        by_cases he : frs fs = []
        · rw [he]; exact ih
        · exact Chunks.dead he ⟨rest, hrest, hE⟩ ih
      · have : gfrs fs = [] := by rw [hfs]; simp [gfrs, ha]
        rw [this]; exact ih

theorem _root_.MRL.L.TapeD.stream {g : Geom} {X : Image} {F : Nat} {J : List JE} {cs : List Bytes} {x : Bool}
    {ais lead : List AItm} {gs : List Grp} {res : Bytes} {z0 z1 : Nat}
    (h : TapeD g X F J cs x ais lead gs res z0 z1) :
    Img.streamOf X = flatJ g 0 ais ++ zeros z0 ++ res ++ zeros z1 := by
  rw [h.img, Img.streamOf_append, Img.streamOf_imgOf, Img.streamOf_xtra, List.append_nil, h.flat]

theorem _root_.MRL.L.TapeD.itemTape {g : Geom} {X : Image} {F : Nat} {J : List JE} {cs : List Bytes} {x : Bool}
    {ais lead : List AItm} {gs : List Grp} {res : Bytes} {z0 z1 : Nat}
    (h : TapeD g X F J cs x ais lead gs res z0 z1) : ItemTape g X ais := by
  refine ⟨h.fits, ?_, z0, res, z1, h.stream⟩
  rw [h.stream, ← h.flat, flatten_length_full _ _ h.full]
  exact h.jok

theorem tapeD_delivered (g : Geom) {D : Image} {F : Nat} {J : List JE} {cs : List Bytes} {x : Bool}
    {ais lead : List AItm} {gs : List Grp} {res : Bytes} {z0 z1 : Nat}
    (hd : TapeD g D F J cs x ais lead gs res z0 z1) (hwf : ∀ j ∈ J, C07.WF j.e) (W' : Image)
    (hshape : SameShape D W') (hN : NoAcc g (glocs g 0 ais) (streamOf W'))
    (policy : Policy) (order : List Bytes) (r : Recovered) (hr : recover g W' policy order none = .ok r) :
    ∃ L : List (Nat × Entry), Rec.replayEntries [] L = some r.log.queues ∧
      List.Sublist (L.map (·.2)) ((J.filter fun j => decide (F ≤ j.loc)).map (·.e)) := by
  have hne := hd.ne; have hfull := hd.full
  obtain ⟨hais, hlead, hmap, hok⟩ := hd.toSegsW
  rw [hd.img] at hshape
  obtain ⟨cs', rfl, hne', hfull', _, hstream⟩ := sameShape_tape g F cs _ W' hne hfull (xtra_empty x _) hshape
  rw [hstream] at hN
  obtain ⟨m, trail, _, hlen, _, hbo, _⟩ := blocks_disk g F cs' hne' hfull' x _
  refine recover_delivered g F cs'.flatten m hlen _ (located_glocs g ais 0) hN _ ?_ ?_ _ trail hbo policy order r hr
  · intro e he
    obtain ⟨j, hj, rfl⟩ := List.mem_map.mp he
    exact C07.decode_encode _ (hwf j (List.mem_filter.mp hj).1)
  · rw [glocs_snd, ← hmap, List.map_map, List.map_map]
    show Shape (gfrs ais) ((liveOf gs).map fun s => s.1.e.encode)
    refine ⟨gfrs lead, gfrs (gs.flatMap (·.2)), by rw [hais, gfrs_append], ?_, chunks_of_groups gs hok⟩
    intro a ha
    rw [gfrs_none (fun a ha => (hlead a ha).1)] at ha
    obtain ⟨y, hy, rfl⟩ := List.mem_map.mp ha
    obtain ⟨z, hz, rfl⟩ := List.mem_map.mp hy
    exact (hlead z hz).2

end MRL.Img
