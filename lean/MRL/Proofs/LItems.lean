/-
Tapes with junk. An ITEM is a tagged frame with an optional override of the bytes of its slot:
`none` = the frame as the writer wrote it; `some r` = junk left by a write that was cut — the frame
is then only a PLACEHOLDER of the exact slot size, so that all the position theory (`endPos`,
`hdrPos`, `Fits`, `Tagged`, cuts at file boundaries) applies unchanged. Two kinds of junk:
a complete slot whose checksum fails (the payload was cut: the reader emits one `corrupt` event and
goes on after the slot), and a torn header (1 to 6 bytes, not all zero, then zeros to the end of
the block: one `corrupt` event and the rest of the block is given up).
The suffix `J` of `flatJ`, `evsJ`, `JOK` and of the file `LScanJ` stands for junk, not for the journal of
`replayJ`, `stepJ`, `JInv`.
-/
import MRL.Proofs.TornScan

namespace MRL.L
open Codec Consts G Torn

abbrev AItm := TFrm × Option Bytes

/-- the (placeholder) frames -/
def tfs (ais : List AItm) : List TFrm := ais.map (·.1)
def frs (ais : List AItm) : List Frm := untag (tfs ais)
/-- frames as items -/
def plain (afs : List TFrm) : List AItm := afs.map fun a => (a, none)

@[simp] theorem tfs_nil : tfs [] = [] := rfl
@[simp] theorem tfs_cons (a : AItm) (l : List AItm) : tfs (a :: l) = a.1 :: tfs l := rfl
theorem tfs_append (a b : List AItm) : tfs (a ++ b) = tfs a ++ tfs b := by simp [tfs]
theorem tfs_plain (afs : List TFrm) : tfs (plain afs) = afs := by
  simp only [tfs, plain, List.map_map]
  conv => rhs; rw [← List.map_id afs]
  rfl
theorem frs_append (a b : List AItm) : frs (a ++ b) = frs a ++ frs b := by simp [frs, tfs_append, untag_append]
theorem frs_plain (afs : List TFrm) : frs (plain afs) = untag afs := by simp [frs, tfs_plain]
@[simp] theorem frs_nil : frs [] = [] := rfl
@[simp] theorem frs_cons (a : AItm) (l : List AItm) : frs (a :: l) = a.1.2 :: frs l := rfl
theorem plain_cons (a : TFrm) (l : List TFrm) : plain (a :: l) = (a, none) :: plain l := rfl
theorem plain_append (a b : List TFrm) : plain (a ++ b) = plain a ++ plain b := by simp [plain]
theorem tfs_take (ais : List AItm) (n : Nat) : tfs (ais.take n) = (tfs ais).take n := by simp [tfs, List.map_take]
theorem tfs_drop (ais : List AItm) (n : Nat) : tfs (ais.drop n) = (tfs ais).drop n := by simp [tfs, List.map_drop]
theorem plain_take (afs : List TFrm) (n : Nat) : plain (afs.take n) = (plain afs).take n := by simp [plain, List.map_take]
theorem plain_drop (afs : List TFrm) (n : Nat) : plain (afs.drop n) = (plain afs).drop n := by simp [plain, List.map_drop]
theorem mem_plain {afs : List TFrm} {a : AItm} (h : a ∈ plain afs) : a.2 = none := by
  simp only [plain, List.mem_map] at h
  obtain ⟨x, _, rfl⟩ := h; rfl

theorem plain_inj {a b : List TFrm} (h : plain a = plain b) : a = b := by
  have := congrArg tfs h
  rwa [tfs_plain, tfs_plain] at this

theorem plain_tfs : ∀ {l : List AItm}, (∀ a ∈ l, a.2 = none) → plain (tfs l) = l
  | [], _ => rfl
  | a :: l, h => by
    obtain ⟨x, r⟩ := a
    have : r = none := h (x, r) List.mem_cons_self
    subst this
    show (x, none) :: plain (tfs l) = _
    rw [plain_tfs fun b hb => h b (List.mem_cons_of_mem _ hb)]

def slot (a : AItm) : Bytes := a.2.getD (encodeFrame a.1.2.1 a.1.2.2)

/-- the bytes written from in-block cursor `c`: padding, slot, padding, slot … -/
def flatJ (g : Geom) : Nat → List AItm → Bytes
  | _, [] => []
  | c, a :: rest => zeros (padLen g c) ++ slot a ++ flatJ g (frameEndCursor g c a.1.2.2.length) rest

theorem flatJ_plain (g : Geom) (afs : List TFrm) : ∀ c, flatJ g c (plain afs) = (layoutBufs g c (untag afs)).flatten := by
  induction afs with
  | nil => intro c; rfl
  | cons a afs ih =>
    intro c
    obtain ⟨f, t, p⟩ := a
    have := layout_cons_flatten g c t p (untag afs)
    have e1 : flatJ g c (plain ((f, t, p) :: afs)) =
        zeros (padLen g c) ++ encodeFrame t p ++ flatJ g (frameEndCursor g c p.length) (plain afs) := rfl
    have e2 : untag ((f, t, p) :: afs) = (t, p) :: untag afs := rfl
    rw [e1, e2, this, ih]

theorem flatJ_append (g : Geom) (a b : List AItm) : ∀ c,
    flatJ g c (a ++ b) = flatJ g c a ++ flatJ g (endCursor g c (frs a)) b := by
  induction a with
  | nil => intro c; rfl
  | cons x a ih =>
    intro c
    simp only [List.cons_append, flatJ, frs_cons, endCursor, ih, List.append_assoc]

/-- the override has the size of the slot -/
def RawLen (a : AItm) : Prop := ∀ r, a.2 = some r → r.length = 7 + a.1.2.2.length

theorem slot_length {a : AItm} (h : RawLen a) : (slot a).length = 7 + a.1.2.2.length := by
  unfold slot
  cases ha : a.2 with
  | none => simp [length_encodeFrame]
  | some r => simpa using h r ha

theorem flatJ_length (g : Geom) (ais : List AItm) (h : ∀ a ∈ ais, RawLen a) : ∀ c,
    (flatJ g c ais).length = totalLen (layoutBufs g c (frs ais)) := by
  induction ais with
  | nil => intro c; rfl
  | cons a ais ih =>
    intro c
    simp only [flatJ, frs_cons, layoutBufs, List.length_append, length_zeros, totalLen_append,
      slot_length (h a List.mem_cons_self), totalLen_frameWrites_eq, HEADER_LEN,
      ih (fun x hx => h x (List.mem_cons_of_mem _ hx)), Nat.add_assoc]

theorem flatJ_pos_length (g : Geom) (ais : List AItm) (h : ∀ a ∈ ais, RawLen a) (p : Nat)
    (hf : Fits g (p % g.B) (frs ais)) : p + (flatJ g (p % g.B) ais).length = endPos g p (frs ais) := by
  rw [flatJ_length g ais h]; exact totalLen_layout_pos g _ p hf

theorem flatJ0_len (g : Geom) (ais : List AItm) (h : ∀ a ∈ ais, RawLen a) (hf : Fits g 0 (frs ais)) :
    (flatJ g 0 ais).length = endPos g 0 (frs ais) := by
  have := flatJ_pos_length g ais h 0 (by rw [Nat.zero_mod]; exact hf)
  rw [Nat.zero_mod] at this; omega

theorem padLen_zero (g : Geom) : padLen g 0 = 0 := by
  have := G.seven_lt_B g
  unfold padLen; simp only [HEADER_LEN]; rw [if_neg (by omega)]

theorem flatJ_hdrPos (g : Geom) (p : Nat) (ais : List AItm) (hne : ais ≠ []) :
    flatJ g (p % g.B) ais = zeros (hdrPos g p - p) ++ flatJ g (hdrPos g p % g.B) ais := by
  have hB := G.seven_lt_B g
  cases ais with
  | nil => exact absurd rfl hne
  | cons a ais =>
    rw [hdrPos_mod]
    unfold hdrPos
    split
    · rename_i hp
      simp only [flatJ, padLen, HEADER_LEN, hp, if_true, Nat.sub_zero, frameEndCursor]
      rw [if_neg (by omega), if_neg (by omega)]
      simp only [zeros, List.replicate_zero, List.nil_append, List.append_assoc]
      congr 2
      omega
    · simp [zeros]

/-- `c`: in-block cursor of the header of the slot; `e`: position of the end of the slot;
    `L`: length of the stream. Junk is a complete frame whose checksum fails, or a torn header: the
    reader then gives up the rest of the block (`block_corrupted` in `frame/reader.rs`), so the
    placeholder must end with the block (`c + 7 + len = g.B`), and a torn header in the last block is
    not junk but a residue (`e < L`), since the reader stops in front of it -/
def JunkOK (g : Geom) (c e L : Nat) (a : AItm) : Prop :=
  ∀ r, a.2 = some r →
    (∃ crc : Bytes, crc.length = 4 ∧ r = Raw.bytes (crc, a.1.2.1, a.1.2.2) ∧
      Raw.ev (crc, a.1.2.1, a.1.2.2) = FrameEv.corrupt) ∨
    (∃ hd : Bytes, hd.length ≤ 6 ∧ isAllZero hd = false ∧
      r = hd ++ zeros (7 + a.1.2.2.length - hd.length) ∧ c + 7 + a.1.2.2.length = g.B ∧ e < L)

/-- `JunkOK` of every item, `p` running over the positions where the items start, as in `Tagged`. `L`, the
    length of the tape, only serves to tell a torn header before the last block (junk) from one in it (residue) -/
def JOK (g : Geom) (L : Nat) : Nat → List AItm → Prop
  | _, [] => True
  | p, a :: rest =>
    JunkOK g (hdrPos g p % g.B) (nextPos g p a.1.2.2.length) L a ∧ JOK g L (nextPos g p a.1.2.2.length) rest

theorem JunkOK.rawLen {g : Geom} {c e L : Nat} {a : AItm} (h : JunkOK g c e L a) : RawLen a := by
  intro r hr
  rcases h r hr with ⟨crc, h4, rfl, _⟩ | ⟨hd, hl, _, rfl, _, _⟩
  · exact length_raw_bytes _ h4
  · rw [List.length_append, length_zeros]
    exact Nat.add_sub_cancel' (Nat.le_trans hl (Nat.le_trans (Nat.le_succ 6) (Nat.le_add_right 7 _)))

theorem JOK.rawLen {g : Geom} {L : Nat} : ∀ {ais : List AItm} {p : Nat}, JOK g L p ais → ∀ a ∈ ais, RawLen a := by
  intro ais
  induction ais with
  | nil => intro p _ a ha; cases ha
  | cons x ais ih =>
    intro p h a ha
    rcases List.mem_cons.mp ha with rfl | ha
    · exact h.1.rawLen
    · exact ih h.2 a ha

theorem JOK_plain (g : Geom) (L : Nat) (afs : List TFrm) : ∀ p, JOK g L p (plain afs) := by
  induction afs with
  | nil => intro p; trivial
  | cons a afs ih => intro p; exact ⟨(fun r hr => by cases hr), ih _⟩

theorem JOK_append (g : Geom) (L : Nat) (a b : List AItm) : ∀ p,
    JOK g L p (a ++ b) ↔ JOK g L p a ∧ JOK g L (endPos g p (frs a)) b := by
  induction a with
  | nil => intro p; simp [JOK, endPos]
  | cons x a ih =>
    intro p
    simp only [List.cons_append, JOK, ih, frs_cons, endPos, and_assoc]

theorem JunkOK.of_lt {g : Geom} {c e L e' L' : Nat} {a : AItm} (h : JunkOK g c e L a) (hlt : e < L → e' < L') :
    JunkOK g c e' L' a := by
  intro r hr
  rcases h r hr with h1 | ⟨hd, a1, a2, a3, a4, a5⟩
  · exact Or.inl h1
  · exact Or.inr ⟨hd, a1, a2, a3, a4, hlt a5⟩

theorem JunkOK.mono {g : Geom} {c e L L' : Nat} {a : AItm} (h : JunkOK g c e L a) (hL : L ≤ L') :
    JunkOK g c e L' a :=
  h.of_lt fun h => Nat.lt_of_lt_of_le h hL

theorem JOK.mono {g : Geom} {L L' : Nat} (hL : L ≤ L') : ∀ {ais : List AItm} {p : Nat}, JOK g L p ais → JOK g L' p ais := by
  intro ais
  induction ais with
  | nil => intro p _; trivial
  | cons x ais ih => intro p h; exact ⟨h.1.mono hL, ih h.2⟩

theorem JOK_hdrPos (g : Geom) (L p : Nat) (ais : List AItm) (hne : ais ≠ []) :
    JOK g L (hdrPos g p) ais ↔ JOK g L p ais := by
  cases ais with
  | nil => exact absurd rfl hne
  | cons a ais => simp only [JOK, hdrPos_idem, nextPos_hdrPos]

/-- what the reader makes of an item -/
def evJ (a : AItm) : RdEv :=
  match a.2 with
  | none => RdEv.frame a.1.1 a.1.2.1 a.1.2.2
  | some _ => RdEv.corrupt a.1.1

def evsJ (ais : List AItm) : List RdEv := ais.map evJ

theorem evsJ_append (a b : List AItm) : evsJ (a ++ b) = evsJ a ++ evsJ b := by simp [evsJ]
theorem evsJ_cons (a : AItm) (l : List AItm) : evsJ (a :: l) = evJ a :: evsJ l := rfl
theorem evsJ_plain (afs : List TFrm) : evsJ (plain afs) = Rec.evsOf afs := by
  simp [evsJ, plain, Rec.evsOf, evJ, Function.comp_def]

/-- a residue `res` at position `W` (the items end at `E`) of a tape of length `L`: none, or at most
    6 bytes, not all zero, at a header position of the last block -/
def ResOK (g : Geom) (L W E : Nat) (res : Bytes) : Prop :=
  res = [] ∨ (res.length ≤ 6 ∧ isAllZero res = false ∧ W = hdrPos g E ∧ L ≤ (W / g.B + 1) * g.B)

end MRL.L
