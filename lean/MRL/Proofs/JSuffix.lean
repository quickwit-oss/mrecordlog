/-
The suffix lemma: dropping the files below `F'` (replaying only the journal entries located at
or after `F'`) rebuilds the same queues, provided every retained record is attributed to a file
`≥ F'` and every empty queue was touched at the end of the journal in a file `≥ F'`.
Simulation between the `F`-replay (state `A`) and the `F'`-replay (state `B`) of the same journal:
a relation on one slot of the two maps (`MRel`: the two queues have ghosts, knowing the attribution
of every record, related by `NRel`), kept by the slot function of every kind of entry (`sim_slot`,
`a_only_slot`), hence by the two replays (`replayEntry_rel_slot`, `Rec.replayEntries_rel`).
-/
import MRL.Proofs.JGhost
import MRL.Proofs.JStep

namespace MRL

/-- attribution as seen by a reader whose first file is `F'` -/
def clamp (F' : Nat) (r : GRec) : GRec := { r with attr := max r.attr F' }

/-- `y` holds a tail of `x`'s records (re-attributed), the rest of `x` is older than `F'` -/
structure PreSync (F' : Nat) (x y : GQ) : Prop where
  ex : ∃ older tail, x.recs = older ++ tail ∧ y.recs = tail.map (clamp F') ∧ ∀ r ∈ older, r.attr < F'
  invx : GInv x
  invy : GInv y

/-- … and the two queues stand at the same next position: from here on they accept and reject the
    same appends -/
structure Synced (F' : Nat) (x y : GQ) : Prop where
  pre : PreSync F' x y
  next : x.nextPosition = y.nextPosition

/-- one name in the two replays. Only the `F`-replay has it: all its records are attributed below `F'` — by the
    end of the journal it is emptied and touched, or deleted (`sim_finish`). Only the `F'`-replay has it:
    impossible, that replay sees a subset of the entries -/
def NRel (F' : Nat) : Option GQ → Option GQ → Prop
  | some x, some y => Synced F' x y
  | some x, none => (∀ r ∈ x.recs, r.attr < F') ∧ GInv x
  | none, none => True
  | none, some _ => False

def MRel (F' : Nat) (u v : Option MemQueue) : Prop :=
  ∃ gu gv : Option GQ, u = gu.map GQ.toMem ∧ v = gv.map GQ.toMem ∧ NRel F' gu gv

def SRel (F' : Nat) (A B : MemQueues) : Prop := ∀ n, MRel F' (A.get? n) (B.get? n)

theorem clamp_mkG (F' f : Nat) (r : Nat × Bytes) : clamp F' (mkG f r) = mkG (max f F') r := rfl

theorem synced_append {F' : Nat} {x0 y0 x' : GQ} (hp : PreSync F' x0 y0) {pos fa : Nat}
    {pls : List Bytes} (hy : y0.nextPosition ≤ pos) (hne : pls ≠ [])
    (hx : x0.appendAll fa (Log.numberFrom pos pls) = some x') :
    ∃ y', y0.appendAll (max fa F') (Log.numberFrom pos pls) = some y' ∧ Synced F' x' y' := by
  obtain ⟨y', hy'⟩ := GQ.appendAll_succeeds hp.invy hy (max fa F') pls
  obtain ⟨a1, a2, a3, _⟩ := GQ.appendAll_ok hp.invx hne hx
  obtain ⟨b1, b2, b3, _⟩ := GQ.appendAll_ok hp.invy hne hy'
  obtain ⟨older, tail, e1, e2, e3⟩ := hp.ex
  refine ⟨y', hy', ⟨⟨⟨older, tail ++ (Log.numberFrom pos pls).map (mkG fa), ?_, ?_, e3⟩, a3, b3⟩, ?_⟩⟩
  · rw [a1, e1, List.append_assoc]
  · rw [b1, e2, List.map_append, List.map_map]
    congr 1
  · rw [a2, b2]

theorem synced_truncate {F' : Nat} {x y : GQ} (h : Synced F' x y) (p : Nat) :
    Synced F' (x.truncateHead p) (y.truncateHead p) := by
  obtain ⟨a1, a2, a3⟩ := GQ.truncateHead_ok h.pre.invx p
  obtain ⟨b1, b2, b3⟩ := GQ.truncateHead_ok h.pre.invy p
  obtain ⟨older, tail, e1, e2, e3⟩ := h.pre.ex
  refine ⟨⟨⟨older.filter (fun r => p < r.pos), tail.filter (fun r => p < r.pos), ?_, ?_, ?_⟩, a3, b3⟩, ?_⟩
  · rw [a1, e1, List.filter_append]
  · rw [b1, e2, List.filter_map]; rfl
  · intro r hr; exact e3 r (List.mem_filter.mp hr).1
  · rw [a2, b2, h.next]

theorem unsynced_truncate {F' : Nat} {x : GQ} (h : (∀ r ∈ x.recs, r.attr < F') ∧ GInv x) (p : Nat) :
    (∀ r ∈ (x.truncateHead p).recs, r.attr < F') ∧ GInv (x.truncateHead p) := by
  obtain ⟨a1, _, a3⟩ := GQ.truncateHead_ok h.2 p
  refine ⟨?_, a3⟩
  intro r hr
  rw [a1] at hr
  exact h.1 r (List.mem_filter.mp hr).1

theorem synced_wnp (F' p : Nat) : Synced F' (GQ.withNextPosition p) (GQ.withNextPosition p) :=
  ⟨⟨⟨[], [], rfl, rfl, fun _ h => by cases h⟩, GInv_withNextPosition p, GInv_withNextPosition p⟩, rfl⟩

theorem sim_slot {F' fa : Nat} {gu gv gu' : Option GQ} {e : Entry} (hq : NRel F' gu gv) (he : EntryWF e)
    (hu : GQ.slot fa e gu = some gu') : ∃ gv', GQ.slot (max fa F') e gv = some gv' ∧ NRel F' gu' gv' := by
  cases e with
  | touch q p => cases hu; exact ⟨_, rfl, synced_wnp F' p⟩
  | delete q p => cases hu; exact ⟨_, rfl, trivial⟩
  | truncate q p =>
    cases hu
    refine ⟨_, rfl, ?_⟩
    cases gu with
    | none => cases gv with
      | none => exact hq
      | some y => exact hq.elim
    | some x => cases gv with
      | none => exact unsynced_truncate hq p
      | some y => exact synced_truncate hq p
  | append q pos recs =>
    obtain ⟨pls, hne, rfl⟩ := he
    simp only [GQ.slot] at hu ⊢
    obtain ⟨x', hx, rfl⟩ := Option.map_eq_some_iff.mp hu
    -- the two queues the append works on are pre-synced, and the second accepts the position
    have hpre : PreSync F' (gu.getD (GQ.withNextPosition pos)) (gv.getD (GQ.withNextPosition pos)) ∧
        (gv.getD (GQ.withNextPosition pos)).nextPosition ≤ pos := by
      cases gu with
      | none => cases gv with
        | none => exact ⟨(synced_wnp F' pos).pre, Nat.le_refl _⟩
        | some y => exact hq.elim
      | some x => cases gv with
        | none => exact ⟨⟨⟨x.recs, [], by simp, rfl, hq.1⟩, hq.2, GInv_withNextPosition pos⟩, Nat.le_refl _⟩
        | some y =>
          exact ⟨hq.pre, by
            show y.nextPosition ≤ pos
            rw [← hq.next]; exact (GQ.appendAll_ok hq.pre.invx hne hx).2.2.2⟩
    obtain ⟨y', hy', hs⟩ := synced_append hpre.1 hpre.2 hne hx
    exact ⟨some y', congrArg (Option.map some) hy', hs⟩

theorem a_only_slot {F' fa : Nat} {gu gu' : Option GQ} {e : Entry} (hq : NRel F' gu none) (hfa : fa < F')
    (he : EntryWF e) (hu : GQ.slot fa e gu = some gu') : NRel F' gu' none := by
  cases e with
  | touch q p => cases hu; exact ⟨nofun, GInv_withNextPosition p⟩
  | delete q p => cases hu; trivial
  | truncate q p =>
    cases hu
    cases gu with
    | none => trivial
    | some x => exact unsynced_truncate hq p
  | append q pos recs =>
    obtain ⟨pls, hne, rfl⟩ := he
    simp only [GQ.slot] at hu
    obtain ⟨x', hx, rfl⟩ := Option.map_eq_some_iff.mp hu
    have h0 : (∀ r ∈ (gu.getD (GQ.withNextPosition pos)).recs, r.attr < F') ∧
        GInv (gu.getD (GQ.withNextPosition pos)) := by
      cases gu with
      | none => exact ⟨nofun, GInv_withNextPosition pos⟩
      | some x => exact hq
    obtain ⟨a1, _, a3, _⟩ := GQ.appendAll_ok h0.2 hne hx
    refine ⟨fun r hr => ?_, a3⟩
    rw [a1] at hr
    rcases List.mem_append.mp hr with h | h
    · exact h0.1 r h
    · obtain ⟨r0, _, rfl⟩ := List.mem_map.mp h
      exact hfa

theorem slot_ghost {f : Nat} {e : Entry} {gu : Option GQ} {u' : Option MemQueue}
    (h : e.slot f (gu.map GQ.toMem) = some u') : ∃ gu', GQ.slot f e gu = some gu' ∧ u' = gu'.map GQ.toMem := by
  rw [GQ.slot_toMem] at h
  obtain ⟨gu', h1, h2⟩ := Option.map_eq_some_iff.mp h
  exact ⟨gu', h1, h2.symm⟩

theorem sim_entry {F' fa : Nat} {A B A' : MemQueues} {e : Entry} (hR : SRel F' A B) (he : EntryWF e)
    (hA : replayEntry A fa e = some A') :
    ∃ B', replayEntry B (max fa F') e = some B' ∧ SRel F' A' B' := by
  refine replayEntry_rel_slot (R := MRel F') hR (fun u' hu => ?_) hA
  obtain ⟨gu, gv, e1, e2, hq⟩ := hR e.queue
  rw [e1] at hu
  obtain ⟨gu', hgu, rfl⟩ := slot_ghost hu
  obtain ⟨gv', hgv, hq'⟩ := sim_slot hq he hgu
  exact ⟨gv'.map GQ.toMem, by rw [e2, GQ.slot_toMem, hgv]; rfl, gu', gv', rfl, rfl, hq'⟩

theorem a_only_entry {F' fa : Nat} {A A' : MemQueues} {e : Entry} (hR : SRel F' A []) (hfa : fa < F')
    (he : EntryWF e) (hA : replayEntry A fa e = some A') : SRel F' A' [] := by
  obtain ⟨h1, h2⟩ := replayEntry_get? hA
  intro n
  by_cases hn : n = e.queue
  · obtain ⟨gu, gv, e1, e2, hq⟩ := hR e.queue
    obtain rfl : gv = none := by cases gv with
      | none => rfl
      | some y => cases e2
    rw [e1] at h1
    obtain ⟨gu', hgu, e1'⟩ := slot_ghost h1
    exact ⟨gu', none, by rw [hn, e1'], rfl, a_only_slot hq hfa he hgu⟩
  · rw [h2 n hn]; exact hR n

/-- entries located below `F'`: the `F'`-replay skips them and stays empty, the `F`-replay only
    gathers records attributed below `F'` -/
theorem phase1 (F F' : Nat) (hFF : F < F') (js : List JE) (A A' : MemQueues)
    (hjs : ∀ j ∈ js, j.loc < F' ∧ j.attr ≤ j.loc ∧ EntryWF j.e) (hR : SRel F' A [])
    (h : replayJ F A js = some A') : SRel F' A' [] := by
  rw [replayJ_eq] at h
  refine Rec.replayEntries_induct (P := fun A => SRel F' A []) _ (fun fe hfe hR hA => ?_) hR h
  obtain ⟨j, hj, rfl⟩ := List.mem_map.mp hfe
  obtain ⟨h1, h2, h3⟩ := hjs j (List.mem_filter.mp hj).1
  exact a_only_entry hR (Nat.max_lt.mpr ⟨Nat.lt_of_le_of_lt h2 h1, hFF⟩) h3 hA

/-- entries located at or after `F'`: both replays process them, entry by entry (`sim_entry`) -/
theorem phase2 (F F' : Nat) (hFF : F ≤ F') (js : List JE) (A B A' : MemQueues)
    (hjs : ∀ j ∈ js, F' ≤ j.loc ∧ EntryWF j.e) (hR : SRel F' A B)
    (h : replayJ F A js = some A') : ∃ B', replayJ F' B js = some B' ∧ SRel F' A' B' := by
  rw [replayJ_ge F js A fun j hj => Nat.le_trans hFF (hjs j hj).1] at h
  rw [replayJ_ge F' js B fun j hj => (hjs j hj).1]
  refine Rec.replayEntries_rel (R := SRel F')
    (S := fun x y => y.1 = max x.1 F' ∧ y.2 = x.2 ∧ EntryWF x.2)
    (fun {a b a' x y} hR hS hA => by
      obtain ⟨f', e'⟩ := y
      obtain ⟨rfl, rfl, hW⟩ := hS
      exact sim_entry hR hW hA) ?_ hR h
  clear h
  induction js with
  | nil => exact .nil
  | cons j js ih =>
    refine .cons ⟨?_, rfl, (hjs j List.mem_cons_self).2⟩ (ih fun j' hj' => hjs j' (List.mem_cons_of_mem _ hj'))
    show max j.attr F' = max (max j.attr F) F'
    rw [Nat.max_assoc, Nat.max_eq_right hFF]

theorem touches_present (F' : Nat) (T : List JE) (B B' : MemQueues)
    (hT : ∀ j ∈ T, F' ≤ j.loc ∧ ∃ m p, j.e = .touch m p)
    (h : replayJ F' B T = some B') : ∀ j ∈ T, B'.get? j.e.queue ≠ none := by
  intro j hj
  obtain ⟨T1, T2, rfl⟩ := List.append_of_mem hj
  rw [replayJ_append] at h
  obtain ⟨B1, _, h⟩ := Option.bind_eq_some_iff.mp h
  rw [replayJ_cons_ge F' B1 j T2 (hT j hj).1] at h
  obtain ⟨B2, hB2, h⟩ := Option.bind_eq_some_iff.mp h
  -- the touch makes its queue present, the touches after it keep it so
  have h2 : B2.get? j.e.queue ≠ none := by
    obtain ⟨m, p, hm⟩ := (hT j hj).2
    have := (replayEntry_get? hB2).1
    rw [hm] at this ⊢
    have e := Option.some.inj this
    rw [← e]; simp
  rw [replayJ_eq] at h
  refine Rec.replayEntries_induct (P := fun B => B.get? j.e.queue ≠ none) _ (fun fe hfe hP hr => ?_) h2 h
  obtain ⟨j', hj', rfl⟩ := List.mem_map.mp hfe
  obtain ⟨m, p, hm⟩ := (hT j' (List.mem_append_right _ (List.mem_cons_of_mem _ (List.mem_filter.mp hj').1))).2
  obtain ⟨g1, g2⟩ := replayEntry_get? hr
  by_cases hn : j.e.queue = j'.e.queue
  · rw [hm] at g1
    have e := Option.some.inj g1
    rw [hn, hm, ← e]; simp
  · rw [g2 _ hn]; exact hP

theorem sim_finish {F' : Nat} {A B : MemQueues} (hR : SRel F' A B)
    (hhandles : ∀ n x, A.get? n = some x → ∀ r ∈ x.recs, ∀ f, r.file = some f → F' ≤ f)
    (hempty : ∀ n x, A.get? n = some x → x.recs = [] → B.get? n ≠ none) :
    QsEquiv B A := by
  rw [qsEquiv_iff]
  intro n
  obtain ⟨gu, gv, e1, e2, hq⟩ := hR n
  cases gu with
  | none =>
    cases gv with
    | none => rw [e1, e2]; trivial
    | some y => exact hq.elim
  | some x =>
    have hall : ∀ r ∈ x.recs, F' ≤ r.attr := by
      intro r hr
      obtain ⟨h, hh, hf⟩ := attr_has_handle x.recs r hr
      exact hhandles n x.toMem e1 h hh r.attr hf
    cases gv with
    | none =>
      -- all of `x`'s records are older than `F'` and none is: `x` is empty, so `B` has it
      refine absurd e2 (hempty n x.toMem e1 ?_)
      have : x.recs = [] := List.eq_nil_iff_forall_not_mem.mpr fun r hr =>
        Nat.not_le_of_lt (hq.1 r hr) (hall r hr)
      simp only [GQ.toMem, this]; rfl
    | some y =>
      obtain ⟨older, tail, h1, h2, h3⟩ := hq.pre.ex
      have hold : older = [] := List.eq_nil_iff_forall_not_mem.mpr fun r hr =>
        Nat.not_le_of_lt (h3 r hr) (hall r (by rw [h1]; exact List.mem_append_left _ hr))
      subst hold
      simp only [List.nil_append] at h1
      have hy : y.recs = x.recs := by
        rw [h2, h1]
        refine (List.map_congr_left fun r hr => ?_).trans (List.map_id _)
        show ({ r with attr := max r.attr F' } : GRec) = r
        rw [Nat.max_eq_left (hall r (by rw [h1]; exact hr))]
      rw [e1, e2]
      exact ⟨by simp only [GQ.toMem, hy],
        by rw [GQ.toMem_nextPosition, GQ.toMem_nextPosition, hq.next]⟩

theorem split_loc (F : Nat) : ∀ J : List JE, J.Pairwise (fun a b => a.loc ≤ b.loc) →
    ∃ J1 J2, J = J1 ++ J2 ∧ (∀ j ∈ J1, j.loc < F) ∧ (∀ j ∈ J2, F ≤ j.loc) := by
  intro J hmono
  have hclosed : J.Pairwise
      (fun a b => decide (b.loc < F) = true → decide (a.loc < F) = true) :=
    hmono.imp fun hab hb => decide_eq_true (Nat.lt_of_le_of_lt hab (of_decide_eq_true hb))
  refine ⟨J.takeWhile fun j => decide (j.loc < F), J.dropWhile fun j => decide (j.loc < F),
    List.takeWhile_append_dropWhile.symm, ?_, ?_⟩
  · intro j hj
    simpa using mem_takeWhile_sat _ _ j hj
  · intro j hj
    rw [dropWhile_eq_filter_of_pairwise _ _ hclosed] at hj
    simpa using (List.mem_filter.mp hj).2

theorem filter_split_loc (F : Nat) (J1 J2 : List JE) (h1 : ∀ j ∈ J1, j.loc < F) (h2 : ∀ j ∈ J2, F ≤ j.loc) :
    (J1 ++ J2).filter (fun j => decide (F ≤ j.loc)) = J2 := by
  rw [List.filter_append]
  have e1 : J1.filter (fun j => decide (F ≤ j.loc)) = [] := by
    rw [List.filter_eq_nil_iff]; intro j hj; have := h1 j hj; simp; omega
  have e2 : J2.filter (fun j => decide (F ≤ j.loc)) = J2 := by
    rw [List.filter_eq_self]; intro j hj; have := h2 j hj; simpa using this
  rw [e1, e2]; rfl

/-- **Suffix lemma.** `J0 ++ T` is a journal, `T` the touches of the GC pass that ends it; `F` is
    the first tracked file before that pass, from which the journal replays to `qa`, and `F'` the
    first one after it. If every handle left in `qa` is on a file `≥ F'` and every empty queue of
    `qa` has its touch in `T`, then replaying only the entries located in files `≥ F'` succeeds and
    gives the same queues: the files below `F'` can go. -/
theorem suffix_lemma (F F' : Nat) (hFF : F < F') (J0 T : List JE)
    (hmono : (J0 ++ T).Pairwise (fun a b => a.loc ≤ b.loc))
    (hwf : ∀ j ∈ J0 ++ T, j.attr ≤ j.loc ∧ EntryWF j.e)
    (hT : ∀ j ∈ T, F' ≤ j.loc ∧ ∃ n p, j.e = .touch n p)
    (qa : MemQueues) (hrep : replayJ F [] (J0 ++ T) = some qa)
    (hhandles : ∀ n x, qa.get? n = some x → ∀ r ∈ x.recs, ∀ f, r.file = some f → F' ≤ f)
    (hempty : ∀ n x, qa.get? n = some x → x.recs = [] → ∃ j ∈ T, j.e.queue = n) :
    ∃ qb, replayJ F' [] (J0 ++ T) = some qb ∧ QsEquiv qb qa := by
  obtain ⟨J1, J2, rfl, h1, h2⟩ := split_loc F' J0 (List.pairwise_append.mp hmono).1
  have hwf1 : ∀ j ∈ J1, j.loc < F' ∧ j.attr ≤ j.loc ∧ EntryWF j.e := by
    intro j hj
    have := hwf j (List.mem_append_left _ (List.mem_append_left _ hj))
    exact ⟨h1 j hj, this.1, this.2⟩
  have hwf2 : ∀ j ∈ J2 ++ T, F' ≤ j.loc ∧ EntryWF j.e := by
    intro j hj
    have hw := hwf j (by rw [List.append_assoc]; exact List.mem_append_right _ hj)
    rcases List.mem_append.mp hj with h | h
    · exact ⟨h2 j h, hw.2⟩
    · exact ⟨(hT j h).1, hw.2⟩
  rw [List.append_assoc, replayJ_append] at hrep
  obtain ⟨A1, hA1, hrep⟩ := Option.bind_eq_some_iff.mp hrep
  have hR1 := phase1 F F' hFF J1 [] A1 hwf1 (fun _ => ⟨none, none, rfl, rfl, trivial⟩) hA1
  obtain ⟨B3, hB3, hR3⟩ := phase2 F F' (Nat.le_of_lt hFF) (J2 ++ T) A1 [] qa hwf2 hR1 hrep
  -- the touches at the end make every touched queue present in `B3`
  have hpres : ∀ j ∈ T, B3.get? j.e.queue ≠ none := by
    rw [replayJ_append] at hB3
    obtain ⟨B2, _, hB3⟩ := Option.bind_eq_some_iff.mp hB3
    exact touches_present F' T B2 B3 hT hB3
  refine ⟨B3, ?_, sim_finish hR3 hhandles ?_⟩
  · rw [List.append_assoc, replayJ_append, replayJ_skip F' [] J1 h1]
    exact hB3
  · intro n x hx hxe
    obtain ⟨j, hj, hjn⟩ := hempty n x hx hxe
    rw [← hjn]
    exact hpres j hj

end MRL
