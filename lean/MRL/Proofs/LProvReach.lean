/-
Crash-reachable states WITH the list of entries handed to the writer.

`C02W.ReachXW g cap l img b W` mirrors `C02U.ReachX g cap l img b` constructor by constructor and
accumulates in `W : List Entry` every entry a call or a GC pass of the history handed to the writer:
* `base`: the entries of the journal of the `C01R.ReachD` state (every `stepJ` of its calls, every
  `gcJ` of its opens — `ReachD` carries its journal explicitly);
* `step`: `++` the entries of `l.stepJ g c order`;
* `reopen`: `++` the entries of `lp.gcJ g order` (the touches of the GC pass of `open`);
* `crash`: `++` the entries of the INTERRUPTED call's `stepJ` (whether or not they reached the disk)
  `++` those of the `gcJ` of the `open` that follows. As in `ReachX.crash`, the interrupted call starts with an
  empty `BufWriter` (`b.pend = []`, the flush-per-operation premise of C02): a state whose `BufWriter` still
  holds bytes of earlier calls is reachable (`step` under a policy that does not flush), and `crash` does not apply to it;
* `crash2`: `++` the entries of the `gcJ` of the interrupted `open` `++` those of the `open` that follows.
`ReachXW.toReachX` / `ReachXW.ofReachX`: projection and lift (every `ReachX` state is a `ReachXW`
state for some `W`).

Provenance is a predicate `P` on entries carried next to serialisability (`LP.WFP`): the entries of the
journal of a recovered state are entries of the journal they were read from (`L.Carry.ofEntries`).
-/
import MRL.Props.C02Usable

namespace MRL.LP
open Codec Consts G H Log Buf C05 C01J Torn L

def WFP (P : Entry → Prop) (e : Entry) : Prop := C07.WF e ∧ P e

theorem carry (P : Entry → Prop) : Carry (WFP P) (fun J _ => ∀ j ∈ J, WFP P j.e) :=
  Carry.ofEntries fun _ h => h.1

/-- `L.XInvRes` with the provenance predicate -/
def XInvResP (g : Geom) (P : Entry → Prop) (qsBefore qsAfter : MemQueues) (X : Image) : Prop :=
  ∀ policy, ∃ (J' : List JE) (lp : Log) (io F' : Nat),
    recoverPre g X policy none = .ok (lp, [.ensureLen F' g.fileBytes], io) ∧ lp.files.headD 0 = F' ∧
    CInvX g lp J' X ∧ (∀ j ∈ J', WFP P j.e) ∧ lp.policy = policy ∧
    (AbsEq lp.queues qsBefore ∨ AbsEq lp.queues qsAfter)

theorem XInvResP.toX {g : Geom} {P : Entry → Prop} {qB qA : MemQueues} {X : Image} (h : XInvResP g P qB qA X) :
    XInvRes g qB qA X :=
  XInvResQ.mono (Q := fun J _ => ∀ j ∈ J, WFP P j.e) h fun _ _ hw j hj => (hw j hj).1

end MRL.LP

namespace MRL.C02W
open Log C05 C01J G H L LP Buf Codec

abbrev flushDisk (img : Image) (b : BufSt) : Image := C01R.flushDisk img b

def ents (J : List JE) : List Entry := J.map (·.e)

/-- `C02U.ReachX` with the list `W` of the entries handed to the writer so far, constructor by constructor
    (what each adds to `W`: the head of this file) -/
inductive ReachXW (g : Geom) (cap : Nat) : Log → Image → BufSt → List Entry → Prop
  | base {l : Log} {J : List JE} {img : Image} {b : BufSt} :
      C01R.ReachD g cap l J img b → (∀ j ∈ J, C07.WF j.e) → ReachXW g cap l img b (ents J)
  | step {l : Log} {img : Image} {b : BufSt} {W : List Entry} (c : Call) (tick : Bool) (order : List Bytes) :
      ReachXW g cap l img b W → (∀ j ∈ l.stepJ g c order, C07.WF j.e) →
      ReachXW g cap (l.step g c tick order).1
        (applyOsOps img (toOsOps cap b (l.step g c tick order).2.2).2)
        (toOsOps cap b (l.step g c tick order).2.2).1 (W ++ ents (l.stepJ g c order))
  | reopen {l : Log} {img : Image} {b : BufSt} {W : List Entry} (policy : Policy) (order : List Bytes)
      (lp : Log) (e0 : List Effect) (io : Nat) (r : Recovered) :
      ReachXW g cap l img b W →
      recoverPre g (flushDisk img b) policy none = .ok (lp, e0, io) →
      recover g (flushDisk img b) policy order none = .ok r →
      (∀ j ∈ lp.gcJ g order, C07.WF j.e) →
      ReachXW g cap r.log (applyOsOps (flushDisk img b) (toOsOps cap {} r.effects).2) (toOsOps cap {} r.effects).1
        (W ++ ents (lp.gcJ g order))
  | crash {l : Log} {img : Image} {b : BufSt} {W : List Entry} (c : Call) (tick : Bool) (order : List Bytes)
      (k cut : Nat) (X : Image) (policy' : Policy) (order' : List Bytes) (lp : Log) (e0 : List Effect) (io : Nat)
      (r : Recovered) :
      ReachXW g cap l img b W → b.pend = [] →
      (∀ j ∈ l.stepJ g c order, C07.WF j.e) → C02A.TornStep g l c tick order →
      X = crashImage img (toOsOps cap b (l.step g c tick order).2.2).2 k cut →
      recoverPre g X policy' none = .ok (lp, e0, io) →
      recover g X policy' order' none = .ok r →
      (∀ j ∈ lp.gcJ g order', C07.WF j.e) →
      ReachXW g cap r.log (applyOsOps X (toOsOps cap {} r.effects).2) (toOsOps cap {} r.effects).1
        (W ++ ents (l.stepJ g c order) ++ ents (lp.gcJ g order'))
  | crash2 {l : Log} {img : Image} {b : BufSt} {W : List Entry} (policy : Policy) (order : List Bytes) (lp0 : Log)
      (e00 : List Effect) (io0 : Nat) (r0 : Recovered) (k cut : Nat) (X : Image) (policy' : Policy)
      (order' : List Bytes) (lp : Log) (e0 : List Effect) (io : Nat) (r : Recovered) :
      ReachXW g cap l img b W →
      recoverPre g (flushDisk img b) policy none = .ok (lp0, e00, io0) →
      recover g (flushDisk img b) policy order none = .ok r0 →
      (∀ j ∈ lp0.gcJ g order, C07.WF j.e) → TornEffs r0.effects →
      X = crashImage (flushDisk img b) (toOsOps cap {} r0.effects).2 k cut →
      recoverPre g X policy' none = .ok (lp, e0, io) →
      recover g X policy' order' none = .ok r →
      (∀ j ∈ lp.gcJ g order', C07.WF j.e) →
      ReachXW g cap r.log (applyOsOps X (toOsOps cap {} r.effects).2) (toOsOps cap {} r.effects).1
        (W ++ ents (lp0.gcJ g order) ++ ents (lp.gcJ g order'))

theorem ReachXW.toReachX {g : Geom} {cap : Nat} {l : Log} {img : Image} {b : BufSt} {W : List Entry}
    (h : ReachXW g cap l img b W) : C02U.ReachX g cap l img b := by
  induction h with
  | base hr hwf => exact .base hr hwf
  | step c tick order _ hwf ih => exact .step c tick order ih hwf
  | reopen policy order lp e0 io r _ hpre hrec hgw ih => exact .reopen policy order lp e0 io r ih hpre hrec hgw
  | crash c tick order k cut X policy' order' lp e0 io r _ hb hwf htorn hX hpre hrec hgw ih =>
    exact .crash c tick order k cut X policy' order' lp e0 io r ih hb hwf htorn hX hpre hrec hgw
  | crash2 policy order lp0 e00 io0 r0 k cut X policy' order' lp e0 io r _ hpre0 hrec0 hgw0 htorn hX hpre hrec hgw ih =>
    exact .crash2 policy order lp0 e00 io0 r0 k cut X policy' order' lp e0 io r ih hpre0 hrec0 hgw0 htorn hX hpre hrec hgw

theorem ReachXW.ofReachX {g : Geom} {cap : Nat} {l : Log} {img : Image} {b : BufSt}
    (h : C02U.ReachX g cap l img b) : ∃ W, ReachXW g cap l img b W := by
  induction h with
  | base hr hwf => exact ⟨_, .base hr hwf⟩
  | step c tick order _ hwf ih => obtain ⟨W, ih⟩ := ih; exact ⟨_, .step c tick order ih hwf⟩
  | reopen policy order lp e0 io r _ hpre hrec hgw ih =>
    obtain ⟨W, ih⟩ := ih; exact ⟨_, .reopen policy order lp e0 io r ih hpre hrec hgw⟩
  | crash c tick order k cut X policy' order' lp e0 io r _ hb hwf htorn hX hpre hrec hgw ih =>
    obtain ⟨W, ih⟩ := ih
    exact ⟨_, .crash c tick order k cut X policy' order' lp e0 io r ih hb hwf htorn hX hpre hrec hgw⟩
  | crash2 policy order lp0 e00 io0 r0 k cut X policy' order' lp e0 io r _ hpre0 hrec0 hgw0 htorn hX hpre hrec hgw ih =>
    obtain ⟨W, ih⟩ := ih
    exact ⟨_, .crash2 policy order lp0 e00 io0 r0 k cut X policy' order' lp e0 io r ih hpre0 hrec0 hgw0 htorn hX hpre
      hrec hgw⟩

theorem mem_ents {J : List JE} {j : JE} (h : j ∈ J) : j.e ∈ ents J := List.mem_map_of_mem (f := (·.e)) h

end MRL.C02W
