/-
The window of pending unlinks, with restarts inside it. `vrecA`: every image of a history with the late
unlinks of a GC pass undone (`PDC.skipLate`) opens to a state of the history; `vwinA`: inside the window —
the older files still on the disk, the real log writing on and restarting — every image before the next
`fsync(dir)` does. The real disk is the one that still holds the files `lo` with them filtered out:
filtering commutes with every operation but a `create`, and before an `fsync(dir)` no event creates a file
(`ev_noCreate`). `PDC.noReopenPend` (no restart while unlinks are pending) is the condition of
`C03PD.C03_posix_dir_calls`; `PDC.vrec` is `vrecA` under it, and does not use it.
-/
import MRL.Proofs.PDWinEv

namespace MRL.PDC
open H Buf PX

/-- no `reopen` while unlinks are not covered by an `fsync(dir)` (`p`: pending at the start) -/
def noReopenPend (g : Geom) : Log → Image → Bool → List Ev → Bool
  | _, _, _, [] => true
  | l, D, p, e :: es =>
    (match e with
     | .reopen _ _ => !p
     | .call _ _ _ => true) &&
    noReopenPend g (evLog g l D e) (evDisk g l D e) (pendAfter p (evEffs g l D e)) es

theorem state_first {g : Geom} {l : Log} {D : Image} {e : Ev} {es : List Ev} {X : Image} {policy : Policy}
    (h : ∃ lp e0 io, recoverPre g X policy none = .ok (lp, e0, io) ∧
      (AbsEq lp.queues l.queues ∨ AbsEq lp.queues (evLog g l D e).queues)) :
    ∃ (i : Nat) (lp : Log) (e0 : List Effect) (io : Nat), i ≤ (e :: es).length ∧
      recoverPre g X policy none = .ok (lp, e0, io) ∧ AbsEq lp.queues (logX g l D ((e :: es).take i)).queues := by
  obtain ⟨lp, e0, io, h1, h2 | h2⟩ := h
  · exact ⟨0, lp, e0, io, Nat.zero_le _, h1, h2⟩
  · exact ⟨1, lp, e0, io, Nat.succ_le_succ (Nat.zero_le _), h1, h2⟩

theorem state_later {g : Geom} {l : Log} {D : Image} {e : Ev} {es : List Ev} {X : Image} {policy : Policy}
    (h : ∃ (i : Nat) (lp : Log) (e0 : List Effect) (io : Nat), i ≤ es.length ∧
      recoverPre g X policy none = .ok (lp, e0, io) ∧
      AbsEq lp.queues (logX g (evLog g l D e) (evDisk g l D e) (es.take i)).queues) :
    ∃ (i : Nat) (lp : Log) (e0 : List Effect) (io : Nat), i ≤ (e :: es).length ∧
      recoverPre g X policy none = .ok (lp, e0, io) ∧ AbsEq lp.queues (logX g l D ((e :: es).take i)).queues := by
  obtain ⟨i, lp, e0, io, hi, h1, h2⟩ := h
  exact ⟨i + 1, lp, e0, io, Nat.succ_le_succ hi, h1, h2⟩

/-- an event `a ++ unlinks ++ s` (`a` unlink-free, `s` only flush/fsync): every image of a prefix
    with its late unlinks undone is the image of a prefix -/
theorem skipLate_event (u : Nat) (D : Image) (a : List Effect) (U : List Nat) (s : List Effect)
    (ha : NoUnl a) (hs : IsSyncL s) (n : Nat) :
    ∃ q, applyOsOps D (directOps (skipLate u ((a ++ U.map Effect.unlink ++ s).take n))) =
        applyOsOps D (directOps ((a ++ U.map Effect.unlink ++ s).take q)) := by
  have hsU : NoUnl s := by
    intro e he
    rcases hs e he with rfl | ⟨f, rfl⟩ | rfl <;> rfl
  have hlen : (a ++ U.map Effect.unlink).length = a.length + U.length := by rw [List.length_append, List.length_map]
  by_cases h1 : n ≤ a.length
  · refine ⟨n, ?_⟩
    rw [List.append_assoc, List.take_append_of_le_length h1,
      skipLate_noUnl u _ (fun e he => ha e (List.mem_of_mem_take he))]
  · obtain ⟨k, rfl⟩ := Nat.exists_eq_add_of_le (Nat.le_of_not_le h1)
    by_cases h2 : k ≤ U.length
    · have hm : min u k ≤ U.length := Nat.le_trans (Nat.min_le_right u k) h2
      refine ⟨a.length + min u k, ?_⟩
      rw [take_mid a U s k h2, skipLate_noUnl_unlinks u _ a ha, take_mid a U s _ hm, List.take_take]
    · obtain ⟨m, rfl⟩ := Nat.exists_eq_add_of_le (Nat.le_of_not_le h2)
      have htk : (a ++ U.map Effect.unlink ++ s).take (a.length + (U.length + m)) =
          (a ++ U.map Effect.unlink) ++ s.take m := by
        rw [← Nat.add_assoc, ← hlen, List.take_length_add_append]
      have hsk : NoUnl (s.take m) := fun e he => hsU e (List.mem_of_mem_take he)
      cases hds : hasDS (s.take m) with
      | true =>
        refine ⟨a.length + (U.length + m), ?_⟩
        rw [htk, skipLate_append_ds u _ hds, skipLate_noUnl u _ hsk]
      | false =>
        refine ⟨a.length + min u U.length, ?_⟩
        rw [htk, skipLate_append_quiet u _ hds hsk, skipLate_noUnl_unlinks u U a ha, directOps_append,
          applyOsOps_append, syncL_apply (fun v hv => hs v (List.mem_of_mem_take hv)),
          take_mid a U s _ (Nat.min_le_right _ _), ← List.take_eq_take_min]

/-- effects `R` after an event `a ++ unlinks ++ s`, the late unlinks undone: the event has happened in
    full, unless no `fsync(dir)` follows its unlinks and not all of them are kept — then `R` acts on the
    disk that still holds the files `U.drop u` -/
theorem skipLate_after_event (u : Nat) (D : Image) (a : List Effect) (U : List Nat) (s R : List Effect)
    (ha : NoUnl a) (hs : IsSyncL s) (hR : hasDS R = false → NoUnl R) :
    applyOsOps D (directOps (skipLate u (a ++ U.map Effect.unlink ++ s ++ R))) =
      applyOsOps (applyOsOps D (directOps (a ++ U.map Effect.unlink ++ s))) (directOps (skipLate u R)) ∨
    (hasDS R = false ∧ u < U.length ∧
      applyOsOps D (directOps (skipLate u (a ++ U.map Effect.unlink ++ s ++ R))) =
        applyOsOps (applyOsOps (applyOsOps D (directOps a)) ((U.take u).map OsOp.unlink)) (directOps R)) := by
  have hsU : NoUnl s := by
    intro e he
    rcases hs e he with rfl | ⟨f, rfl⟩ | rfl <;> rfl
  cases hds : hasDS R with
  | true => left; rw [skipLate_append_ds u R hds, directOps_append, applyOsOps_append]
  | false =>
    have hnu := hR hds
    rw [skipLate_append_quiet u R hds hnu, directOps_append, applyOsOps_append, skipLate_noUnl u R hnu]
    cases hdsS : hasDS s with
    | true => left; rw [skipLate_append_ds u s hdsS, skipLate_noUnl u s hsU]
    | false =>
      rw [skipLate_append_quiet u s hdsS hsU, skipLate_noUnl_unlinks u U a ha]
      by_cases hu : U.length ≤ u
      · left; rw [List.take_of_length_le hu]
      · right
        refine ⟨rfl, by omega, ?_⟩
        rw [directOps_append, directOps_append, applyOsOps_append, applyOsOps_append, syncL_apply hs,
          directOps_unlinks]

end MRL.PDC

namespace MRL.PDA
open G H Log Buf L PX PDC

/-- **one event of the real log inside the window**, up to its first `fsync(dir)`: a call (`virt_callA`), or
    a restart — the real log is re-read (`virt_relog`), then `flush, ensureLen` and a GC pass -/
theorem virt_ev (g : Geom) (hB : g.B ≤ 65542) (lo : List Nat) {l : Log} {J Jv : List JE} {D Dv : Image}
    (hc : CInvX g l J D) (hw : ∀ j ∈ J, C07.WF j.e)
    (hv : CInvA g (virt lo l) Jv Dv) (hwv : ∀ j ∈ Jv, C07.WF j.e) (hlo : ∀ f ∈ lo, f ≤ l.cur)
    (hrel : D = Dv.filter (fun kv => !lo.contains kv.1)) (e : Ev)
    (hwe : ∀ j ∈ PX.evJ g l D e, C07.WF j.e) (htorn : TornEffs (evEffs g l D e)) :
    (∀ p, hasDS ((evEffs g l D e).take p) = false →
      XRes g l.queues (evLog g l D e).queues (applyOsOps Dv (directOps ((evEffs g l D e).take p)))) ∧
    (hasDS (evEffs g l D e) = false →
      ∃ Jv', CInvA g (virt lo (evLog g l D e)) Jv' (applyOsOps Dv (directOps (evEffs g l D e))) ∧
        (∀ j ∈ Jv', C07.WF j.e) ∧ ∀ f ∈ lo, f ≤ (evLog g l D e).cur) := by
  cases e with
  | call c tick order => exact virt_callA g hB lo hv hwv hlo c tick order hwe htorn
  | reopen policy order =>
    obtain ⟨J', lp, io, r, hpre, _, _, hc0, _, hab, e1, e2, e3⟩ := reopen_eval g hB hc hw policy order
    obtain ⟨⟨Jv', hvp, hwvp⟩, hlop, _⟩ := virt_relog g hB lo hc hw hv hwv hrel policy hpre
    rw [e3] at hwe
    rw [e2] at htorn
    rw [e1, e2]
    have hHle : lp.files.headD 0 ≤ lp.cur := head_le_of_mem hc0.jinv.h.files.sorted hc0.jinv.h.files.cur_mem
    have hens : applyOsOps Dv (directOps [Effect.flush, Effect.ensureLen (lp.files.headD 0) g.fileBytes]) = Dv := by
      refine ensureLen_full Dv _ _ (fun kv hkv hk => ?_)
      rw [(dshape_of_cinva hvp).full kv hkv (by rw [hk]; exact hHle)]
      exact Nat.lt_irrefl _
    rw [← List.cons_append] at htorn ⊢
    -- `flush, ensureLen` leave the disk as it is: a prefix of the effects acts as a prefix of the GC pass
    have hskip : ∀ (G : List Effect) (p : Nat), applyOsOps Dv (directOps
        (([Effect.flush, Effect.ensureLen (lp.files.headD 0) g.fileBytes] ++ G).take p)) =
        applyOsOps Dv (directOps (G.take (p - 2))) := by
      intro G p
      rw [List.take_append, directOps_append, applyOsOps_append]
      rcases p with _ | _ | p
      · rfl
      · rfl
      · rw [List.take_of_length_le (Nat.le_add_left 2 p), hens]; rfl
    obtain ⟨ga, gb⟩ := virt_gc g hB lo hvp hwvp hlop order hwe (torn_right htorn)
    refine ⟨fun p hp => ?_, fun hno => ?_⟩
    · rw [hskip]
      rw [List.take_append, hasDS_append, Bool.or_eq_false_iff] at hp
      exact (ga _ hp.2).of_same (.inl hab)
    · rw [hasDS_append, Bool.or_eq_false_iff] at hno
      rw [gb hno.2, List.append_nil, hens]
      exact ⟨Jv', hvp, hwvp, hlop⟩

theorem directOps_create {es : List Effect} {f : Nat} (h : OsOp.create f ∈ directOps es) : Effect.create f ∈ es := by
  induction es with
  | nil => cases h
  | cons e es ih =>
    rw [directOps_cons, List.mem_append] at h
    rcases h with h | h
    · cases e <;> simp [direct] at h
      rw [h]; exact List.mem_cons_self
    · exact List.mem_cons_of_mem _ (ih h)

theorem hasDS_take {es : List Effect} (h : hasDS es = false) (i : Nat) : hasDS (es.take i) = false := by
  unfold hasDS at *
  rw [List.any_eq_false] at *
  exact fun x hx => h x (List.mem_of_mem_take hx)

/-- a `create` always follows an `fsync(dir)` -/
theorem cePat_noCreate {es : List Effect} (h : CEPat es) (hd : hasDS es = false) : ∀ f, Effect.create f ∉ es := by
  intro f hf
  obtain ⟨i, hi⟩ := List.getElem?_of_mem hf
  have := h i _ hi rfl true
  rw [pendAfter_true_noDS _ (hasDS_take hd i)] at this
  cases this

theorem ev_noCreate (g : Geom) (hB : g.B ≤ 65542) {l : Log} {J : List JE} {D : Image} (h : CInvX g l J D)
    (hw : ∀ j ∈ J, C07.WF j.e) (e : Ev) (hd : hasDS (evEffs g l D e) = false) :
    ∀ f, OsOp.create f ∉ directOps (evEffs g l D e) := by
  intro f hf
  have hf := directOps_create hf
  cases e with
  | call c tick order => exact cePat_noCreate ((cePat_effs g).2 l c tick order) hd f hf
  | reopen policy order =>
    obtain ⟨J', lp, io, r, _, _, _, _, _, _, _, e2, _⟩ := reopen_eval g hB h hw policy order
    rw [e2] at hf hd
    rw [← List.cons_append] at hf hd
    rw [hasDS_append, Bool.or_eq_false_iff] at hd
    rcases List.mem_append.mp hf with hf | hf
    · simp at hf
    · exact cePat_noCreate ((cePat_effs g).1 lp order) hd.2 f hf

/-- **inside the window**: the older files still on the disk, the real log writing on and restarting -/
theorem vwinA (g : Geom) (hB : g.B ≤ 65542) (lo : List Nat) (evs : List Ev) :
    ∀ {l : Log} {D : Image} {J Jv : List JE} {Dv : Image},
    CInvX g l J D → (∀ j ∈ J, C07.WF j.e) →
    CInvA g (virt lo l) Jv Dv → (∀ j ∈ Jv, C07.WF j.e) → (∀ f ∈ lo, f ≤ l.cur) →
    D = Dv.filter (fun kv => !lo.contains kv.1) →
    (∀ j ∈ jourX g l D evs, C07.WF j.e) → TornEffs (effsX g l D evs) →
    ∀ n, hasDS ((effsX g l D evs).take n) = false → ∀ policy, ∃ (i : Nat) (lp : Log) (e0 : List Effect) (io : Nat),
      i ≤ evs.length ∧
      recoverPre g (applyOsOps Dv (directOps ((effsX g l D evs).take n))) policy none = .ok (lp, e0, io) ∧
      AbsEq lp.queues (logX g l D (evs.take i)).queues := by
  induction evs with
  | nil =>
    intro l D J Jv Dv _ _ hv hwv _ _ _ _ n _ policy
    obtain ⟨J', lp, io, a1, _, _, a6⟩ := cinva_open g hB hv hwv policy
    exact ⟨0, lp, _, io, Nat.le_refl _, by simpa [effsX, directOps, applyOsOps] using a1, a6⟩
  | cons e es ih =>
    intro l D J Jv Dv hc hw hv hwv hlo hrel hwf htorn n hn policy
    simp only [jourX, effsX] at hwf htorn hn ⊢
    have hwe := fun j hj => hwf j (List.mem_append_left _ hj)
    obtain ⟨⟨J1, hc1, hw1⟩, _, _, _⟩ := ev_facts g hB hc hw e hwe (torn_left htorn)
    obtain ⟨ha, hb⟩ := virt_ev g hB lo hc hw hv hwv hlo hrel e hwe (torn_left htorn)
    refine take_append_cases (Dv := Dv) (P := fun X => ∃ (i : Nat) (lp : Log) (e0 : List Effect) (io : Nat),
        i ≤ (e :: es).length ∧ recoverPre g X policy none = .ok (lp, e0, io) ∧
        AbsEq lp.queues (logX g l D ((e :: es).take i)).queues)
      (fun p hp => state_first (ha p hp policy)) (fun hds q hq => ?_) n hn
    obtain ⟨Jv', hv', hwv', hlo'⟩ := hb hds
    have hrel' : evDisk g l D e = (applyOsOps Dv (directOps (evEffs g l D e))).filter
        (fun kv => !lo.contains kv.1) := by
      unfold evDisk
      rw [filter_applyOsOps (fun k => !lo.contains k) _ Dv (ev_noCreate g hB hc hw e hds), ← hrel]
    exact state_later (ih hc1 hw1 hv' hwv' hlo' hrel' (fun j hj => hwf j (List.mem_append_right _ hj))
      (torn_right htorn) q hq policy)

theorem vrecA (g : Geom) (hB : g.B ≤ 65542) (u : Nat) (evs : List Ev) :
    ∀ {l : Log} {J : List JE} {D : Image},
    CInvX g l J D → (∀ j ∈ J, C07.WF j.e) → (∀ j ∈ jourX g l D evs, C07.WF j.e) → TornEffs (effsX g l D evs) →
    ∀ n policy, ∃ (i : Nat) (lp : Log) (e0 : List Effect) (io : Nat), i ≤ evs.length ∧
      recoverPre g (applyOsOps D (directOps (skipLate u ((effsX g l D evs).take n)))) policy none = .ok (lp, e0, io) ∧
      AbsEq lp.queues (logX g l D (evs.take i)).queues := by
  induction evs with
  | nil =>
    intro l J D h hw _ _ n policy
    obtain ⟨J', lp, io, a1, _, _, a6, _, _⟩ := open_okX g hB h hw policy
    exact ⟨0, lp, _, io, Nat.le_refl _, by simpa [effsX, skipLate_nil, directOps, applyOsOps] using a1, a6⟩
  | cons e es ih =>
    intro l J D h hw hwf htorn n policy
    simp only [jourX, effsX] at hwf htorn ⊢
    have hwe := fun j hj => hwf j (List.mem_append_left _ hj)
    obtain ⟨⟨J1, hc1, hw1⟩, _, _, hcut⟩ := ev_facts g hB h hw e hwe (torn_left htorn)
    obtain ⟨A, U, S, hL, hA, hS, hAU, hgc⟩ := ev_struct g hB h hw e hwe
    have hwfR := fun j hj => hwf j (List.mem_append_right _ hj)
    have htornR := torn_right htorn
    by_cases hle : n ≤ (evEffs g l D e).length
    · -- inside the event: a cut state of the real effects
      rw [List.take_append_of_le_length hle]
      obtain ⟨q, hq⟩ := skipLate_event u D A U S hA hS n
      rw [← hL] at hq
      rw [hq]
      exact state_first ((hcut false _ (CutW.of_take false _ q D)).xres policy)
    · rw [List.take_append, List.take_of_length_le (Nat.le_of_lt (Nat.not_le.mp hle))]
      generalize n - (evEffs g l D e).length = n'
      rw [hL]
      rcases skipLate_after_event u D A U S _ hA hS (noDS_noUnl g hB es hc1 hw1 hwfR htornR n') with
        h | ⟨hds, hu, h⟩
      · -- the event has happened in full: the rest of the history, from the real disk
        rw [h, ← hL]
        exact state_later (ih hc1 hw1 hwfR htornR n' policy)
      · -- the window: the files `U.drop u` are still there
        rw [h]
        obtain ⟨Jv, hcv, hwv⟩ := hgc u (Nat.le_of_lt hu)
        have hlo : ∀ f ∈ U.drop u, f ≤ (evLog g l D e).cur := fun f hf =>
          Nat.le_of_lt ((List.pairwise_append.mp hcv.jinv.h.files.sorted).2.2 f hf _ hc1.jinv.h.files.cur_mem)
        have hrel : evDisk g l D e =
            (applyOsOps (applyOsOps D (directOps A)) ((U.take u).map OsOp.unlink)).filter
              (fun kv => !(U.drop u).contains kv.1) := by
          have hU : U.map OsOp.unlink = (U.take u).map OsOp.unlink ++ (U.drop u).map OsOp.unlink := by
            rw [← List.map_append, List.take_append_drop]
          unfold evDisk
          rw [hL, directOps_append, directOps_append, applyOsOps_append, applyOsOps_append, syncL_apply hS,
            directOps_unlinks, ← unlinks_filter, hU, applyOsOps_append]
        exact state_later (vwinA g hB (U.drop u) es (l := evLog g l D e) (D := evDisk g l D e)
          hc1 hw1 (CInvA.of_cinvx hcv) hwv hlo hrel hwfR htornR n' hds policy)

end MRL.PDA

namespace MRL.PDC
open H Buf L PX

/-- `PDA.vrecA` for histories satisfying `noReopenPend`; the condition is not used -/
theorem vrec (g : Geom) (hB : g.B ≤ 65542) (u : Nat) (evs : List Ev) :
    ∀ {l : Log} {J : List JE} {D : Image} (p : Bool),
    CInvX g l J D → (∀ j ∈ J, C07.WF j.e) → (∀ j ∈ jourX g l D evs, C07.WF j.e) → TornEffs (effsX g l D evs) →
    noReopenPend g l D p evs = true →
    ∀ n policy, ∃ (i : Nat) (lp : Log) (e0 : List Effect) (io : Nat), i ≤ evs.length ∧
      recoverPre g (applyOsOps D (directOps (skipLate u ((effsX g l D evs).take n)))) policy none = .ok (lp, e0, io) ∧
      AbsEq lp.queues (logX g l D (evs.take i)).queues :=
  fun _ h hw hwf htorn _ => PDA.vrecA g hB u evs h hw hwf htorn

end MRL.PDC
