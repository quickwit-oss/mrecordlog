/-
The block sequence `blocksOf` delivers for an image made of full-size files `F, F+1, …` is the
block sequence of the concatenated stream; hence what `open` reads on such files followed by an
optional empty one, and `recoverPre` from the scan of the stream.
-/
import MRL.Proofs.GRead
import MRL.Proofs.RecIo

namespace MRL.G
open Codec

theorem fileBlocks_eq (g : Geom) (f fc : Nat) (content : Bytes) (n i : Nat) :
    fileBlocks g f (content.drop (i * g.B)) fc i n =
      (List.range' i n).map fun i' =>
        (⟨f, i', (content.drop (i' * g.B)).take g.B, if i' = 0 then fc else 1⟩ : Blk) := by
  have h := fileBlocks_map g f fc content 0 n i
  simp only [Nat.zero_add] at h
  exact h

theorem fileBytes_div (g : Geom) : g.fileBytes / g.B = g.K := by
  unfold Geom.fileBytes
  exact Nat.mul_div_cancel_left _ (Torn.Bpos g)

/-- blocks of one full file inside the stream `pre ++ content ++ post`; first cost 3 as `blocksOf`
    passes it (`pending + 2`, `pending = 1`) -/
theorem fileBlocks_stream (g : Geom) (F j : Nat) (pre content post : Bytes)
    (hpre : pre.length = j * g.fileBytes) (hc : content.length = g.fileBytes) :
    fileBlocks g (F + j) content 3 0 g.K = blksFrom g F (pre ++ content ++ post) (j * g.K) g.K := by
  have h := fileBlocks_eq g (F + j) 3 content g.K 0
  simp only [Nat.zero_mul, List.drop_zero] at h
  rw [h]
  unfold blksFrom
  rw [List.range'_eq_map_range, List.range'_eq_map_range, List.map_map, List.map_map]
  apply List.map_congr_left
  intro i hi
  rw [List.mem_range] at hi
  simp only [Function.comp, Nat.zero_add, blkAt]
  have h1 : (j * g.K + i) / g.K = j := by
    rw [Nat.mul_comm, Nat.mul_add_div g.hK, Nat.div_eq_of_lt hi, Nat.add_zero]
  have h2 : (j * g.K + i) % g.K = i := by
    rw [Nat.mul_comm, Nat.mul_add_mod, Nat.mod_eq_of_lt hi]
  have hle : i * g.B + g.B ≤ g.fileBytes := by
    unfold Geom.fileBytes; rw [Nat.mul_comm g.B g.K, ← Nat.succ_mul]; exact Nat.mul_le_mul_right _ hi
  have h3 : ((pre ++ content ++ post).drop ((j * g.K + i) * g.B)).take g.B =
      (content.drop (i * g.B)).take g.B := by
    have e : (j * g.K + i) * g.B = pre.length + i * g.B := by
      rw [hpre, Nat.add_mul]; unfold Geom.fileBytes; rw [Nat.mul_comm g.B g.K, Nat.mul_assoc]
    rw [e, List.append_assoc, ← List.drop_drop, List.drop_left' rfl, List.drop_append_of_le_length (by
      rw [hc]; exact Nat.le_trans (Nat.le_add_right _ _) hle)]
    rw [List.take_append_of_le_length]
    rw [List.length_drop, hc]
    exact Nat.le_sub_of_add_le' hle
  rw [h1, h2, h3]

theorem blocksOf_imgOf (g : Geom) (F : Nat) : ∀ (cs : List Bytes) (j : Nat) (pre : Bytes),
    (∀ c ∈ cs, c.length = g.fileBytes) → pre.length = j * g.fileBytes →
    (blocksOf g (imgOf (F + j) cs) 1).1 = blksFrom g F (pre ++ cs.flatten) (j * g.K) (cs.length * g.K)
  | [], j, pre, _, _ => by simp [imgOf, blocksOf, blksFrom]
  | c :: cs, j, pre, hfull, hpre => by
    have hc : c.length = g.fileBytes := hfull c List.mem_cons_self
    have ih := blocksOf_imgOf g F cs (j + 1) (pre ++ c)
      (fun c' hc' => hfull c' (List.mem_cons_of_mem _ hc'))
      (by rw [List.length_append, hpre, hc, Nat.add_mul, Nat.one_mul])
    have hK : ¬ (g.K = 0) := Nat.pos_iff_ne_zero.mp g.hK
    simp only [imgOf, blocksOf, hc, fileBytes_div, hK, if_false]
    rw [Nat.add_assoc F j 1]
    rcases hb : blocksOf g (imgOf (F + (j + 1)) cs) 1 with ⟨bs, trail⟩
    rw [hb] at ih
    simp only at ih ⊢
    rw [ih, fileBlocks_stream g F j pre c cs.flatten hpre hc]
    simp only [List.flatten_cons, List.append_assoc, List.length_cons]
    unfold blksFrom
    rw [← List.map_append]
    congr 1
    rw [Nat.succ_mul j, Nat.succ_mul cs.length, Nat.add_comm (cs.length * g.K), List.range'_append_1]

end MRL.G

namespace MRL.H

theorem blocksOf_snoc_empty (g : Geom) (f : Nat) : ∀ (img : Image) (p : Nat),
    (blocksOf g (img ++ [(f, [])]) p).1 = (blocksOf g img p).1 := by
  intro img
  induction img with
  | nil => intro p; simp [blocksOf]
  | cons fc img ih =>
    intro p
    obtain ⟨f', c⟩ := fc
    simp only [List.cons_append, blocksOf]
    split
    · exact ih _
    · rcases h1 : blocksOf g (img ++ [(f, [])]) 1 with ⟨bs, tr⟩
      rcases h2 : blocksOf g img 1 with ⟨bs', tr'⟩
      have := ih 1
      rw [h1, h2] at this
      simp only at this ⊢
      rw [this]

end MRL.H

namespace MRL.G
open Codec H

theorem blocks_disk (g : Geom) (F : Nat) (cs : List Bytes) (hne : cs ≠ [])
    (hfull : ∀ c ∈ cs, c.length = g.fileBytes) (x : Bool) (f' : Nat) :
    ∃ m trail io, (m + 1) * g.B = cs.flatten.length ∧
      prepareImage g (imgOf F cs ++ L.xtra x f') = (imgOf F cs ++ L.xtra x f', [.ensureLen F g.fileBytes]) ∧
      blocksOf g (prepareImage g (imgOf F cs ++ L.xtra x f')).1 1 =
        (blkAt g F cs.flatten 0 :: blksFrom g F cs.flatten 1 m, trail) ∧
      scanBlocks g none trail (blkAt g F cs.flatten 0).cost (blkAt g F cs.flatten 0) 0
          (blksFrom g F cs.flatten 1 m) =
        some ((scanAt g F cs.flatten (cs.length * g.K) 0 0).1, (scanAt g F cs.flatten (cs.length * g.K) 0 0).2, io) := by
  obtain ⟨c0, cs', hcs⟩ := List.exists_cons_of_ne_nil hne
  have hc0 : c0.length = g.fileBytes := hfull c0 (by rw [hcs]; exact List.mem_cons_self)
  have hprep : prepareImage g (imgOf F cs ++ L.xtra x f') =
      (imgOf F cs ++ L.xtra x f', [.ensureLen F g.fileBytes]) := by
    rw [hcs]
    simp only [imgOf, List.cons_append, prepareImage]
    rw [if_neg (Nat.not_lt.mpr (hc0 ▸ B_le_fileBytes g))]
  have hblocks : (blocksOf g (imgOf F cs ++ L.xtra x f') 1).1 = blksFrom g F cs.flatten 0 (cs.length * g.K) := by
    have h0 := blocksOf_imgOf g F cs 0 [] hfull (by simp)
    simp only [Nat.add_zero, List.nil_append, Nat.zero_mul] at h0
    cases x
    · simpa [L.xtra] using h0
    · simp only [L.xtra, if_true]
      rw [blocksOf_snoc_empty]; exact h0
  have hNpos : 0 < cs.length * g.K := Nat.mul_pos (List.length_pos_iff.mpr hne) g.hK
  obtain ⟨m, hm⟩ : ∃ m, cs.length * g.K = m + 1 := Nat.exists_eq_succ_of_ne_zero (Nat.ne_of_gt hNpos)
  rcases hbo : blocksOf g (imgOf F cs ++ L.xtra x f') 1 with ⟨bs, trail⟩
  rw [hbo] at hblocks
  simp only at hblocks
  rw [hm, blksFrom_succ] at hblocks
  obtain ⟨io, hio⟩ := scanBlocks_eq_scanB g trail (blkAt g F cs.flatten 0).cost (blkAt g F cs.flatten 0) 0
    (blksFrom g F cs.flatten 1 m)
  refine ⟨m, trail, io, ?_, hprep, by rw [hprep, hbo, hblocks], ?_⟩
  · rw [flatten_length_full _ _ hfull, ← hm, Nat.mul_assoc]; unfold Geom.fileBytes; rw [Nat.mul_comm g.K]
  · rw [hio]; unfold scanAt; rw [hm, Nat.zero_add, Nat.add_sub_cancel]

end MRL.G

namespace MRL.L
open G H

theorem recoverPre_scanX (g : Geom) (F : Nat) (cs : List Bytes) (hne : cs ≠ [])
    (hfull : ∀ c ∈ cs, c.length = g.fileBytes) (x : Bool) (X : Image)
    (hX : X = imgOf F cs ++ xtra x (F + cs.length)) (policy : Policy)
    (evs : List RdEv) (e : EndPos) (qs : MemQueues)
    (hscan : scanAt g F cs.flatten (cs.length * g.K) 0 0 = (evs, e))
    (hreplay : replay [] (assemble { within := false, buf := [], attr := F } evs) = some qs) :
    ∃ io, recoverPre g X policy none =
      .ok (⟨X.map (·.1), e.file, e.idx * g.B + e.cursor, qs, policy⟩, [.ensureLen F g.fileBytes], io) := by
  obtain ⟨m, trail, io, _, hprep, hbo, hio⟩ := blocks_disk g F cs hne hfull x (F + cs.length)
  rw [← hX] at hprep hbo
  rw [hscan] at hio
  refine ⟨io, ?_⟩
  rw [Rec.recoverPre_cons g X policy none _ _ trail hbo, hio]
  simp only [ioFails, Bool.false_eq_true, if_false, Rec.finishPre, hreplay, hprep,
    show (blkAt g F cs.flatten 0).file = F by simp [blkAt]]

end MRL.L
