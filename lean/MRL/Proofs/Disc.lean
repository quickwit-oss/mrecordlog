/-
A discipline on effect lists: a partial automaton `step : σ → Effect → Option σ` (`none` = the effect is
refused). `run` folds it over a list; a list is accepted iff every prefix is (`run_take`), and what holds
along an accepted list is shown by induction on the effects appended (`run_induct`). `Obeys step M`: the
discipline accepts the effects from every state that matches the log before (`M`) and ends in one that
matches the log after; it is closed under `[]` and `++`, which is what the inductions along the call tree
(`Step.Along`, `Step.AlongCall`) and along runs ask of a relation. `Each es Q`: every effect of the list, with the
effects before it, satisfies `Q` — the form of the patterns asked of the effects of a history.
-/
import MRL.Model.Log

namespace MRL.Disc

variable {σ : Type}

def run (step : σ → Effect → Option σ) : σ → List Effect → Option σ
  | s, [] => some s
  | s, e :: es => (step s e).bind fun s' => run step s' es

variable {step : σ → Effect → Option σ}

theorem run_append (a b : List Effect) : ∀ s, run step s (a ++ b) = (run step s a).bind fun s' => run step s' b := by
  induction a with
  | nil => intro s; rfl
  | cons e es ih =>
    intro s
    simp only [List.cons_append, run]
    cases step s e with
    | none => rfl
    | some s' => simp [ih]

theorem run_snoc (s : σ) (es : List Effect) (e : Effect) :
    run step s (es ++ [e]) = (run step s es).bind fun s' => step s' e := by
  rw [run_append]
  cases run step s es with
  | none => rfl
  | some s' => simp [run]

theorem run_take {es : List Effect} {s se : σ} (h : run step s es = some se) (n : Nat) :
    ∃ sn, run step s (es.take n) = some sn := by
  rw [← List.take_append_drop n es, run_append] at h
  cases h1 : run step s (es.take n) with
  | none => rw [h1] at h; cases h
  | some sn => exact ⟨sn, rfl⟩

theorem run_at {es : List Effect} {s se : σ} (h : run step s es = some se) {n : Nat} {e : Effect}
    (he : es[n]? = some e) :
    ∃ sn s1, run step s (es.take n) = some sn ∧ step sn e = some s1 ∧ run step s (es.take (n + 1)) = some s1 := by
  have htk : es.take (n + 1) = es.take n ++ [e] := by rw [List.take_add_one, he]; rfl
  obtain ⟨s1, h1⟩ := run_take h (n + 1)
  rw [htk, run_snoc] at h1
  cases h0 : run step s (es.take n) with
  | none => rw [h0] at h1; cases h1
  | some sn => rw [h0] at h1; exact ⟨sn, s1, rfl, h1, by rw [htk, run_snoc, h0]; exact h1⟩

theorem run_induct {s : σ} {M : List Effect → σ → Prop} (h0 : M [] s)
    (hs : ∀ es e sn s1, run step s es = some sn → step sn e = some s1 → M es sn → M (es ++ [e]) s1) :
    ∀ es se, run step s es = some se → M es se := by
  intro es
  rw [← List.reverse_reverse es]
  induction es.reverse with
  | nil => intro se h; injection h with h; subst h; exact h0
  | cons e r ih =>
    intro se h
    rw [List.reverse_cons] at h ⊢
    rw [run_snoc] at h
    cases h1 : run step s r.reverse with
    | none => rw [h1] at h; cases h
    | some sn => rw [h1] at h; exact hs _ e sn se h1 h (ih sn h1)

def Obeys (step : σ → Effect → Option σ) (M : σ → Log → Prop) (l : Log) (es : List Effect) (l' : Log) : Prop :=
  ∀ s, M s l → ∃ s', run step s es = some s' ∧ M s' l'

variable {M : σ → Log → Prop}

theorem Obeys.nil (l : Log) : Obeys step M l [] l := fun s h => ⟨s, rfl, h⟩

theorem Obeys.trans {a b c : Log} {x y : List Effect} (h1 : Obeys step M a x b) (h2 : Obeys step M b y c) :
    Obeys step M a (x ++ y) c := fun s h => by
  obtain ⟨s1, q1, p1⟩ := h1 s h
  obtain ⟨s2, q2, p2⟩ := h2 s1 p1
  exact ⟨s2, by rw [run_append, q1]; exact q2, p2⟩

def Each (es : List Effect) (Q : List Effect → Effect → Prop) : Prop := ∀ i e, es[i]? = some e → Q (es.take i) e

theorem Each.nil (Q : List Effect → Effect → Prop) : Each [] Q := fun i e h => by simp at h

/-- `b` is read behind `a`: what holds of a prefix of `b` is lifted over `a` -/
theorem Each.append {a b : List Effect} {Q Qb : List Effect → Effect → Prop} (ha : Each a Q) (hb : Each b Qb)
    (hlift : ∀ pre e, Qb pre e → Q (a ++ pre) e) : Each (a ++ b) Q := by
  intro i e hi
  by_cases hlt : i < a.length
  · rw [List.getElem?_append_left hlt] at hi
    rw [List.take_append_of_le_length (Nat.le_of_lt hlt)]
    exact ha i e hi
  · have hge := Nat.le_of_not_lt hlt
    rw [List.getElem?_append_right hge] at hi
    rw [List.take_append, List.take_of_length_le hge]
    exact hlift _ e (hb _ e hi)

end MRL.Disc
