/-
Exact equations of `step` for the calls that write (`Step.step_eq` on one case),
monotonicity of the current file, the unlinks of an effect list, and that the GC pass of `open` leaves
the queues alone.
-/
import MRL.Proofs.StepLemmas
import MRL.Proofs.RecIo

namespace MRL.Step
open MRL.Log

variable (g : Geom) (l : Log)

theorem step_create_eq (q : Bytes) (tick : Bool) (order : List Bytes) (hc : l.queues.contains q = false) :
    step g l (.create q) tick order =
      ({ (l.writeEntry g (.touch q 0)).1 with queues := (l.writeEntry g (.touch q 0)).1.queues.set q {} },
       .created (l.writeEntry g (.touch q 0)).2.2,
       (l.writeEntry g (.touch q 0)).2.1 ++ (l.writeEntry g (.touch q 0)).1.persistEffects .flushAndFsync) := by
  rw [step_eq, (Does.create q hc).act_eq]
  simp [isGcCall, tailSync, isForced, writeEntry_queues]
  rfl

theorem step_delete_eq (q : Bytes) (mq : MemQueue) (tick : Bool) (order : List Bytes)
    (hq : l.queues.get? q = some mq) :
    step g l (.delete q) tick order =
      let r1 := l.writeEntry g (.delete q mq.nextPosition)
      let r3 := runGc g { r1.1 with queues := r1.1.queues.remove q } order
      (r3.1, .deleted (r1.2.2 + r3.2.2), r1.2.1 ++ r3.2.1 ++ r3.1.persistEffects .flushAndFsync) := by
  rw [step_eq, (Does.delete q mq hq).act_eq]
  simp [isGcCall, tailSync, isForced, writeEntry_queues]

theorem step_truncate_eq (q : Bytes) (p : Nat) (mq : MemQueue) (tick : Bool) (order : List Bytes)
    (hq : l.queues.get? q = some mq) :
    step g l (.truncate q p) tick order =
      let r1 := l.writeEntry g (.truncate q p)
      let r3 := runGc g { r1.1 with queues := r1.1.queues.set q (mq.truncateHead p).1 } order
      (r3.1, .truncated (mq.truncateHead p).2 (r1.2.2 + r3.2.2), r1.2.1 ++ r3.2.1 ++ r3.1.policyEffects tick) := by
  rw [step_eq, (Does.truncate q p mq hq).act_eq]
  simp [isGcCall, tailSync, isForced, writeEntry_queues]

theorem step_append_eq (q : Bytes) (mq mq' : MemQueue) (pos? : Option Nat) (pls : List Bytes) (pos : Nat)
    (tick : Bool) (order : List Bytes) (hq : l.queues.get? q = some mq) (hat : appendAt mq pos? pls = .ok pos)
    (hall : appendAll mq l.cur (numberFrom pos pls) = some mq') :
    step g l (.append q pos? pls) tick order =
      let r1 := l.writeEntry g (.append q pos (numberFrom pos pls))
      ({ r1.1 with queues := r1.1.queues.set q mq' }, .appended (some (pos + pls.length - 1)) r1.2.2,
       r1.2.1 ++ r1.1.policyEffects tick) := by
  rw [step_eq, (Does.append q mq mq' pos? pls pos hq hat hall).act_eq]
  simp [isGcCall, tailSync, isForced, writeEntry_queues]
  rfl

theorem along_cur_le : Along g fun l _ _ l' => l.cur ≤ l'.cur :=
  .of_shapes (fun _ => Nat.le_refl _) Nat.le_trans (fun _ _ _ _ => Nat.le_refl _)
    (fun _ _ _ _ hn => Nat.le_of_lt (nextFile_some hn).2)
    (fun _ _ _ _ => Nat.le_succ _)

theorem writeBuf_cur_le (buf : Bytes) : l.cur ≤ (writeBuf g l buf).1.cur := (along_cur_le g).buf l buf

theorem writeBufs_cur_le (bufs : List Bytes) (l : Log) : l.cur ≤ (writeBufs g l bufs).1.cur :=
  (along_cur_le g).writeBufs bufs l

theorem writeEntry_cur_le (e : Entry) : l.cur ≤ (l.writeEntry g e).1.cur :=
  (along_cur_le g).writeEntry l e

theorem writeTouches_cur_le (names : List Bytes) (l : Log) : l.cur ≤ (writeTouches g l names).1.cur :=
  (along_cur_le g).writeTouches names l

theorem alongCall_cur_le : AlongCall g fun l _ _ l' => l.cur ≤ l'.cur :=
  (along_cur_le g).call (fun _ _ => Nat.le_refl _) (fun _ _ => Nat.le_refl _) (fun _ _ => Nat.le_refl _)

theorem runGc_cur_le (order : List Bytes) : l.cur ≤ (runGc g l order).1.cur := (alongCall_cur_le g).runGc l order

theorem step_cur_le (c : Call) (tick : Bool) (order : List Bytes) : l.cur ≤ (Log.step g l c tick order).1.cur :=
  (alongCall_cur_le g).step l c tick order

def unlinked : List Effect → List Nat
  | [] => []
  | .unlink f :: es => f :: unlinked es
  | _ :: es => unlinked es

theorem mem_unlinked {es : List Effect} {f : Nat} : f ∈ unlinked es ↔ Effect.unlink f ∈ es := by
  induction es with
  | nil => simp [unlinked]
  | cons e es ih => cases e <;> simp [unlinked, ih]

theorem unlinked_append (a b : List Effect) : unlinked (a ++ b) = unlinked a ++ unlinked b := by
  induction a with
  | nil => rfl
  | cons e es ih => cases e <;> simp [unlinked, ih]

theorem unlinked_map (fs : List Nat) : unlinked (fs.map Effect.unlink) = fs := by
  induction fs with
  | nil => rfl
  | cons f fs ih => simp [unlinked, ih]

theorem unlinked_persist (a : PersistAction) : unlinked (l.persistEffects a) = [] := by
  cases a <;> rfl

theorem unlinked_tailSync (c : Call) (tick : Bool) : unlinked (tailSync l c tick) = [] := by
  rcases tailSync_isSync l c tick with h | ⟨a, h⟩ <;> rw [h]
  · rfl
  · exact unlinked_persist l a

theorem along_unlinked : Along g fun _ es _ _ => unlinked es = [] :=
  .of_shapes (fun _ => rfl) (fun h1 h2 => by rw [unlinked_append, h1, h2]; rfl) (fun _ _ _ _ => rfl)
    (fun _ _ _ _ _ => rfl) (fun _ _ _ _ => rfl)

theorem writeEntry_unlinked (e : Entry) : unlinked (l.writeEntry g e).2.1 = [] :=
  (along_unlinked g).writeEntry l e

theorem writeTouches_unlinked (names : List Bytes) (l : Log) : unlinked (writeTouches g l names).2.1 = [] :=
  (along_unlinked g).writeTouches names l

theorem recover_queues {img : Image} {policy : Policy} {order : List Bytes} {failAt : Option Nat} {lp : Log}
    {e0 : List Effect} {io : Nat} {r : Recovered} (hpre : recoverPre g img policy failAt = .ok (lp, e0, io))
    (hrec : recover g img policy order failAt = .ok r) : r.log.queues = lp.queues := by
  obtain ⟨lp', e0', io', hpre', hlog, _⟩ := recover_ok g img policy order failAt r hrec
  rw [hpre] at hpre'
  cases hpre'
  rw [hlog, runGc_queues]

theorem prepareImage_unlinked (img : Image) : unlinked (prepareImage g img).2 = [] := by
  unfold prepareImage
  split
  · rfl
  · split <;> rfl

theorem runGc_single (g : Geom) (l : Log) (order : List Bytes) (f : Nat) (h : l.files = [f]) :
    runGc g l order = (l, [], 0) ∧ gcJ g l order = [] := by
  constructor <;> simp [runGc, gcJ, h]

end MRL.Step
