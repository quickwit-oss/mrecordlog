/-
The reader over a tape of items laid out in a stream cut into blocks, whatever file and index the
blocks are given (`Torn.scanFrom`): good frames are delivered, a junk slot gives one `corrupt`
event; after a torn header the reader goes on at the next block, otherwise right after the slot.
`scanFrom_items` is the one induction over the tape; `scanFrom_tape` adds the two ways a tape ends:
zeros, or a torn header in the last block (the residue). A single file, the files of a disk, clean
tapes (`plain`) and tapes with junk are instances.
-/
import MRL.Proofs.LItems

namespace MRL.L
open Codec G Torn

theorem flatJ_cons_pos (g : Geom) (c : Nat) (a : AItm) (ais : List AItm) (ha : RawLen a) (R : Bytes) :
    0 < (flatJ g c (a :: ais) ++ R).length := by
  simp only [flatJ, List.length_append, slot_length ha]; omega

theorem hdrPos_cursor (g : Geom) (k c : Nat) (hc : c < g.B) :
    hdrPos g (k * g.B + c) = k * g.B + c + padLen g c := by
  rw [hdrPos_eq_pad, Codec.mod_of_pos g k c hc]

theorem nextPos_cursor (g : Geom) (k c len : Nat) (hc : c < g.B) :
    nextPos g (k * g.B + c) len = k * g.B + c + padLen g c + 7 + len := by
  unfold nextPos; rw [hdrPos_cursor g k c hc]

theorem slot_cases {g : Geom} {c e L : Nat} {a : AItm} (hj : JunkOK g c e L a) :
    (∃ x : Raw, x.2 = a.1.2 ∧ x.1.length = 4 ∧ x.bytes = slot a ∧ tagEvs a.1.1 [x.ev] = [evJ a]) ∨
    (∃ hd : Bytes, slot a = hd ++ zeros (7 + a.1.2.2.length - hd.length) ∧ evJ a = RdEv.corrupt a.1.1 ∧
      hd.length ≤ 6 ∧ isAllZero hd = false ∧ c + 7 + a.1.2.2.length = g.B ∧ e < L) := by
  obtain ⟨⟨f, t, p⟩, raw⟩ := a
  cases raw with
  | none => exact Or.inl ⟨good (t, p), rfl, length_leBytes _ _, good_bytes _, by rw [good_ev]; rfl⟩
  | some r =>
    rcases hj r rfl with ⟨crc, h4, hr, hev⟩ | ⟨hd, hl, hnz, hr, hend, he⟩
    · exact Or.inl ⟨(crc, t, p), rfl, h4, hr.symm, by rw [hev]; rfl⟩
    · exact Or.inr ⟨hd, hr, rfl, hl, hnz, hend, he⟩

/-- the tags are the files of the blocks the headers lie in -/
def TaggedB (g : Geom) (blk : Nat → Blk) : Nat → List TFrm → Prop
  | _, [] => True
  | p, a :: rest => a.1 = (blk (hdrPos g p / g.B)).file ∧ TaggedB g blk (nextPos g p a.2.2.length) rest

theorem taggedB_const (g : Geom) (blk : Nat → Blk) (f : Nat) (hf : ∀ k, (blk k).file = f) (l : List TFrm)
    (h : ∀ a ∈ l, a.1 = f) : ∀ p, TaggedB g blk p l := by
  induction l with
  | nil => intro p; trivial
  | cons a l ih =>
    intro p
    exact ⟨(h a List.mem_cons_self).trans (hf _).symm, ih (fun b hb => h b (List.mem_cons_of_mem _ hb)) _⟩

section
variable (g : Geom) (blk : Nat → Blk) (S : Bytes) (N : Nat)

/-- the end position `scanFrom_zeros` gives, reached from `(k', c')`, is `stopPos` of the offset
    `k' * g.B + c'` -/
theorem stopPos_of_zeros (k' c' ke ce : Nat) (hk : k' < N) (hc : c' ≤ g.B)
    (h : (ke, ce) = if g.B - c' < 7 ∧ k' + 1 < N then (k' + 1, 0) else (k', c')) :
    ke < N ∧ (ce < g.B ∨ (ce = g.B ∧ ke + 1 = N)) ∧ ke * g.B + ce = stopPos g N (k' * g.B + c') := by
  have hB7 := seven_lt_B g
  have hBpos := Bpos g
  have hlt : ∀ j, (j * g.B < N * g.B ↔ j < N) := fun j =>
    ⟨Nat.lt_of_mul_lt_mul_right, fun h => Nat.mul_lt_mul_of_pos_right h hBpos⟩
  unfold stopPos
  rcases Nat.lt_or_eq_of_le hc with hc | hc
  · -- the cursor is inside block `k'`
    rw [Codec.mod_of_pos g k' c' hc]
    by_cases hbad : g.B - c' < 7
    · simp only [hdrPos_pad g k' c' (Nat.le_of_lt hc) hbad, Nat.add_zero, hlt]
      by_cases hk1 : k' + 1 < N
      · rw [if_pos ⟨hbad, hk1⟩] at h ⊢
        cases h; exact ⟨hk1, Or.inl hBpos, rfl⟩
      · rw [if_neg (fun h => hk1 h.2)] at h ⊢
        cases h; exact ⟨hk, Or.inl hc, rfl⟩
    · rw [if_neg (fun h => hbad h.1)] at h ⊢
      cases h; exact ⟨hk, Or.inl hc, rfl⟩
  · -- the cursor is the end of block `k'`
    subst hc
    have hE : k' * g.B + g.B = (k' + 1) * g.B := by rw [Nat.add_mul, Nat.one_mul]
    rw [hE, Nat.mul_mod_left, if_neg (fun h => Nat.not_lt.mpr (Nat.le_of_lt hB7) h.1)]
    by_cases hk1 : k' + 1 < N
    · rw [if_pos ⟨by rw [Nat.sub_self]; decide, hk1⟩] at h
      cases h; exact ⟨hk1, Or.inl hBpos, rfl⟩
    · rw [if_neg (fun h => hk1 h.2)] at h
      cases h; exact ⟨hk, Or.inr ⟨rfl, Nat.le_antisymm hk (Nat.le_of_not_lt hk1)⟩, hE⟩

variable (hblk : ∀ k, (blk k).data = (S.drop (k * g.B)).take g.B)
include hblk

/-- `c' = g.B`: the slot ends with its block, and the reader stands at the very end of that block -/
theorem scanFrom_item (hB : g.B ≤ 65542) (hS : S.length = N * g.B)
    (k c : Nat) (hc : c < g.B) (a : AItm) (R : Bytes)
    (hfit : a.1.2.2.length ≤ maxFrameLen g c)
    (htag : a.1.1 = (blk (hdrPos g (k * g.B + c) / g.B)).file)
    (hj : JunkOK g (hdrPos g (k * g.B + c) % g.B) (nextPos g (k * g.B + c) a.1.2.2.length) (N * g.B) a)
    (hT : S.drop (k * g.B + c) = zeros (padLen g c) ++ slot a ++ R) :
    ∃ k' c', k' < N ∧ c' ≤ g.B ∧ k' * g.B + c' = nextPos g (k * g.B + c) a.1.2.2.length ∧
      (c' = frameEndCursor g c a.1.2.2.length ∨ (c' = g.B ∧ frameEndCursor g c a.1.2.2.length = 0)) ∧
      scanFrom g blk N k c = (evJ a :: (scanFrom g blk N k' c').1, (scanFrom g blk N k' c').2) := by
  have hfec : frameEndCursor g c a.1.2.2.length = nextPos g (k * g.B + c) a.1.2.2.length % g.B := by
    have := frameEndCursor_pos g (k * g.B + c) a.1.2.2.length (by rw [Codec.mod_of_pos g k c hc]; exact hfit)
    rwa [Codec.mod_of_pos g k c hc] at this
  have hsl := slot_length hj.rawLen
  -- the header lies on the tape: skip the padding, whatever it holds
  have hlt : hdrPos g (k * g.B + c) < N * g.B := by
    have := congrArg List.length hT
    rw [List.length_drop, hS, List.length_append, List.length_append, length_zeros, hsl] at this
    rw [hdrPos_cursor g k c hc]; omega
  obtain ⟨kh, ch, hkh, g2, g3, g4⟩ := scanFrom_norm g blk N k c (Nat.le_of_lt hc) hlt
  have g3' : kh * g.B + ch = hdrPos g (k * g.B + c) := g3
  have hch : ch < g.B := lt_of_room g2
  have hTd : S.drop (kh * g.B + ch) = slot a ++ R := by
    rw [g3', hdrPos_cursor g k c hc, ← List.drop_drop, hT, List.append_assoc, List.drop_left' (length_zeros _)]
  have hroom : ch + 7 + a.1.2.2.length ≤ g.B := by
    have := maxFrameLen_pos g (k * g.B + c) a.1.2.2.length (by rw [Codec.mod_of_pos g k c hc]; exact hfit)
    rwa [← g3', Codec.mod_of_pos g kh ch hch] at this
  have hnext : nextPos g (k * g.B + c) a.1.2.2.length = kh * g.B + (ch + 7 + a.1.2.2.length) := by
    show hdrPos g (k * g.B + c) + 7 + a.1.2.2.length = _
    rw [← g3']; simp only [Nat.add_assoc]
  have hfile : a.1.1 = (blk kh).file := by rw [htag, ← g3', Codec.div_of_pos g.B kh ch hch]
  rcases slot_cases hj with ⟨x, hx2, hx4, hxb, hxe⟩ | ⟨hd, hsl', hev, hl, hnz, hend, he⟩
  · -- a raw frame at the header position
    have hxl : x.2.2.length = a.1.2.2.length := by rw [hx2]
    -- last argument, the only use of `hB`: the payload fits its block (`hroom`) and `g.B ≤ 65542` = 65535 +
    -- `HEADER_LEN`, so its length is what the reader gets back from the u16 field
    have hstep := scanFrom_frame g blk S N hblk kh ch x R (by rw [hxb]; exact hTd) hx4
      (by rw [hxl]; exact hroom) (by rw [hxl]; omega)
    rw [hxl, ← hfile, hxe] at hstep
    refine ⟨kh, ch + 7 + a.1.2.2.length, hkh, hroom, hnext.symm, ?_, by rw [g4, hstep]; rfl⟩
    rw [hfec, hnext]
    rcases Nat.lt_or_eq_of_le hroom with h | h
    · exact Or.inl (Codec.mod_of_pos g kh _ h).symm
    · refine Or.inr ⟨h, ?_⟩
      rw [h, show kh * g.B + g.B = (kh + 1) * g.B by rw [Nat.add_mul, Nat.one_mul]]
      exact Nat.mul_mod_left _ _
  · -- a torn header: the rest of the block is given up
    rw [← g3', Codec.mod_of_pos g kh ch hch] at hend
    rw [hnext, hend, ← Nat.succ_mul] at he
    have hk1 : kh + 1 < N := Nat.lt_of_mul_lt_mul_right he
    have hn2 : nextPos g (k * g.B + c) a.1.2.2.length = (kh + 1) * g.B := by
      rw [hnext, hend, Nat.add_mul, Nat.one_mul]
    refine ⟨kh + 1, 0, hk1, Nat.zero_le _, hn2.symm, Or.inl ?_, ?_⟩
    · rw [hfec, hn2, Nat.mul_mod_left]
    · rw [g4, hev, hfile]
      exact scanFrom_needNext g blk N kh ch ch _
        (scanBlock_torn g blk S hblk kh ch hd _ R g2 (by rw [hTd, hsl']) hl (by omega) hnz) hk1

theorem scanFrom_items (hB : g.B ≤ 65542) (hS : S.length = N * g.B) (ais : List AItm) :
    ∀ (k c : Nat) (R : Bytes), k < N → c < g.B → Fits g c (frs ais) → JOK g (N * g.B) (k * g.B + c) ais →
      TaggedB g blk (k * g.B + c) (tfs ais) →
      S.drop (k * g.B + c) = flatJ g c ais ++ R →
      ∃ k' c', k' < N ∧ c' ≤ g.B ∧ k' * g.B + c' = k * g.B + c + (flatJ g c ais).length ∧
        scanFrom g blk N k c = (evsJ ais ++ (scanFrom g blk N k' c').1, (scanFrom g blk N k' c').2) := by
  induction ais with
  | nil =>
    intro k c R hk hc _ _ _ _
    exact ⟨k, c, hk, Nat.le_of_lt hc, by simp [flatJ], by simp [evsJ]⟩
  | cons a ais ih =>
    intro k c R hk hc hf hj ht hT
    have hnp : nextPos g (k * g.B + c) a.1.2.2.length = k * g.B + c + (zeros (padLen g c) ++ slot a).length := by
      rw [nextPos_cursor g k c _ hc, List.length_append, length_zeros, slot_length hj.1.rawLen]
      simp only [Nat.add_assoc]
    have hfl : flatJ g c (a :: ais) =
        zeros (padLen g c) ++ slot a ++ flatJ g (frameEndCursor g c a.1.2.2.length) ais := rfl
    rw [hfl, List.append_assoc] at hT
    obtain ⟨k2, c2, hk2, hc2, hpos2, hcur2, hstep⟩ :=
      scanFrom_item g blk S N hblk hB hS k c hc a _ hf.1 ht.1 hj.1 hT
    rw [hstep, hfl, List.length_append, ← Nat.add_assoc, ← hnp]
    cases ais with
    | nil => exact ⟨k2, c2, hk2, hc2, hpos2, rfl⟩
    | cons a2 ais2 =>
      have hTd : S.drop (nextPos g (k * g.B + c) a.1.2.2.length) =
          flatJ g (frameEndCursor g c a.1.2.2.length) (a2 :: ais2) ++ R := by
        rw [hnp, ← List.drop_drop, hT, List.drop_left' rfl]
      have hlt : nextPos g (k * g.B + c) a.1.2.2.length < N * g.B :=
        hS ▸ drop_len_lt S _ _ hTd (flatJ_cons_pos g _ a2 ais2 (hj.2.rawLen a2 List.mem_cons_self) R)
      obtain ⟨k3, hk3, hpos3, hsk⟩ : ∃ k3, k3 < N ∧
          k3 * g.B + frameEndCursor g c a.1.2.2.length = nextPos g (k * g.B + c) a.1.2.2.length ∧
          scanFrom g blk N k2 c2 = scanFrom g blk N k3 (frameEndCursor g c a.1.2.2.length) := by
        rcases hcur2 with h | ⟨h, h0⟩
        · exact ⟨k2, hk2, by rw [← h]; exact hpos2, by rw [h]⟩
        · rw [h, ← Nat.succ_mul] at hpos2
          have hk1 : k2 + 1 < N := Nat.lt_of_mul_lt_mul_right (a := g.B) (by rw [hpos2]; exact hlt)
          exact ⟨k2 + 1, hk1, by rw [h0]; exact hpos2,
            by rw [h, h0]; exact scanFrom_skip g blk N k2 g.B (by rw [Nat.sub_self]; exact Nat.succ_pos 6) hk1⟩
      rw [← hpos3] at hTd
      obtain ⟨k', c', h1, h2, h3, h4⟩ := ih k3 _ R hk3 (frameEndCursor_lt g c _ hc hf.1) hf.2
        (by rw [hpos3]; exact hj.2) (by rw [hpos3]; exact ht.2) hTd
      refine ⟨k', c', h1, h2, by rw [h3, hpos3], ?_⟩
      rw [hsk, h4]; rfl

theorem scanFrom_tape (hB : g.B ≤ 65542) (hS : S.length = N * g.B) (k c : Nat) (hk : k < N) (hc : c < g.B)
    (ais : List AItm) (hf : Fits g c (frs ais)) (hj : JOK g (N * g.B) (k * g.B + c) ais)
    (ht : TaggedB g blk (k * g.B + c) (tfs ais)) (res : Bytes) (z0 z1 : Nat)
    (hT : S.drop (k * g.B + c) = flatJ g c ais ++ zeros z0 ++ res ++ zeros z1)
    (hres : ResOK g (N * g.B) (endPos g (k * g.B + c) (frs ais) + z0) (endPos g (k * g.B + c) (frs ais)) res) :
    ∃ ke ce evT, ke < N ∧ (ce < g.B ∨ (ce = g.B ∧ ke + 1 = N)) ∧
      ke * g.B + ce = stopPos g N (endPos g (k * g.B + c) (frs ais)) ∧
      (res = [] ∧ evT = [] ∨
        res ≠ [] ∧ evT = [RdEv.corrupt (blk ke).file] ∧
          ke * g.B + ce = hdrPos g (endPos g (k * g.B + c) (frs ais)) ∧ ce < g.B) ∧
      scanFrom g blk N k c = (evsJ ais ++ evT, ⟨(blk ke).file, (blk ke).idx, ce⟩) := by
  obtain ⟨E, hEdef⟩ : ∃ E, endPos g (k * g.B + c) (frs ais) = E := ⟨_, rfl⟩
  rw [hEdef] at hres ⊢
  have hE : k * g.B + c + (flatJ g c ais).length = E := by
    have := flatJ_pos_length g ais hj.rawLen (k * g.B + c) (by rw [Codec.mod_of_pos g k c hc]; exact hf)
    rwa [Codec.mod_of_pos g k c hc, hEdef] at this
  obtain ⟨k', c', h1, h2, h3, h4⟩ := scanFrom_items g blk S N hblk hB hS ais k c (zeros z0 ++ res ++ zeros z1)
    hk hc hf hj ht (by rw [hT]; simp only [List.append_assoc])
  rw [hE] at h3
  have hlens : E + z0 + res.length + z1 = N * g.B := by
    have := congrArg List.length hT
    simp only [List.length_drop, List.length_append, length_zeros, hS] at this
    have hkN : (k + 1) * g.B ≤ N * g.B := Nat.mul_le_mul_right _ hk
    rw [Nat.add_mul, Nat.one_mul] at hkN
    omega
  have hdropE : S.drop E = zeros z0 ++ res ++ zeros z1 := by
    rw [← hE, ← List.drop_drop, hT, List.append_assoc, List.append_assoc]
    exact (List.drop_left' rfl).trans (List.append_assoc _ _ _).symm
  rcases hres with hr | ⟨r1, r2, r3, r4⟩
  · -- no residue: zeros to the end
    subst hr
    have hz : S.drop (k' * g.B + c') = zeros (N * g.B - (k' * g.B + c')) := by
      rw [h3, hdropE, List.append_nil, ← zeros_add, ← hlens]
      congr 1
      simp only [List.length_nil, Nat.add_zero]; omega
    obtain ⟨ke, ce, he, hpos⟩ := scanFrom_zeros g blk S N hblk k' c' h2 hz
    obtain ⟨a1, a2, a3⟩ := stopPos_of_zeros g N k' c' ke ce h1 h2 hpos
    exact ⟨ke, ce, [], a1, a2, h3 ▸ a3, Or.inl ⟨rfl, rfl⟩, by rw [h4, he]⟩
  · -- a torn header at the header position, in the last block
    have hne : res ≠ [] := fun h => by rw [h] at r2; exact absurd r2 (by decide)
    have hrl : 0 < res.length := List.length_pos_iff.mpr hne
    have hlt : hdrPos g (E) < N * g.B := by rw [← r3, ← hlens]; omega
    obtain ⟨kh, ch, hkh, h7, hpos, hsk⟩ := scanFrom_norm g blk N k' c' h2
      (show hdrPos g (k' * g.B + c') < N * g.B by rw [h3]; exact hlt)
    rw [h3] at hpos
    have hpos : kh * g.B + ch = hdrPos g (E) := hpos
    have hch : ch < g.B := lt_of_room h7
    have hkN : N ≤ kh + 1 := by
      rw [r3, ← hpos, Codec.div_of_pos g.B kh ch hch] at r4
      exact Nat.le_of_mul_le_mul_right r4 (Nat.zero_lt_of_lt hch)
    have hdropR : S.drop (kh * g.B + ch) = res ++ zeros z1 := by
      rw [hpos, ← r3, ← List.drop_drop, hdropE, List.append_assoc, List.drop_left' (length_zeros _)]
    have hzl : g.B - ch ≤ res.length + z1 := by
      have := congrArg List.length hdropR
      rw [List.length_drop, hS, List.length_append, length_zeros] at this
      have : (kh + 1) * g.B ≤ N * g.B := Nat.mul_le_mul_right _ hkh
      rw [Nat.add_mul, Nat.one_mul] at this
      omega
    have hs := scanBlock_torn g blk S hblk kh ch res z1 [] h7 (by rw [List.append_nil]; exact hdropR) r1 hzl r2
    have hlast : scanFrom g blk N kh ch = ([RdEv.corrupt (blk kh).file], ⟨(blk kh).file, (blk kh).idx, ch⟩) := by
      unfold scanFrom
      rw [Nat.sub_eq_zero_of_le hkN]
      exact scanB_needNext_nil g _ ch _ _ hs
    refine ⟨kh, ch, _, hkh, Or.inl hch, ?_, Or.inr ⟨hne, rfl, hpos, hch⟩, by rw [h4, hsk, hlast]⟩
    rw [hpos, stopPos_of_lt g hlt]

end

end MRL.L
