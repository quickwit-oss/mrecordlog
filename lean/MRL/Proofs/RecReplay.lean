/-
Replay of arbitrary entries (C08, C12): the fold (`Rec.replay_eq`) keeps the queue-map invariant
whatever the entries are, and every record it leaves in a queue comes from an `append` entry. Also what
`Entry.decode` read (`decode_some`), and what the queue operations do to positions and payloads, the file
handles forgotten (`plain_*`, `Drop.slot_append`, `Drop.truncate_plain`).
-/
import MRL.Proofs.RecIo
import MRL.Proofs.RecFold
import MRL.Proofs.StepLemmas

namespace MRL.Rec

/-- records of a queue with the file handles erased -/
def plain (q : MemQueue) : List (Nat × Bytes) := q.recs.map fun r => (r.pos, r.payload)

theorem plain_appendRecord {q q' : MemQueue} {file pos : Nat} {pl : Bytes}
    (h : q.appendRecord file pos pl = some q') : plain q' = plain q ++ [(pos, pl)] := by
  unfold MemQueue.appendRecord at h
  by_cases hlt : pos < q.nextPosition
  · rw [if_pos hlt] at h; cases h
  · rw [if_neg hlt] at h; cases h
    simp [plain, MemQueue.dropLastHandle_map]

theorem plain_appendAll (file : Nat) (recs : List (Nat × Bytes)) :
    ∀ (q q' : MemQueue), Log.appendAll q file recs = some q' → plain q' = plain q ++ recs := by
  induction recs with
  | nil => intro q q' h; simp only [Log.appendAll, Option.some.injEq] at h; subst h; simp
  | cons r rs ih =>
    intro q q' h
    obtain ⟨p, pl⟩ := r
    simp only [Log.appendAll] at h
    cases h1 : q.appendRecord file p pl with
    | none => rw [h1] at h; cases h
    | some q1 =>
      rw [h1] at h
      simp only [Option.bind_some] at h
      rw [ih q1 q' h, plain_appendRecord h1]
      simp

theorem QsInv_replayEntries (es : List (Nat × Entry)) (qs qs' : MemQueues)
    (h : replayEntries qs es = some qs') (hI : QsInv qs) : QsInv qs' :=
  replayEntries_induct (P := QsInv) es (fun _ _ hI hr => QsInv_replayEntry hr hI) hI h

theorem QsInv_replay (evs : List RecEv) (qs qs' : MemQueues) (h : replay qs evs = some qs')
    (hI : QsInv qs) : QsInv qs' := by
  rw [replay_eq] at h
  exact QsInv_replayEntries _ qs qs' h hI

theorem recover_ok_scan_replay {g : Geom} {img : Image} {policy : Policy} {order : List Bytes}
    {fa : Option Nat} {r : Recovered} (h : recover g img policy order fa = .ok r) :
    ∃ b0 rest trail rdEvs e io,
      blocksOf g (prepareImage g img).1 1 = (b0 :: rest, trail) ∧
      scanBlocks g fa trail b0.cost b0 0 rest = some (rdEvs, e, io) ∧
      replay [] (assemble { within := false, buf := [], attr := b0.file } rdEvs) = some r.log.queues := by
  rw [recover_eq] at h
  cases hp : recoverPre g img policy fa with
  | error e => rw [hp] at h; cases h
  | ok x =>
    obtain ⟨l, e0, io⟩ := x
    rw [hp] at h
    simp only at h
    by_cases hio : ioFails fa io (io + countOpen (l.runGc g order).2.1) = true
    · rw [if_pos hio] at h; cases h
    · rw [if_neg hio] at h
      cases h
      obtain ⟨b0, rest, trail, evs, e, h1, _, h2, h3, _⟩ := recoverPre_ok hp
      refine ⟨b0, rest, trail, evs, e, io, h1, h2, ?_⟩
      rw [h3]
      simp only [Step.runGc_queues]

theorem recover_ok_replay {g : Geom} {img : Image} {policy : Policy} {order : List Bytes}
    {fa : Option Nat} {r : Recovered} (h : recover g img policy order fa = .ok r) :
    ∃ evs : List RecEv, replay [] evs = some r.log.queues := by
  obtain ⟨b0, _, _, evs, _, _, _, _, h3⟩ := recover_ok_scan_replay h
  exact ⟨_, h3⟩

/-- all (queue, position, payload) triples of the `append` entries of a list of (file, entry) -/
def recordsOf : List (Nat × Entry) → List (Bytes × Nat × Bytes)
  | [] => []
  | (_, .append q _ recs) :: es => recs.map (fun r => (q, r.1, r.2)) ++ recordsOf es
  | (_, .truncate _ _) :: es => recordsOf es
  | (_, .touch _ _) :: es => recordsOf es
  | (_, .delete _ _) :: es => recordsOf es

def recsOf : Entry → List (Bytes × Nat × Bytes)
  | .append q _ recs => recs.map fun r => (q, r.1, r.2)
  | _ => []

theorem recordsOf_eq_flatMap (l : List (Nat × Entry)) : recordsOf l = l.flatMap fun fe => recsOf fe.2 := by
  induction l with
  | nil => rfl
  | cons fe l ih =>
    obtain ⟨f, e⟩ := fe
    cases e <;> simp only [recordsOf, recsOf, List.flatMap_cons, List.nil_append, ih]

theorem mem_recordsOf {x : Bytes × Nat × Bytes} {l : List (Nat × Entry)} :
    x ∈ recordsOf l ↔ ∃ fe ∈ l, x ∈ recsOf fe.2 := by
  rw [recordsOf_eq_flatMap, List.mem_flatMap]

theorem recordsOf_append (a b : List (Nat × Entry)) : recordsOf (a ++ b) = recordsOf a ++ recordsOf b := by
  simp only [recordsOf_eq_flatMap, List.flatMap_append]

def AllIn (A : List (Bytes × Nat × Bytes)) (qs : MemQueues) : Prop :=
  ∀ kv ∈ qs, ∀ r ∈ plain kv.2, (kv.1, r.1, r.2) ∈ A

theorem AllIn.remove {A : List (Bytes × Nat × Bytes)} {qs : MemQueues} (h : AllIn A qs) (n : Bytes) :
    AllIn A (qs.remove n) :=
  fun kv hkv => h kv (mem_remove hkv)

theorem plain_truncateHead (q : MemQueue) (p : Nat) :
    ∃ k, plain (q.truncateHead p).1 = (plain q).drop k := by
  unfold MemQueue.truncateHead
  by_cases h1 : q.start > p
  · rw [if_pos h1]; exact ⟨0, rfl⟩
  · by_cases h2 : p + 1 ≥ q.nextPosition
    · rw [if_neg h1, if_pos h2]; exact ⟨(plain q).length, List.drop_length.symm⟩
    · rw [if_neg h1, if_neg h2]
      exact ⟨(q.recs.takeWhile (·.pos ≤ p)).length, by simp only [plain, List.map_drop]⟩

theorem mem_recordsOf_append (f : Nat) (q : Bytes) (pos : Nat) (recs : List (Nat × Bytes))
    (r : Nat × Bytes) (hr : r ∈ recs) : (q, r.1, r.2) ∈ recordsOf [(f, Entry.append q pos recs)] := by
  simp only [recordsOf, List.append_nil, List.mem_map]
  exact ⟨r, hr, rfl⟩

theorem AllIn_replayEntry {A : List (Bytes × Nat × Bytes)} {qs qs' : MemQueues} {file : Nat} {e : Entry}
    (h : replayEntry qs file e = some qs') (hI : AllIn A qs) :
    AllIn (A ++ recordsOf [(file, e)]) qs' := by
  refine replayEntry_all (P := fun kv => ∀ r ∈ plain kv.2, (kv.1, r.1, r.2) ∈ A ++ recordsOf [(file, e)])
    h (fun kv hkv r hr => List.mem_append_left _ (hI kv hkv r hr)) (fun p r hr => by cases hr) ?_ ?_
  · intro x x' recs hx ⟨pos, he⟩ ha r hr
    rw [plain_appendAll file recs x x' ha, List.mem_append] at hr
    rcases hr with hr | hr
    · exact hx r hr
    · rw [he]
      exact List.mem_append_right _ (mem_recordsOf_append file _ pos recs r hr)
  · intro x p hx _ r hr
    obtain ⟨k, hk⟩ := plain_truncateHead x p
    rw [hk] at hr
    exact hx r (List.mem_of_mem_drop hr)

theorem AllIn_replayEntries (es : List (Nat × Entry)) (A : List (Bytes × Nat × Bytes)) (qs qs' : MemQueues)
    (h : replayEntries qs es = some qs') (hI : AllIn A qs) : AllIn (A ++ recordsOf es) qs' :=
  replayEntries_prefix (P := fun done qs => AllIn (A ++ recordsOf done) qs) es
    (fun done fe _ _ _ _ hP hr => by
      rw [recordsOf_append, ← List.append_assoc]; exact AllIn_replayEntry hr hP)
    (by simpa [recordsOf] using hI) h

/-- what `Entry.decode` read: an 11-byte header whose last two bytes give the length of the queue
    name, the name, and for an `AppendRecords` entry the records in what follows -/
theorem decode_some {bs : Bytes} {e : Entry} (h : Entry.decode bs = some e) :
    Consts.ENTRY_HEADER_LEN + leNat ((bs.drop 9).take 2) ≤ bs.length ∧
    e.queue = (bs.drop Consts.ENTRY_HEADER_LEN).take (leNat ((bs.drop 9).take 2)) ∧
    ∀ q pos recs, e = .append q pos recs →
      Entry.decodeRecs ((bs.drop Consts.ENTRY_HEADER_LEN).drop (leNat ((bs.drop 9).take 2))) = some recs := by
  unfold Entry.decode at h
  by_cases h1 : bs.length < Consts.ENTRY_HEADER_LEN
  · rw [if_pos h1] at h; cases h
  · rw [if_neg h1] at h
    dsimp only at h
    by_cases h2 : (bs.getD 0 0).toNat ≠ Consts.TAG_TRUNCATE ∧ (bs.getD 0 0).toNat ≠ Consts.TAG_TOUCH ∧
        (bs.getD 0 0).toNat ≠ Consts.TAG_DELETE ∧ (bs.getD 0 0).toNat ≠ Consts.TAG_APPEND
    · rw [if_pos h2] at h; cases h
    · rw [if_neg h2] at h
      by_cases h3 : (bs.drop Consts.ENTRY_HEADER_LEN).length < leNat ((bs.drop 9).take 2)
      · rw [if_pos h3] at h; cases h
      · rw [if_neg h3] at h
        rw [List.length_drop] at h3
        refine ⟨Nat.add_le_of_le_sub' (Nat.le_of_not_lt h1) (Nat.le_of_not_lt h3), ?_⟩
        generalize (bs.getD 0 0).toNat = tag at h
        generalize leNat ((bs.drop 1).take 8) = pos at h
        generalize (bs.drop Consts.ENTRY_HEADER_LEN).take (leNat ((bs.drop 9).take 2)) = q at h ⊢
        generalize Entry.decodeRecs ((bs.drop Consts.ENTRY_HEADER_LEN).drop (leNat ((bs.drop 9).take 2))) = rs at h ⊢
        by_cases h4 : (!utf8Valid q) = true
        · rw [if_pos h4] at h; cases h
        · rw [if_neg h4] at h
          by_cases h5 : tag = Consts.TAG_APPEND
          · rw [if_pos h5] at h
            obtain ⟨recs, hr, rfl⟩ := Option.map_eq_some_iff.mp h
            exact ⟨rfl, fun q pos recs' he => by cases he; exact hr⟩
          · rw [if_neg h5] at h
            by_cases h6 : tag = Consts.TAG_TRUNCATE
            · rw [if_pos h6] at h; cases h; exact ⟨rfl, fun _ _ _ he => by cases he⟩
            · rw [if_neg h6] at h
              by_cases h7 : tag = Consts.TAG_TOUCH
              · rw [if_pos h7] at h; cases h; exact ⟨rfl, fun _ _ _ he => by cases he⟩
              · rw [if_neg h7] at h; cases h; exact ⟨rfl, fun _ _ _ he => by cases he⟩

end MRL.Rec

namespace MRL.Drop
open Log C05 Rec

theorem next_wnp (p : Nat) : (MemQueue.withNextPosition p).nextPosition = p := rfl

theorem appendAll_ok (q : MemQueue) (f pos : Nat) (pls : List Bytes) (hq : QInv q) (hp : q.nextPosition ≤ pos)
    (hne : pls ≠ []) :
    ∃ q', appendAll q f (numberFrom pos pls) = some q' ∧ plain q' = plain q ++ numberFrom pos pls ∧
      q'.nextPosition = pos + pls.length := by
  obtain ⟨q', h1, h2, h3, _, _⟩ := appendAll_spec f pls q pos hq.1 hq.2 hp
  exact ⟨q', h1, h2, h3 hne⟩

theorem slot_append (v : Option MemQueue) (f : Nat) (q : Bytes) (pos : Nat) (pls : List Bytes)
    (hne : pls ≠ []) (hv : ∀ y, v = some y → QInv y ∧ y.nextPosition ≤ pos) :
    ∃ y', Entry.slot f (.append q pos (numberFrom pos pls)) v = some (some y') ∧
      plain y' = (v.map plain).getD [] ++ numberFrom pos pls ∧
      y'.nextPosition = pos + pls.length := by
  cases v with
  | none =>
    obtain ⟨w, hw, hwp, hwn⟩ := appendAll_ok (MemQueue.withNextPosition pos) f pos pls
      (QInv_withNextPosition pos) (Nat.le_refl _) hne
    exact ⟨w, by simp [Entry.slot, hw], hwp, hwn⟩
  | some y =>
    obtain ⟨y', h1, h2, h3⟩ := appendAll_ok y f pos pls (hv y rfl).1 (hv y rfl).2 hne
    exact ⟨y', by simp [Entry.slot, h1], h2, h3⟩

theorem appendAll_le {q q' : MemQueue} {f pos : Nat} {pls : List Bytes} (hne : pls ≠ [])
    (h : appendAll q f (numberFrom pos pls) = some q') : q.nextPosition ≤ pos := by
  cases pls with
  | nil => exact absurd rfl hne
  | cons p ps =>
    simp only [numberFrom, appendAll] at h
    cases h1 : q.appendRecord f pos p with
    | none => rw [h1] at h; cases h
    | some q1 => exact appendRecord_some_le h1

theorem truncate_plain (q : MemQueue) (p : Nat) (hq : QInv q) :
    plain (q.truncateHead p).1 = (plain q).filter (fun r => decide (p < r.1)) ∧
    (q.truncateHead p).1.nextPosition = max q.nextPosition (p + 1) := by
  obtain ⟨h1, h2, _, _, _⟩ := MemQueue.truncateHead_spec q p hq.1 hq.2
  refine ⟨?_, h2⟩
  unfold plain
  rw [h1, List.filter_map]
  rfl

end MRL.Drop
