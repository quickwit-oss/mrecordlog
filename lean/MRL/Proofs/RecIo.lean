/-
The reader of `open` as a fold over blocks: the branch equations of `scanBlocks`; `recoverPre` and
`recover` in one equation each (`recoverPre_eq`, `recover_eq`) and what a successful one returned
(`recoverPre_ok`, `Step.recover_ok`); what a successful scan looks like (`scanBlocks_some`), where it ends,
and which blocks an image has (C10). The fault plans of C11 are in `RecFault`.
-/
import MRL.Model.Panic

namespace MRL.Rec

theorem ioFails_none (lo hi : Nat) : ioFails none lo hi = false := rfl

theorem ioFails_some (n lo hi : Nat) : ioFails (some n) lo hi = (decide (lo ≤ n) && decide (n < hi)) := rfl

theorem ioFails_false_of {n lo hi : Nat} (h : n < lo ∨ hi ≤ n) : ioFails (some n) lo hi = false := by
  rw [ioFails_some]
  rcases h with h | h
  · rw [decide_eq_false (Nat.not_le_of_lt h), Bool.false_and]
  · rw [decide_eq_false (Nat.not_lt_of_le h), Bool.and_false]

theorem ioFails_true_of {n lo hi : Nat} (h1 : lo ≤ n) (h2 : n < hi) : ioFails (some n) lo hi = true := by
  rw [ioFails_some, decide_eq_true h1, decide_eq_true h2]; rfl

theorem scanBlocks_zero (g : Geom) (fa : Option Nat) (trail io : Nat) (cur : Blk) (c : Nat) (rest : List Blk)
    (fe : List FrameEv) (c' : Nat) (h : scanBlock g cur.data c = (fe, .zeroHeader c')) :
    scanBlocks g fa trail io cur c rest = some (tagEvs cur.file fe, ⟨cur.file, cur.idx, c'⟩, io) := by
  cases rest <;> (unfold scanBlocks; rw [h])

theorem scanBlocks_next_nil (g : Geom) (fa : Option Nat) (trail io : Nat) (cur : Blk) (c : Nat)
    (fe : List FrameEv) (c' : Nat) (h : scanBlock g cur.data c = (fe, .needNext c')) :
    scanBlocks g fa trail io cur c [] =
      if ioFails fa io (io + trail) then none
      else some (tagEvs cur.file fe, ⟨cur.file, cur.idx, c'⟩, io + trail) := by
  unfold scanBlocks; rw [h]

theorem scanBlocks_next_cons (g : Geom) (fa : Option Nat) (trail io : Nat) (cur : Blk) (c : Nat)
    (b : Blk) (rest : List Blk)
    (fe : List FrameEv) (c' : Nat) (h : scanBlock g cur.data c = (fe, .needNext c')) :
    scanBlocks g fa trail io cur c (b :: rest) =
      if ioFails fa io (io + b.cost) then none
      else
        match scanBlocks g fa trail (io + b.cost) b 0 rest with
        | none => none
        | some (evs2, e, io') => some (tagEvs cur.file fe ++ evs2, e, io') := by
  conv => lhs; unfold scanBlocks
  rw [h]
  rfl

/-- what `recoverPre` does with the result of the scan -/
def finishPre (g : Geom) (policy : Policy) (img1 : Image) (e0 : List Effect) (file0 : Nat) :
    Option (List RdEv × EndPos × Nat) → Except OpenErr (Log × List Effect × Nat)
  | none => .error .io
  | some (evs, endPos, io) =>
    match replay [] (assemble { within := false, buf := [], attr := file0 } evs) with
    | none => .error .corruption
    | some qs =>
      .ok ({ files := img1.map (·.1), cur := endPos.file,
             off := endPos.idx * g.B + endPos.cursor, queues := qs, policy := policy }, e0, io)

theorem recoverPre_nil (g : Geom) (img : Image) (policy : Policy) (fa : Option Nat) (trail : Nat)
    (hb : blocksOf g (prepareImage g img).1 1 = ([], trail)) :
    recoverPre g img policy fa = .error .io := by
  unfold recoverPre
  simp only [hb]

theorem recoverPre_cons (g : Geom) (img : Image) (policy : Policy) (fa : Option Nat)
    (b0 : Blk) (rest : List Blk) (trail : Nat)
    (hb : blocksOf g (prepareImage g img).1 1 = (b0 :: rest, trail)) :
    recoverPre g img policy fa =
      if ioFails fa 0 b0.cost then .error .io
      else finishPre g policy (prepareImage g img).1 (prepareImage g img).2 b0.file
        (scanBlocks g fa trail b0.cost b0 0 rest) := by
  unfold recoverPre
  simp only [hb]
  cases scanBlocks g fa trail b0.cost b0 0 rest with
  | none => rfl
  | some r => obtain ⟨evs, e, io⟩ := r; rfl

/-- the scan of the prepared image with the file of its first block; `none`: an I/O call failed -/
def scanImage (g : Geom) (img1 : Image) (fa : Option Nat) : Option (Nat × List RdEv × EndPos × Nat) :=
  match blocksOf g img1 1 with
  | ([], _) => none
  | (b0 :: rest, trail) =>
    if ioFails fa 0 b0.cost then none
    else (scanBlocks g fa trail b0.cost b0 0 rest).map fun r => (b0.file, r)

/-- the image enters through `prepareImage`, the fault plan through the scan, the policy in the last
    step only -/
theorem recoverPre_eq (g : Geom) (img : Image) (policy : Policy) (fa : Option Nat) :
    recoverPre g img policy fa =
      match scanImage g (prepareImage g img).1 fa with
      | none => .error .io
      | some (file0, r) => finishPre g policy (prepareImage g img).1 (prepareImage g img).2 file0 (some r) := by
  unfold scanImage
  rcases hb : blocksOf g (prepareImage g img).1 1 with ⟨bs, trail⟩
  cases bs with
  | nil => exact recoverPre_nil g img policy fa trail hb
  | cons b0 rest =>
    rw [recoverPre_cons g img policy fa b0 rest trail hb]
    simp only
    split
    · rfl
    · cases scanBlocks g fa trail b0.cost b0 0 rest <;> rfl

theorem finishPre_ok (g : Geom) (policy : Policy) (img1 : Image) (e0 : List Effect) (file0 : Nat)
    (evs : List RdEv) (e : EndPos) (io : Nat) (l : Log) (e0' : List Effect) (io' : Nat)
    (h : finishPre g policy img1 e0 file0 (some (evs, e, io)) = .ok (l, e0', io')) :
    e0' = e0 ∧ io' = io := by
  simp only [finishPre] at h
  cases hr : replay [] (assemble { within := false, buf := [], attr := file0 } evs) with
  | none => rw [hr] at h; cases h
  | some qs =>
    rw [hr] at h
    simp only [Except.ok.injEq, Prod.mk.injEq] at h
    exact ⟨h.2.1.symm, h.2.2.symm⟩

theorem finishPre_err (g : Geom) (policy : Policy) (img1 : Image) (e0 : List Effect) (file0 : Nat)
    (r : List RdEv × EndPos × Nat) (err : OpenErr)
    (h : finishPre g policy img1 e0 file0 (some r) = .error err) : err = .corruption := by
  obtain ⟨evs, e, io⟩ := r
  simp only [finishPre] at h
  cases hr : replay [] (assemble { within := false, buf := [], attr := file0 } evs) with
  | none => rw [hr] at h; cases h; rfl
  | some qs => rw [hr] at h; cases h

/-- number of `open_file` calls among effects -/
def countOpen (es : List Effect) : Nat :=
  (es.filter fun e => match e with | .openFile _ => true | _ => false).length

theorem recover_eq (g : Geom) (img : Image) (policy : Policy) (order : List Bytes) (failAt : Option Nat) :
    recover g img policy order failAt =
      match recoverPre g img policy failAt with
      | .error e => .error e
      | .ok (l, e0, io) =>
        if ioFails failAt io (io + countOpen (l.runGc g order).2.1) then .error .io
        else .ok { log := (l.runGc g order).1, effects := e0 ++ (l.runGc g order).2.1,
                   ioCalls := io + countOpen (l.runGc g order).2.1 } := by
  unfold recover
  cases recoverPre g img policy failAt with
  | error e => rfl
  | ok x => obtain ⟨l, e0, io⟩ := x; rfl

theorem recover_none (g : Geom) (img : Image) (policy : Policy) (order : List Bytes) :
    recover g img policy order none =
      match recoverPre g img policy none with
      | .error e => .error e
      | .ok (l, e0, io) =>
        .ok { log := (l.runGc g order).1, effects := e0 ++ (l.runGc g order).2.1,
              ioCalls := io + countOpen (l.runGc g order).2.1 } := by
  rw [recover_eq]
  cases recoverPre g img policy none with
  | error e => rfl
  | ok x => obtain ⟨l, e0, io⟩ := x; simp [ioFails_none]

theorem scanBlocks_some {g : Geom} {fa : Option Nat} {trail io : Nat} {cur : Blk} {c : Nat} {rest : List Blk}
    {evs : List RdEv} {e : EndPos} {io' : Nat} (h : scanBlocks g fa trail io cur c rest = some (evs, e, io')) :
    (∃ fe c', (scanBlock g cur.data c = (fe, .zeroHeader c') ∨
          (scanBlock g cur.data c = (fe, .needNext c') ∧ rest = [])) ∧
        evs = tagEvs cur.file fe ∧ e = ⟨cur.file, cur.idx, c'⟩) ∨
    (∃ fe c' b rest' evs2, scanBlock g cur.data c = (fe, .needNext c') ∧ rest = b :: rest' ∧
        ioFails fa io (io + b.cost) = false ∧
        scanBlocks g fa trail (io + b.cost) b 0 rest' = some (evs2, e, io') ∧
        evs = tagEvs cur.file fe ++ evs2) := by
  rcases hs : scanBlock g cur.data c with ⟨fe, c' | c'⟩
  · rw [Rec.scanBlocks_zero g fa trail io cur c rest fe c' hs] at h
    cases h
    exact .inl ⟨fe, c', .inl rfl, rfl, rfl⟩
  · cases rest with
    | nil =>
      rw [Rec.scanBlocks_next_nil g fa trail io cur c fe c' hs] at h
      cases hio : ioFails fa io (io + trail) with
      | true => rw [hio] at h; cases h
      | false => rw [hio] at h; cases h; exact .inl ⟨fe, c', .inr ⟨rfl, rfl⟩, rfl, rfl⟩
    | cons b rest' =>
      rw [Rec.scanBlocks_next_cons g fa trail io cur c b rest' fe c' hs] at h
      cases hio : ioFails fa io (io + b.cost) with
      | true => rw [hio] at h; cases h
      | false =>
        rw [hio] at h
        cases hrec : scanBlocks g fa trail (io + b.cost) b 0 rest' with
        | none => rw [hrec] at h; cases h
        | some r =>
          obtain ⟨evs2, e2, io2⟩ := r
          rw [hrec] at h
          cases h
          exact .inr ⟨fe, c', b, rest', evs2, rfl, rfl, hio, hrec, rfl⟩

theorem scanPrefix_of_some (g : Geom) (fa : Option Nat) (trail : Nat) (rest : List Blk) :
    ∀ (io : Nat) (cur : Blk) (c : Nat) (evs : List RdEv) (e : EndPos) (io' : Nat),
      scanBlocks g fa trail io cur c rest = some (evs, e, io') → scanPrefix g fa io cur c rest = evs := by
  induction rest with
  | nil =>
    intro io cur c evs e io' h
    rcases scanBlocks_some h with ⟨fe, c', hs, rfl, _⟩ | ⟨_, _, _, _, _, _, hr, _⟩
    · unfold scanPrefix
      rcases hs with hs | ⟨hs, _⟩ <;> rw [hs]
    · cases hr
  | cons b rest' ih =>
    intro io cur c evs e io' h
    unfold scanPrefix
    rcases scanBlocks_some h with ⟨fe, c', hs, rfl, _⟩ | ⟨fe, c', b', rest'', evs2, hs, hr, hio, hrec, rfl⟩
    · rcases hs with hs | ⟨_, hr⟩
      · rw [hs]
      · cases hr
    · cases hr
      rw [hs]
      simp only [hio, Bool.false_eq_true, if_false, ih _ _ _ _ _ _ hrec]

theorem scanBlockFrom_end_le (g : Geom) (rest : Bytes) (c : Nat) (hc : c ≤ g.B) :
    match (scanBlockFrom g rest c).2 with
    | .zeroHeader c' => c' ≤ g.B
    | .needNext c' => c' ≤ g.B := by
  fun_induction scanBlockFrom g rest c with
  | case1 => exact hc
  | case2 => exact hc
  | case3 => exact hc
  | case4 rest c h => exact Nat.add_le_of_le_sub' hc (Nat.le_of_not_lt h)
  | case5 rest c h hdr hz t ht len c1 hfit body p ev evs e hrec ih =>
    rw [hrec] at ih
    exact ih (Nat.le_of_not_lt hfit)

theorem scanBlocks_end (g : Geom) (fa : Option Nat) (trail : Nat) (rest : List Blk) :
    ∀ (io : Nat) (cur : Blk) (c : Nat) (evs : List RdEv) (e : EndPos) (io' : Nat), c ≤ g.B →
      scanBlocks g fa trail io cur c rest = some (evs, e, io') →
      (∃ b ∈ cur :: rest, e.file = b.file ∧ e.idx = b.idx) ∧ e.cursor ≤ g.B := by
  induction rest with
  | nil =>
    intro io cur c evs e io' hc h
    have hend := scanBlockFrom_end_le g (cur.data.drop c) c hc
    rcases scanBlocks_some h with ⟨fe, c', hs, _, rfl⟩ | ⟨_, _, _, _, _, _, hr, _⟩
    · refine ⟨⟨cur, List.mem_cons_self, rfl, rfl⟩, ?_⟩
      rcases hs with hs | ⟨hs, _⟩ <;> (rw [show scanBlockFrom g (cur.data.drop c) c = _ from hs] at hend; exact hend)
    · cases hr
  | cons b rest' ih =>
    intro io cur c evs e io' hc h
    have hend := scanBlockFrom_end_le g (cur.data.drop c) c hc
    rcases scanBlocks_some h with ⟨fe, c', hs, _, rfl⟩ | ⟨fe, c', b', rest'', evs2, _, hr, _, hrec, _⟩
    · refine ⟨⟨cur, List.mem_cons_self, rfl, rfl⟩, ?_⟩
      rcases hs with hs | ⟨hs, _⟩ <;> (rw [show scanBlockFrom g (cur.data.drop c) c = _ from hs] at hend; exact hend)
    · cases hr
      obtain ⟨⟨b', hb', hf⟩, hcur⟩ := ih _ _ _ _ _ _ (Nat.zero_le _) hrec
      exact ⟨⟨b', List.mem_cons_of_mem _ hb', hf⟩, hcur⟩

theorem fileBlocks_idx (g : Geom) (f fc : Nat) (n : Nat) : ∀ (content : Bytes) (i : Nat),
    ∀ b ∈ fileBlocks g f content fc i n, b.file = f ∧ i ≤ b.idx ∧ b.idx < i + n := by
  induction n with
  | zero => intro content i b hb; cases hb
  | succ n ih =>
    intro content i b hb
    simp only [fileBlocks, List.mem_cons] at hb
    rcases hb with rfl | hb
    · exact ⟨rfl, Nat.le_refl _, Nat.lt_add_of_pos_right (Nat.succ_pos n)⟩
    · obtain ⟨h1, h2, h3⟩ := ih _ _ b hb
      exact ⟨h1, Nat.le_of_succ_le h2, by rwa [Nat.add_assoc, Nat.add_comm 1 n] at h3⟩

theorem fileBlocks_file (g : Geom) (f fc : Nat) (n : Nat) (content : Bytes) (i : Nat) :
    ∀ b ∈ fileBlocks g f content fc i n, b.file = f :=
  fun b hb => (fileBlocks_idx g f fc n content i b hb).1

theorem blocksOf_idx (g : Geom) (img : Image) : ∀ p, ∀ b ∈ (blocksOf g img p).1,
    ∃ kv ∈ img, b.file = kv.1 ∧ b.idx < kv.2.length / g.B := by
  induction img with
  | nil => intro p b hb; cases hb
  | cons fc img ih =>
    intro p b hb
    obtain ⟨f, content⟩ := fc
    simp only [blocksOf] at hb
    by_cases hn : content.length / g.B = 0
    · rw [if_pos hn] at hb
      obtain ⟨kv, hkv, h⟩ := ih _ b hb
      exact ⟨kv, List.mem_cons_of_mem _ hkv, h⟩
    · rw [if_neg hn] at hb
      rcases List.mem_append.mp hb with hb | hb
      · obtain ⟨h1, _, h3⟩ := fileBlocks_idx g f _ _ content 0 b hb
        exact ⟨(f, content), List.mem_cons_self, h1, by rwa [Nat.zero_add] at h3⟩
      · obtain ⟨kv, hkv, h⟩ := ih _ b hb
        exact ⟨kv, List.mem_cons_of_mem _ hkv, h⟩

theorem prepareImage_files (g : Geom) (img : Image) :
    (prepareImage g img).1.map (·.1) = if img = [] then [0] else img.map (·.1) := by
  rcases img with _ | ⟨⟨f, content⟩, rest⟩
  · rfl
  · rw [if_neg (List.cons_ne_nil _ _)]
    simp only [prepareImage]
    by_cases h : content.length < g.B
    · rw [if_pos h]; rfl
    · rw [if_neg h]

theorem recoverPre_ok {g : Geom} {img : Image} {policy : Policy} {fa : Option Nat}
    {l : Log} {e0 : List Effect} {io : Nat} (h : recoverPre g img policy fa = .ok (l, e0, io)) :
    ∃ b0 rest trail rdEvs e,
      blocksOf g (prepareImage g img).1 1 = (b0 :: rest, trail) ∧ ioFails fa 0 b0.cost = false ∧
      scanBlocks g fa trail b0.cost b0 0 rest = some (rdEvs, e, io) ∧
      replay [] (assemble { within := false, buf := [], attr := b0.file } rdEvs) = some l.queues ∧
      l.files = (prepareImage g img).1.map (·.1) ∧ l.cur = e.file ∧ l.off = e.idx * g.B + e.cursor := by
  rcases hb : blocksOf g (prepareImage g img).1 1 with ⟨bs, trail⟩
  cases bs with
  | nil => rw [recoverPre_nil g img policy fa trail hb] at h; cases h
  | cons b0 rest =>
    rw [recoverPre_cons g img policy fa b0 rest trail hb] at h
    cases hio : ioFails fa 0 b0.cost with
    | true => rw [hio] at h; cases h
    | false =>
      rw [hio] at h
      cases hs : scanBlocks g fa trail b0.cost b0 0 rest with
      | none => rw [hs] at h; cases h
      | some r =>
        obtain ⟨evs, e, io1⟩ := r
        rw [hs] at h
        simp only [Bool.false_eq_true, if_false, finishPre] at h
        cases hr : replay [] (assemble { within := false, buf := [], attr := b0.file } evs) with
        | none => rw [hr] at h; cases h
        | some qs =>
          rw [hr] at h
          simp only [Except.ok.injEq, Prod.mk.injEq] at h
          obtain ⟨h1, _, h3⟩ := h
          subst h1 h3
          exact ⟨b0, rest, trail, evs, e, rfl, hio, hs, hr, rfl, rfl, rfl⟩

theorem recoverPre_img1 (g : Geom) (img img' : Image) (policy : Policy)
    (h1 : (prepareImage g img').1 = (prepareImage g img).1) {lp : Log} {e0 : List Effect} {io : Nat}
    (h : recoverPre g img policy none = .ok (lp, e0, io)) :
    recoverPre g img' policy none = .ok (lp, (prepareImage g img').2, io) := by
  rw [recoverPre_eq] at h ⊢
  rw [h1]
  cases hs : scanImage g (prepareImage g img).1 none with
  | none => rw [hs] at h; cases h
  | some x =>
    obtain ⟨file0, evs, e, io1⟩ := x
    rw [hs] at h
    simp only [finishPre] at h ⊢
    cases hr : replay [] (assemble { within := false, buf := [], attr := file0 } evs) with
    | none => rw [hr] at h; cases h
    | some qs =>
      rw [hr] at h
      simp only [Except.ok.injEq, Prod.mk.injEq] at h ⊢
      exact ⟨h.1, trivial, h.2.2⟩

theorem deliveredEvents_of_pre {g : Geom} {img : Image} {policy : Policy} {fa : Option Nat}
    {lp : Log} {e0 : List Effect} {io : Nat} (h : recoverPre g img policy fa = .ok (lp, e0, io)) :
    replay [] (deliveredEvents g img fa) = some lp.queues := by
  obtain ⟨b0, rest, trail, rdEvs, e, hb, hio, hs, hr, _⟩ := recoverPre_ok h
  unfold deliveredEvents
  simp only [hb, hio, Bool.false_eq_true, if_false]
  rw [scanPrefix_of_some g fa trail rest _ _ _ _ _ _ hs]
  exact hr

theorem recoverPre_files {g : Geom} {img : Image} {policy : Policy} {fa : Option Nat}
    {lp : Log} {e0 : List Effect} {io : Nat} (h : recoverPre g img policy fa = .ok (lp, e0, io)) :
    lp.files = (prepareImage g img).1.map (·.1) ∧ lp.cur ∈ lp.files := by
  obtain ⟨b0, rest, trail, rdEvs, e, hb, _, hs, _, hfiles, hcur, _⟩ := recoverPre_ok h
  obtain ⟨⟨b, hbm, hbf, _⟩, _⟩ := scanBlocks_end g fa trail rest _ _ _ _ _ _ (Nat.zero_le _) hs
  obtain ⟨kv, hkv, hkf, _⟩ := blocksOf_idx g (prepareImage g img).1 1 b (by rw [hb]; exact hbm)
  rw [hfiles, hcur, hbf, hkf]
  exact ⟨rfl, List.mem_map.mpr ⟨kv, hkv, rfl⟩⟩

end MRL.Rec

namespace MRL.Step

theorem recover_ok (g : Geom) (img : Image) (policy : Policy) (order : List Bytes) (failAt : Option Nat) (r : Recovered)
    (h : recover g img policy order failAt = .ok r) :
    ∃ lp e0 io, recoverPre g img policy failAt = .ok (lp, e0, io) ∧
      r.log = (lp.runGc g order).1 ∧ r.effects = e0 ++ (lp.runGc g order).2.1 := by
  unfold recover at h
  split at h
  · cases h
  · rename_i lp e0 io hpre
    simp only at h
    split at h
    · cases h
    · injection h with h
      subst h
      exact ⟨lp, e0, io, hpre, rfl, rfl⟩

theorem recoverPre_effects (g : Geom) (img : Image) (policy : Policy) (failAt : Option Nat) (lp : Log) (e0 : List Effect)
    (io : Nat) (h : recoverPre g img policy failAt = .ok (lp, e0, io)) : e0 = (prepareImage g img).2 := by
  rw [Rec.recoverPre_eq] at h
  cases hs : Rec.scanImage g (prepareImage g img).1 failAt with
  | none => rw [hs] at h; cases h
  | some x => rw [hs] at h; exact (Rec.finishPre_ok _ _ _ _ _ x.2.1 x.2.2.1 x.2.2.2 _ _ _ h).1

end MRL.Step
