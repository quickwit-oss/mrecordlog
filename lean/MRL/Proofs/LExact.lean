/-
One crash from a clean state, as an instance of the analysis of crash-reachable states. What is
known of the items of a clean tape, and of every crash state of a write on it, is more than `SegsX`:
the live groups are chained (`G.Chain`) and only dead or junk groups follow them (`SegsE`). The
classification of a cut write carries that along (instances of `entry_extS`), and on such a tape the
reader's attributions are the writer's: `recoverPre` returns the queues before or after the write, file
handles included. That covers the crash points of a GC pass and of a call before the first unlink
(`H.gc_decomp`, `H.step_decomp`); every crash point, up to the handles: `L.Carry.call_cut`.
-/
import MRL.Proofs.StepGc
import MRL.Proofs.LInv

namespace MRL.L
open G H Log C01J

/-- what is known of the groups of a tape written from a clean state and cut once: chained live
    groups, then dead and junk groups only -/
def ExactG (F : Nat) (J : List JE) (gs : List Grp) : Prop :=
  ∃ (segs : List Seg) (dead : List Grp), gs = plainG segs ++ dead ∧ (∀ d ∈ dead, d.1 = none) ∧ Chain segs ∧
    (∀ s ∈ segs, SegOK s) ∧ segs.map (·.1) = J.filter (fun j => decide (F ≤ j.loc))

def SegsE (F : Nat) (J : List JE) (ais : List AItm) : Prop :=
  ∃ (lead : List AItm) (gs : List Grp), ais = lead ++ gs.flatMap (·.2) ∧
    (∀ a ∈ lead, a.2 = none ∧ a.1.2.1.isFirst = false) ∧
    (liveOf gs).map (·.1) = J.filter (fun j => decide (F ≤ j.loc)) ∧ (∀ x ∈ gs, GrpOK x) ∧ ExactG F J gs

theorem read_diskE (g : Geom) (hB : g.B ≤ 65542) {X : Image} {F : Nat} {J : List JE}
    (hd : DiskXS g X F (SegsE F J)) (hwf : ∀ j ∈ J, C07.WF j.e)
    (hfirst : ∀ j, (J.filter (fun j => decide (F ≤ j.loc))).head? = some j → j.attr ≤ F)
    (qs : MemQueues) (hrep : replayJ F [] J = some qs) (policy : Policy) :
    ∃ lp io, recoverPre g X policy none = .ok (lp, [.ensureLen F g.fileBytes], io) ∧ lp.queues = qs := by
  obtain ⟨cs, x, ais, res, z0, z1, ht, hX, lead, gs, hais, hlead, hmap, hok, segs, dead, hgs, hdead, hch, hsok, hsm⟩ := hd
  obtain ⟨J', lp, io, t, hrec, hx, hq, _⟩ := read_tapeD g hB
    (⟨ht, ⟨hais, hlead, hmap, hok⟩, hX⟩ : TapeD g X F J cs x ais lead gs res z0 z1) hwf qs hrep policy
  have htag := ht.tagged
  refine ⟨lp, io, hrec, ?_⟩
  have hA : AttrOK F F segs := attrOK_of g F (tfs ais) htag segs (fun s hs a ha => by
      rw [hais, hgs, List.flatMap_append, plainG_flatMap, tfs_append, tfs_append, tfs_plain]
      exact List.mem_append_right _ (List.mem_append_left _ (List.mem_flatMap.mpr ⟨s, hs, ha⟩))) hsok hch
    fun s hs => hfirst s.1 (by rw [← hsm, List.head?_map, hs]; rfl)
  have hq' : replayJ F [] ((liveOf (reattr F (plainG segs ++ dead))).map (·.1)) = some lp.queues := by
    rw [← hgs, hx.hmap, ← replayJ_filter]; exact hq
  have := exact_queues hsm hA hdead hq'
  rw [hrep] at this
  exact (Option.some.inj this).symm

theorem liveOf_dead : ∀ dead : List Grp, (∀ d ∈ dead, d.1 = none) → liveOf dead = []
  | [], _ => rfl
  | d :: dead, h => by
    obtain ⟨o, fs⟩ := d
    have : o = none := h (o, fs) List.mem_cons_self
    subst this
    rw [liveOf_cons_none]; exact liveOf_dead dead fun d hd => h d (List.mem_cons_of_mem _ hd)

theorem segsE_of {g : Geom} {l : Log} {D : Image} {F : Nat} {J J' : List JE} {init : List Bytes} {t : Bytes}
    {afs lead : List TFrm} {segs segs' : List Seg} (h : XInv g l D F J init t afs lead segs)
    (new : List Seg) (dead : List Grp) (hs' : segs' = segs ++ new) (hdead : ∀ d ∈ dead, d.1 = none)
    (hok : ∀ y ∈ plainG new ++ dead, GrpOK y) (hch : Chain segs')
    (hmap : segs'.map (·.1) = J'.filter (fun j => decide (F ≤ j.loc))) :
    SegsE F J' (plain afs ++ (plainG new ++ dead).flatMap (·.2)) := by
  have hx := XInvX.of_xinv h
  have hl : plainG segs' = plainG segs ++ plainG new := by rw [hs', plainG, List.map_append]; rfl
  refine ⟨plain lead, plainG segs' ++ dead, ?_, hx.hlead, ?_, ?_, segs', dead, rfl, hdead, hch, ?_, hmap⟩
  · rw [hx.hais, hl]; simp only [List.flatMap_append, List.append_assoc]
  · rw [liveOf_append, liveOf_plainG, liveOf_dead dead hdead, List.append_nil]; exact hmap
  · intro y hy
    rw [hl, List.append_assoc] at hy
    rcases List.mem_append.mp hy with hy | hy
    · exact hx.hok y hy
    · exact hok y hy
  · intro s hs
    rw [hs'] at hs
    rcases List.mem_append.mp hs with hs | hs
    · exact h.hsok s hs
    · have := (hok (some s.1, plain s.2) (List.mem_append_left _
        (List.mem_map_of_mem (f := fun s : Seg => ((some s.1, plain s.2) : Grp)) hs))).1
      rwa [tfs_plain] at this

theorem entry_cutE (g : Geom) {l : Log} {D : Image} {F : Nat} {init : List Bytes} {t : Bytes}
    {J : List JE} {afs lead : List TFrm} {segs : List Seg}
    (h : XInv g l D F J init t afs lead segs) (e : Entry)
    (htorn : TornEffs (Log.writeEntry g l e).2.1) (w : Bool) (X : Image)
    (hX : CutW w D (Log.writeEntry g l e).2.1 X) :
    DiskXS g X F (SegsE F J) ∨ DiskXS g X F (SegsE F (J ++ [l.je g e])) := by
  have hx := XInvX.of_xinv h
  have hlocF : F ≤ (l.je g e).loc :=
    Nat.le_trans (Nat.le_add_right F init.length) (h.tape.cur ▸ nextLoc_ge g l)
  obtain ⟨_, _, _, _, _, _, _, _, _, hcut, _⟩ := entry_extS (S := SegsE F) g hx e
    (fun items jk hd hjk => by
      rcases hjk with rfl | ⟨a, r, rfl, har⟩
      · have := segsE_of (J' := J) h [] [(none, items)] (List.append_nil _).symm
          (fun d hd' => by rw [List.mem_singleton.mp hd']) (fun y hy => by
            rw [show plainG [] ++ [((none, items) : Grp)] = [(none, items)] from rfl, List.mem_singleton] at hy
            rw [hy]; exact hd) h.hchain h.hmap
        simpa [plainG] using this
      · have := segsE_of (J' := J) h [] [(none, items), (none, [a])] (List.append_nil _).symm
          (fun d hd' => by
            rcases List.mem_cons.mp hd' with rfl | hd'
            · rfl
            · rw [List.mem_singleton.mp hd'])
          (fun y hy => by
            rcases List.mem_cons.mp hy with rfl | hy
            · exact hd
            · rw [List.mem_singleton.mp hy]; exact Or.inr ⟨a, r, rfl, har⟩) h.hchain h.hmap
        simpa [plainG, List.append_assoc] using this)
    (fun T hT => by
      have hso : SegOK (l.je g e, T) := by have := hT.1; rwa [tfs_plain] at this
      have := segsE_of (J' := J ++ [l.je g e]) h [(l.je g e, T)] [] rfl (fun d hd' => by cases hd')
        (fun y hy => by
          rw [List.append_nil] at hy
          rw [show plainG [(l.je g e, T)] = [((some (l.je g e), plain T) : Grp)] from rfl, List.mem_singleton] at hy
          rw [hy]; exact hT)
        (h.chain_snoc _ rfl)
        (by rw [List.map_append, h.hmap, List.filter_append]; simp [hlocF])
      simpa [plainG] using this)
  exact hcut htorn w X hX

theorem entry_phase_exact (g : Geom) (hB : g.B ≤ 65542) {l : Log} {J : List JE} {D : Image}
    (h : CInv g l J D) (e : Entry) (qs' : MemQueues) (hewf : EntryWF e)
    (hre : replayEntry l.queues l.cur e = some qs') (hwf : ∀ j ∈ J ++ [l.je g e], C07.WF j.e)
    (htorn : TornEffs (Log.writeEntry g l e).2.1) (X : Image)
    (hX : CutW false D (Log.writeEntry g l e).2.1 X) (policy : Policy) :
    ∃ lp e0 io, recoverPre g X policy none = .ok (lp, e0, io) ∧
      (QsEquiv lp.queues l.queues ∨ QsEquiv lp.queues qs') := by
  have hF : l.files.headD 0 ≤ l.cur := head_le_of_mem h.jinv.h.files.sorted h.jinv.h.files.cur_mem
  obtain ⟨init, t, afs, lead, segs, x0⟩ := XInv.of_dinv h.disk
  obtain ⟨hHl, chunk, qs, hrep, heq, hqwf⟩ := h.jinv
  have hch := je_chunk g l e hHl.files hewf
  rcases entry_cutE g x0 e htorn false X hX with hd | hd
  · obtain ⟨lp, io, hrec, hq⟩ := read_diskE g hB hd (fun j hj => hwf j (List.mem_append_left _ hj))
      (hfirst_of h.mono2 chunk h.first) qs hrep policy
    exact ⟨lp, _, io, hrec, Or.inl (hq ▸ heq)⟩
  · obtain ⟨qf, hqf, heqf, _⟩ := extend_rep hHl.inv hrep heq hqwf
      (show replayJ (l.files.headD 0) l.queues [l.je g e] = some qs' from replay_je g l e qs' _ hF hre)
    obtain ⟨lp, io, hrec, hq⟩ := read_diskE g hB hd hwf
      (hfirst_of (mono2_extend h.mono2 chunk hch (List.pairwise_singleton _ _)) (chunk.append hch)
        (firstOK_extend h.first (fun hn => by cases hn)
          (fun j1 hj1 => by cases hj1; exact ⟨rfl, nextLoc_ge g l⟩))) qf hqf policy
    exact ⟨lp, _, io, hrec, Or.inr (hq ▸ heqf)⟩

theorem _root_.MRL.G.XInv.diskE {g : Geom} {l : Log} {D : Image} {F : Nat} {J : List JE} {init : List Bytes} {t : Bytes}
    {afs lead : List TFrm} {segs : List Seg} (h : XInv g l D F J init t afs lead segs) :
    DiskXS g D F (SegsE F J) := by
  have := segsE_of (J' := J) h [] [] (List.append_nil _).symm (fun d hd => by cases hd)
    (fun y hy => by cases hy) h.hchain h.hmap
  exact (XInvX.of_xinv h).diskXS (by simpa [plainG] using this)

theorem touches_cutE (g : Geom) (F : Nat) (lead : List TFrm) (names : List Bytes)
    (l : Log) (D : Image) (J : List JE) (init : List Bytes) (t : Bytes) (afs : List TFrm) (segs : List Seg)
    (h : XInv g l D F J init t afs lead segs) : TornEffs (writeTouches g l names).2.1 →
    ∀ (w : Bool) X, CutW w D (writeTouches g l names).2.1 X →
      ∃ i, DiskXS g X F (SegsE F (J ++ (touchesJ g l names).take i)) :=
  (touches_fold g (I := fun l D J => ∃ init t afs segs, XInv g l D F J init t afs lead segs)
    (R := fun X J => DiskXS g X F (SegsE F J))
    (fun _ _ _ e ⟨_, _, _, _, h⟩ =>
      let ⟨i1, t1, _, x1, _⟩ := entry_xinv g h e
      ⟨⟨i1, t1, _, _, x1⟩, fun htorn w X hX => entry_cutE g h e htorn w X hX⟩)
    (fun _ _ _ ⟨_, _, _, _, h⟩ => h.diskE) names l D J ⟨init, t, afs, segs, h⟩).2

/-- touches of empty queues replay to the same queues, so at every crash state of the GC touches
    `recoverPre` returns the queues in memory -/
theorem touch_phase_exact (g : Geom) (hB : g.B ≤ 65542) {l : Log} {J : List JE} {D : Image}
    (h : CInv g l J D) (names : List Bytes) (hnames : ∀ n ∈ names, n ∈ l.queues.emptyNames)
    (hwf : ∀ j ∈ J ++ touchesJ g l names, C07.WF j.e)
    (htorn : TornEffs (writeTouches g l names).2.1) (X : Image)
    (hX : CutW false D (writeTouches g l names).2.1 X) (policy : Policy) :
    ∃ lp e0 io, recoverPre g X policy none = .ok (lp, e0, io) ∧ QsEquiv lp.queues l.queues := by
  have hF : l.files.headD 0 ≤ l.cur := head_le_of_mem h.jinv.h.files.sorted h.jinv.h.files.cur_mem
  obtain ⟨init, t, afs, lead, segs, x0⟩ := XInv.of_dinv h.disk
  obtain ⟨hHl, chunk, qs, hrep, heq, hqwf⟩ := h.jinv
  obtain ⟨i, hd⟩ := touches_cutE g _ lead names _ _ _ _ _ _ _ x0 htorn false X hX
  rw [touchesJ_take] at hd
  have hsub : ∀ n ∈ names.take i, n ∈ l.queues.emptyNames := fun n hn => hnames n (List.mem_of_mem_take hn)
  have hch := touchesJ_chunk g (names.take i) l hHl.files
  obtain ⟨q, hq, hqe, _⟩ := extend_rep hHl.inv hrep heq hqwf
    (touches_replay g (l.files.headD 0) (names.take i) l hHl.files hF hHl.inv.1 hsub)
  obtain ⟨lp, io, hrec, hlq⟩ := read_diskE g hB hd
    (fun j hj => hwf j (by
      rcases List.mem_append.mp hj with hj | hj
      · exact List.mem_append_left _ hj
      · rw [← touchesJ_take] at hj; exact List.mem_append_right _ (List.mem_of_mem_take hj)))
    (hfirst_of (mono2_extend h.mono2 chunk hch (mono2_touches g _ l hHl.files)) (chunk.append hch)
      (firstOK_extend h.first
        (fun hn => by
          cases hnt : names.take i with
          | nil => rfl
          | cons n ns => rw [hnt, touchesJ_cons] at hn; cases hn)
        (fun j1 hj1 => by
          cases hnt : names.take i with
          | nil => rw [hnt] at hj1; cases hj1
          | cons n ns => rw [hnt, touchesJ_cons] at hj1; cases hj1; exact ⟨rfl, nextLoc_ge g l⟩)))
    q hq policy
  exact ⟨lp, _, io, hrec, hlq ▸ hqe⟩

end MRL.L

namespace MRL.H
open G Log Buf

/-- `recoverPre` (the read phase of `open`) succeeds on `X` with the queues before the call or
    after it, handles included -/
def PreRes (g : Geom) (qsBefore qsAfter : MemQueues) (X : Image) : Prop :=
  ∀ policy, ∃ lp e0 io, recoverPre g X policy none = .ok (lp, e0, io) ∧
    (QsEquiv lp.queues qsBefore ∨ QsEquiv lp.queues qsAfter)

theorem preRes_of_cinv (g : Geom) (hB : g.B ≤ 65542) {l : Log} {J : List JE} {D : Image} (h : CInv g l J D)
    (hwf : ∀ j ∈ J, C07.WF j.e) : ∀ policy, ∃ lp e0 io, recoverPre g D policy none = .ok (lp, e0, io) ∧
      QsEquiv lp.queues l.queues := by
  intro policy
  obtain ⟨lp, io, hrec, _, hq, _, _⟩ := open_ok g hB h hwf policy
  exact ⟨lp, _, io, hrec, hq⟩

theorem no_unlink_of_unlinked {es : List Effect} (h : Step.unlinked es = []) : ∀ f, Effect.unlink f ∉ es := by
  intro f hf
  have := Step.mem_unlinked.mpr hf
  rw [h] at this; cases this

theorem no_unlink_syncL {sy : List Effect} (h : IsSyncL sy) : ∀ f, Effect.unlink f ∉ sy := by
  intro f hf
  rcases h _ hf with h1 | ⟨_, h1⟩ | h1 <;> cases h1

theorem prefix_before_unlinks {A B A' : List Effect} {U' : List Nat} (h : A ++ B = A' ++ U'.map Effect.unlink)
    (hA : ∀ f, Effect.unlink f ∉ A) : ∃ R, A' = A ++ R := by
  rcases List.append_eq_append_iff.mp h with ⟨a', h1, _⟩ | ⟨c', h1, h2⟩
  · exact ⟨a', h1⟩
  · cases c' with
    | nil => exact ⟨[], by simpa using h1.symm⟩
    | cons x xs =>
      exfalso
      have hx : x ∈ U'.map Effect.unlink := by rw [h2]; simp
      obtain ⟨f, _, rfl⟩ := List.mem_map.mp hx
      exact hA f (by rw [h1]; simp)

theorem gc_decomp (g : Geom) (hB : g.B ≤ 65542) {l : Log} {J : List JE} {D : Image} (h : CInv g l J D)
    (order : List Bytes) (hfits : ∀ j ∈ J ++ gcJ g l order, C07.WF j.e)
    (htorn : TornEffs (runGc g l order).2.1) :
    ∃ (A : List Effect) (U : List Nat), (runGc g l order).2.1 = A ++ U.map Effect.unlink ∧
      (∀ f, Effect.unlink f ∉ A) ∧
      (∀ X, L.CutW false D A X → ∀ policy, ∃ lp e0 io, recoverPre g X policy none = .ok (lp, e0, io) ∧
        QsEquiv lp.queues l.queues) := by
  rcases runGc_full g l order with ⟨hr1, hr2⟩ | ⟨names, hnm, hr1, hr2⟩
  · refine ⟨[], [], by rw [hr1]; simp, (fun f hf => by cases hf), ?_⟩
    intro X hX policy
    rw [hX.nil_inv]
    exact preRes_of_cinv g hB h (fun j hj => hfits j (List.mem_append_left _ hj)) policy
  · have hnames : ∀ n ∈ names, n ∈ l.queues.emptyNames := fun n hn =>
      (mem_gcNames h.jinv.h.inv.1 order n).mp (hnm ▸ hn)
    rw [hr1] at hfits
    have heff : (runGc g l order).2.1 =
        ((writeTouches g l names).2.1 ++ (writeTouches g l names).1.persistEffects .flushAndFsync) ++
        (gcFiles ((writeTouches g l names).1.canDelete l.cur) (writeTouches g l names).1.files).2.map Effect.unlink := by
      rw [hr2]
    have hpre : ∀ X, L.CutW false D (writeTouches g l names).2.1 X → ∀ policy,
        ∃ lp e0 io, recoverPre g X policy none = .ok (lp, e0, io) ∧ QsEquiv lp.queues l.queues :=
      L.touch_phase_exact g hB h names hnames hfits
        (htorn.mono fun v hv => by rw [heff]; exact List.mem_append_left _ (List.mem_append_left _ hv))
    refine ⟨_, _, heff, ?_, ?_⟩
    · intro f hf
      rcases List.mem_append.mp hf with hf | hf
      · exact no_unlink_of_unlinked (Step.writeTouches_unlinked g names _) f hf
      · exact no_unlink_syncL (isSyncL_persist _ _) f hf
    · intro X hX
      rcases L.CutW.of_append _ hX with hX | hX
      · exact hpre X hX
      · rw [cut_syncL (isSyncL_persist _ _) hX]
        exact hpre _ (L.CutW.full false _ _)

/-- A call, decomposed: its effects are writes `A`, unlinks `U` and syncs `S`. A crash inside `A`
    gives the queues before or after (`PreRes`); `S` changes no image. After some of the unlinks
    `QsEquiv` weakens to `AbsEq` (`L.Carry.unlink_phase_crash`). -/
theorem step_decomp (g : Geom) (hB : g.B ≤ 65542) {l : Log} {J : List JE} {D : Image} (h : CInv g l J D)
    (c : Call) (tick : Bool) (order : List Bytes)
    (hfits : ∀ j ∈ J ++ l.stepJ g c order, C07.WF j.e)
    (htorn : TornEffs (l.step g c tick order).2.2) :
    ∃ (A : List Effect) (U : List Nat) (S : List Effect),
      (l.step g c tick order).2.2 = A ++ U.map Effect.unlink ++ S ∧
      (∀ f, Effect.unlink f ∉ A) ∧ IsSyncL S ∧
      (∀ X, L.CutW false D A X → PreRes g l.queues (l.step g c tick order).1.queues X) ∧
      PreRes g l.queues (l.step g c tick order).1.queues (applyOsOps D (directOps (l.step g c tick order).2.2)) := by
  have hfin : PreRes g l.queues (l.step g c tick order).1.queues
      (applyOsOps D (directOps (l.step g c tick order).2.2)) := by
    intro policy
    obtain ⟨lp, e0, io, hrec, hq⟩ := preRes_of_cinv g hB (cinv_step g h c tick order) hfits policy
    exact ⟨lp, e0, io, hrec, Or.inr hq⟩
  rcases step_full g l c tick order with
    ⟨hj, hl, hsy⟩ | ⟨e, qs', sy, hok, hre, hsy, (⟨hj, hl, heff⟩ | ⟨hj, hl, heff⟩)⟩
  · -- nothing written
    refine ⟨[], [], (l.step g c tick order).2.2, by simp, (fun f hf => by cases hf), hsy, ?_, hfin⟩
    intro X hX policy
    rw [hX.nil_inv]
    obtain ⟨lp, e0, io, hrec, hq⟩ :=
      preRes_of_cinv g hB h (fun j hj => hfits j (List.mem_append_left _ hj)) policy
    exact ⟨lp, e0, io, hrec, Or.inl hq⟩
  · -- one entry, no GC
    rw [hj] at hfits
    refine ⟨(Log.writeEntry g l e).2.1, [], sy, by rw [heff]; simp,
      no_unlink_of_unlinked (Step.writeEntry_unlinked g l e), hsy, ?_, hfin⟩
    rw [hl]
    exact L.entry_phase_exact g hB h e qs' hok.wf hre hfits
      (htorn.mono fun v hv => by rw [heff]; exact List.mem_append_left _ hv)
  · -- one entry, then the GC pass on the state the write leaves
    have hq' : (runGc g { (Log.writeEntry g l e).1 with queues := qs' } order).1.queues = qs' :=
      Step.runGc_queues g _ order
    rw [hl, hq']
    have h2 := cinv_write g h e qs' hok.wf hre
    have hfits2 : ∀ j ∈ J ++ [l.je g e] ++ gcJ g { (Log.writeEntry g l e).1 with queues := qs' } order,
        C07.WF j.e := fun j hj' => hfits j (by rw [hj]; simpa using hj')
    obtain ⟨A2, U, heff2, hnu2, hpre2⟩ := gc_decomp g hB h2 order hfits2
      (htorn.mono fun v hv => by
        rw [heff]; exact List.mem_append_left _ (List.mem_append_right _ hv))
    refine ⟨(Log.writeEntry g l e).2.1 ++ A2, U, sy, by rw [heff, heff2]; simp only [List.append_assoc],
      ?_, hsy, ?_, by rw [hl, hq'] at hfin; exact hfin⟩
    · intro f hf
      rcases List.mem_append.mp hf with hf | hf
      · exact no_unlink_of_unlinked (Step.writeEntry_unlinked g l e) f hf
      · exact hnu2 f hf
    · intro X hX policy
      rcases L.CutW.of_append _ hX with hX | hX
      · exact L.entry_phase_exact g hB h e qs' hok.wf hre
          (fun j hj' => hfits2 j (List.mem_append_left _ hj'))
          (htorn.mono fun v hv => by
            rw [heff]; exact List.mem_append_left _ (List.mem_append_left _ hv)) X hX policy
      · obtain ⟨lp, e0, io, hrec, hq⟩ := hpre2 X hX policy
        exact ⟨lp, e0, io, hrec, Or.inr hq⟩

end MRL.H
