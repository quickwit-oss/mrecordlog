/-
The rolling writer keeps the `BufWriter` discipline that `Buf.run` checks: the buffer is clean, or dirty
exactly up to the writer's cursor (`C14.Clean`), before and after every part of a call (`C14.along_Disc`).
With `Buf.flushed_image` this makes the disk after a flush the unbuffered application of the effects.
-/
import MRL.Proofs.StepLemmas
import MRL.Proofs.StepBuf

namespace MRL.C14
open MRL.Log MRL.Step

variable (g : Geom)

/-- abstract buffer states compatible with a log: clean, or dirty up to the writer's cursor -/
def Clean (l : Log) (st : Buf.St) : Prop := st = none ∨ st = some (l.cur, l.off)

/-- `es` keeps the discipline from any state compatible with `l`, ending compatible with `l'` -/
def Disc (l : Log) (es : List Effect) (l' : Log) : Prop :=
  ∀ st, Clean l st → ∃ st', Buf.run st es = some st' ∧ Clean l' st'

theorem Disc.same {l l' : Log} (hc : l'.cur = l.cur) (ho : l'.off = l.off) : Disc l [] l' := by
  intro st h
  exact ⟨st, rfl, by unfold Clean at *; rw [hc, ho]; exact h⟩

theorem Disc.trans {l l1 l2 : Log} {a b : List Effect} (h1 : Disc l a l1) (h2 : Disc l1 b l2) :
    Disc l (a ++ b) l2 := by
  intro st h
  obtain ⟨st1, hr1, hc1⟩ := h1 st h
  obtain ⟨st2, hr2, hc2⟩ := h2 st1 hc1
  exact ⟨st2, by rw [Buf.run_append, hr1]; exact hr2, hc2⟩

theorem persist_Disc (l : Log) (a : PersistAction) : Disc l (l.persistEffects a) l := by
  intro st _
  exact ⟨none, by cases a <;> rfl, .inl rfl⟩

theorem unlinks_run (fs : List Nat) : Buf.run none (fs.map Effect.unlink) = some none := by
  induction fs with
  | nil => rfl
  | cons f fs ih => simp [Buf.run, Buf.run1, ih]

theorem run_write {st : Buf.St} {f off : Nat} {data : Bytes} (hd : data ≠ [])
    (hs : st = none ∨ st = some (f, off)) : Buf.run st [.write f off data] = some (some (f, off + data.length)) := by
  rw [Buf.run, Buf.run1, if_pos ⟨hd, hs⟩]; rfl

theorem writeBuf_Disc (l : Log) (buf : Bytes) : Disc l (writeBuf g l buf).2 (writeBuf g l buf).1 := by
  rcases writeBuf_cases g l buf with ⟨_, h⟩ | ⟨hb, _, h⟩ | ⟨hb, _, nf, _, h⟩ | ⟨hb, _, _, h⟩ <;> rw [h]
  · exact Disc.same rfl rfl
  · intro st hst
    exact ⟨_, run_write hb hst, .inr rfl⟩
  -- a roll-over flushes first: the buffer is clean when the write at offset 0 comes
  · intro st _
    exact ⟨_, run_write hb (.inl rfl), .inr (by rw [Nat.zero_add])⟩
  · intro st _
    exact ⟨_, run_write hb (.inl rfl), .inr (by rw [Nat.zero_add])⟩

/-- every part of a call keeps the buffer discipline; the unlinks of a GC pass come after its sync,
    when the buffer is clean -/
theorem along_Disc : AlongCall g fun l es _ l' => Disc l es l' :=
  Along.call ⟨fun _ => Disc.same rfl rfl, Disc.trans, writeBuf_Disc g⟩
    (sync := persist_Disc) (queues := fun _ _ => Disc.same rfl rfl)
    (unlinks := fun l _ st _ =>
      ⟨none, by rw [Buf.run_append, show Buf.run st _ = some none from rfl]; exact unlinks_run _, .inl rfl⟩)

theorem runGc_Disc (l : Log) (order : List Bytes) : Disc l (runGc g l order).2.1 (runGc g l order).1 :=
  (along_Disc g).runGc l order

theorem step_Disc (l : Log) (c : Call) (tick : Bool) (order : List Bytes) :
    Disc l (Log.step g l c tick order).2.2 (Log.step g l c tick order).1 :=
  (along_Disc g).step l c tick order

end MRL.C14
