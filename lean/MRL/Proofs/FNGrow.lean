/-
File numbers along the write path. `C10.Bnd M l`: the current file and every tracked file of `l` are at
most `M`; `crs es` counts the `create` effects of `es`, the roll-overs that open a NEW file. Emitting `es`
from `Bnd M l` leaves `Bnd (M + crs es) l'`, with every file created within that bound (`Grow`): proved for
one buffer and carried along a call by `Step.AlongCall`. Roll-overs are counted in two ways: an empty
buffer never rolls (`crs ≤` the bytes the code reports), and a buffer rolls at most once (`crs ≤` number of
buffers, `gcBufCount` of the twin in `Model/Panic.lean`). The twin of the writer reports an overflow
exactly when a roll-over into a new file starts from `u64::MAX`, which takes the `Nat` model beyond
`u64::MAX` (`runGcPanics_cur`): so there is no overflow while `M + crs es` fits. Last, the keys of an image
only grow by `create` operations, so every crash image is bounded by `M + crs es` as well.
-/
import MRL.Model.Panic
import MRL.Model.Disk
import MRL.Proofs.StepGc
import MRL.Proofs.ImageOps

namespace MRL.C10

/-- `M` bounds the file being written and every file the `FileTracker` tracks -/
def Bnd (M : Nat) (l : Log) : Prop := l.cur ≤ M ∧ ∀ f ∈ l.files, f ≤ M

theorem Bnd.mono {M M' : Nat} {l : Log} (h : Bnd M l) (hm : M ≤ M') : Bnd M' l :=
  ⟨Nat.le_trans h.1 hm, fun f hf => Nat.le_trans (h.2 f hf) hm⟩

/-! what `C05B` and `C10` both need of the twins of `Model/Panic.lean`, and the tiny geometry of their
    witnesses -/

/-- `truncate_head(..=p)` below `u64::MAX` on a queue that is not poisoned: neither `p + 1` nor
    `next_position()` overflows -/
theorem truncatePanics_false {q : MemQueue} {p : Nat} (hq : q.poisoned = false) (hp : p < U64MAX) :
    truncatePanics q p = false := by
  unfold truncatePanics
  by_cases hs : q.start > p
  · rw [if_pos hs]
  · rw [if_neg hs, hq, Bool.or_false]; exact decide_eq_false (Nat.not_le.mpr hp)

def g19 : Geom := { B := 19, K := 1, hB := by decide, hK := by decide }

/-- in `g19` a 12-byte entry written at a block start is one frame of 19 bytes: a whole file -/
theorem entryBufsOf_g19 (l : Log) (e : Entry) (hlen : e.encode.length = 12) (hoff : l.off % 19 = 0) :
    entryBufsOf g19 l e = [encodeFrame .full e.encode] ∧ (encodeFrame .full e.encode).length = 19 ∧
    (encodeFrame .full e.encode).isEmpty = false := by
  have hl : (encodeFrame .full e.encode).length = 19 := by rw [Codec.length_encodeFrame, hlen]
  refine ⟨Step.entryBufs_one g19 l e (by rw [hlen, show g19.B = 19 from rfl, hoff]; decide), hl, ?_⟩
  cases h : encodeFrame .full e.encode with
  | nil => rw [h] at hl; cases hl
  | cons a b => rfl

end MRL.C10

namespace MRL.FN
open Log

def isCreate : Effect → Bool
  | .create _ => true
  | _ => false

/-- the roll-overs of `es` that open a NEW file (`FileTracker::inc`, the only `u64` addition on
    file numbers): its `create` effects -/
def crs (es : List Effect) : Nat := (es.filter isCreate).length

theorem crs_nil : crs [] = 0 := rfl

theorem crs_append (a b : List Effect) : crs (a ++ b) = crs a + crs b := by
  simp only [crs, List.filter_append, List.length_append]

def CrLe (M : Nat) (es : List Effect) : Prop := ∀ f, Effect.create f ∈ es → f ≤ M

theorem CrLe.mono {M M' : Nat} {es : List Effect} (h : CrLe M es) (hm : M ≤ M') : CrLe M' es :=
  fun f hf => Nat.le_trans (h f hf) hm

theorem CrLe.append {M : Nat} {a b : List Effect} (ha : CrLe M a) (hb : CrLe M b) : CrLe M (a ++ b) := by
  intro f hf
  rcases List.mem_append.mp hf with hf | hf
  · exact ha f hf
  · exact hb f hf

def NoCreate (es : List Effect) : Prop := ∀ f, Effect.create f ∉ es

theorem NoCreate.crs {es : List Effect} (h : NoCreate es) : crs es = 0 := by
  unfold FN.crs
  rw [List.length_eq_zero_iff, List.filter_eq_nil_iff]
  intro e he hc
  match e, hc with
  | .create f, _ => exact h f he

theorem NoCreate.append {a b : List Effect} (ha : NoCreate a) (hb : NoCreate b) : NoCreate (a ++ b) :=
  fun f hf => (List.mem_append.mp hf).elim (ha f) (hb f)

def Grow (M : Nat) (l' : Log) (es : List Effect) : Prop :=
  C10.Bnd (M + crs es) l' ∧ CrLe (M + crs es) es

theorem Grow.of {M k : Nat} {l' : Log} {es : List Effect} (hk : crs es = k) (hb : C10.Bnd (M + k) l')
    (hc : CrLe (M + k) es) : Grow M l' es := by
  subst hk; exact ⟨hb, hc⟩

theorem Grow.refl {M : Nat} {l : Log} (h : C10.Bnd M l) : Grow M l [] := ⟨h, fun _ hf => by cases hf⟩

theorem Grow.seq {M : Nat} {l1 l2 : Log} {e1 e2 : List Effect} (h1 : Grow M l1 e1)
    (h2 : Grow (M + crs e1) l2 e2) : Grow M l2 (e1 ++ e2) := by
  unfold Grow at *
  rw [crs_append, ← Nat.add_assoc]
  exact ⟨h2.1, (h1.2.mono (Nat.le_add_right _ _)).append h2.2⟩

theorem Grow.tail {M : Nat} {l1 l2 : Log} {e1 e2 : List Effect} (h1 : Grow M l1 e1)
    (hn : NoCreate e2) (hb : ∀ K, C10.Bnd K l1 → C10.Bnd K l2) : Grow M l2 (e1 ++ e2) :=
  h1.seq (.of hn.crs (hb _ h1.1) (fun f hf => absurd hf (hn f)))

section
variable (g : Geom)

theorem persist_no_create (l : Log) (a : PersistAction) : NoCreate (l.persistEffects a) := by
  intro f hf
  cases a <;> simp [persistEffects] at hf

theorem policy_no_create (l : Log) (tick : Bool) : ∀ f, Effect.create f ∉ l.policyEffects tick := by
  intro f hf
  rcases Step.policyEffects_isSync l tick with h | ⟨a, h⟩
  · rw [h] at hf; cases hf
  · rw [h] at hf; exact persist_no_create l a f hf

theorem writeBuf_grow (l : Log) (buf : Bytes) (M : Nat) (h : C10.Bnd M l) :
    Grow M (writeBuf g l buf).1 (writeBuf g l buf).2 ∧ crs (writeBuf g l buf).2 ≤ buf.length := by
  rcases Step.writeBuf_cases g l buf with ⟨_, e⟩ | ⟨_, _, e⟩ | ⟨_, _, nf, hnf, e⟩ | ⟨hb, _, _, e⟩ <;> rw [e]
  · exact ⟨Grow.refl h, Nat.zero_le _⟩
  · exact ⟨.of (k := 0) rfl h (fun f hf => by simp at hf), Nat.zero_le _⟩
  · exact ⟨.of (k := 0) rfl ⟨h.2 nf (nextFile_some hnf).1, h.2⟩ (fun f hf => by simp at hf), Nat.zero_le _⟩
  · have hnew : l.cur + 1 ≤ M + 1 := Nat.succ_le_succ h.1
    refine ⟨.of (k := 1) rfl ⟨hnew, fun f hf => ?_⟩ (fun f hf => ?_), List.length_pos_iff.mpr hb⟩
    · rcases List.mem_append.mp hf with hf | hf
      · exact Nat.le_succ_of_le (h.2 f hf)
      · rw [List.mem_singleton.mp hf]; exact hnew
    · simp at hf
      rw [hf]; exact hnew

def GrowN (l : Log) (es : List Effect) (n : Nat) (l' : Log) : Prop :=
  ∀ M, C10.Bnd M l → Grow M l' es ∧ crs es ≤ n

theorem GrowN.tail {l l' : Log} {es : List Effect} (hn : NoCreate es) (hb : ∀ K, C10.Bnd K l → C10.Bnd K l') :
    GrowN l es 0 l' :=
  fun _ h => ⟨(Grow.refl h).tail hn hb, Nat.le_of_eq hn.crs⟩

/-- every roll-over into a new file is caused by a non-empty buffer; the final sync and the unlinks
    create nothing, and unlinking only removes tracked files -/
theorem along_grow : Step.AlongCall g GrowN :=
  Step.Along.call
    { nil := fun _ _ h => ⟨Grow.refl h, Nat.le_refl _⟩
      app := fun h1 h2 M hM => by
        obtain ⟨g1, c1⟩ := h1 M hM
        obtain ⟨g2, c2⟩ := h2 _ g1.1
        exact ⟨g1.seq g2, by rw [crs_append]; exact Nat.add_le_add c1 c2⟩
      buf := writeBuf_grow g }
    (sync := fun l a => .tail (persist_no_create l a) fun _ hK => hK)
    (queues := fun _ _ => .tail (fun _ hf => nomatch hf) fun _ hK => hK)
    (unlinks := fun l pinned => .tail
      ((persist_no_create _ _).append fun f hf => by
        obtain ⟨x, _, hx⟩ := List.mem_map.mp hf
        cases hx)
      fun K hK => ⟨hK.1, fun f hf => hK.2 f (by
        rw [← Step.gcFiles_split (l.canDelete pinned) l.files]; exact List.mem_append_right _ hf)⟩)

/-! a buffer rolls at most once: the second way of counting, against the twin's `gcBufCount` -/

theorem writeBufs_crs_le (bufs : List Bytes) : ∀ l : Log, crs (writeBufs g l bufs).2 ≤ bufs.length := by
  induction bufs with
  | nil => intro l; exact Nat.zero_le _
  | cons b bs ih =>
    intro l
    rw [Step.writeBufs_cons, crs_append, List.length_cons, Nat.add_comm]
    refine Nat.add_le_add (ih _) ?_
    rcases Step.writeBuf_cases g l b with ⟨_, e⟩ | ⟨_, _, e⟩ | ⟨_, _, _, _, e⟩ | ⟨_, _, _, e⟩ <;> rw [e] <;>
      first | exact Nat.zero_le 1 | exact Nat.le_refl 1

theorem entryBufsOf_eq (l : Log) (e : Entry) : entryBufsOf g l e = Step.entryBufs g l e := rfl

theorem touchOf_eq (l : Log) (name : Bytes) : touchOf l name = Step.touchEntry l name := rfl

theorem writeTouches_crs_le (names : List Bytes) : ∀ l : Log,
    crs (writeTouches g l names).2.1 ≤ touchBufCount g l names := by
  induction names with
  | nil => intro l; exact Nat.zero_le _
  | cons nm ns ih =>
    intro l
    rw [Step.writeTouches_cons]
    simp only [touchBufCount, touchOf_eq, crs_append]
    exact Nat.add_le_add (writeBufs_crs_le g _ l) (ih _)

theorem runGc_names (l : Log) (order : List Bytes) :
    (runGc g l order = (l, [], 0) ∧ gcNamesOf l order = []) ∨
    (runGc g l order = Step.gcResult g l order ∧ gcNamesOf l order = Step.gcNames l order) := by
  rcases Step.runGc_trichotomy g l order with ⟨hr, f, f', rest, hf, hd⟩ | ⟨hr, f, f', rest, hf, hd⟩ | ⟨hr, hf⟩
  · exact .inr ⟨hr, by simp only [gcNamesOf, hf, hd, if_true, Step.gcNames]⟩
  · exact .inl ⟨hr, by simp only [gcNamesOf, hf, hd, Bool.false_eq_true, if_false]⟩
  · refine .inl ⟨hr, ?_⟩
    unfold gcNamesOf
    split
    · rename_i f f' rest hfs; exact absurd hfs (hf f f' rest)
    · rfl

theorem runGc_grow (l : Log) (order : List Bytes) (M : Nat) (h : C10.Bnd M l) :
    Grow M (runGc g l order).1 (runGc g l order).2.1 ∧
      crs (runGc g l order).2.1 ≤ gcBufCount g l order := by
  refine ⟨((along_grow g).runGc l order M h).1, ?_⟩
  rcases runGc_names g l order with ⟨hr, _⟩ | ⟨hr, hn⟩
  · rw [hr]; exact Nat.zero_le _
  · have hnc : ∀ l' : Log, NoCreate (l'.persistEffects .flushAndFsync ++
        (gcFiles (l'.canDelete l.cur) l'.files).2.map Effect.unlink) := fun l' =>
      (persist_no_create _ _).append fun f hf => by
        obtain ⟨x, _, hx⟩ := List.mem_map.mp hf
        cases hx
    rw [hr, gcBufCount, hn]
    simp only [Step.gcResult, List.append_assoc, crs_append, (hnc _).crs, Nat.add_zero]
    exact writeTouches_crs_le g _ l

theorem step_grow (l : Log) (c : Call) (tick : Bool) (order : List Bytes) (M : Nat) (h : C10.Bnd M l) :
    Grow M (step g l c tick order).1 (step g l c tick order).2.2 ∧
      crs (step g l c tick order).2.2 ≤ Step.outBytes (step g l c tick order).2.1 :=
  (along_grow g).step l c tick order M h

theorem writeBufPanics_cur (l : Log) (buf : Bytes) (h : writeBufPanics g l buf = true) :
    U64MAX < (writeBuf g l buf).1.cur := by
  unfold writeBufPanics at h
  simp only [Bool.and_eq_true, Bool.not_eq_true', decide_eq_true_eq, Option.isNone_iff_eq_none] at h
  obtain ⟨⟨⟨h1, h2⟩, h3⟩, h4⟩ := h
  simp only [writeBuf, h1, Bool.false_eq_true, if_false, h2, if_true, h3]
  omega

theorem writeBufsPanics_cur (bufs : List Bytes) : ∀ l : Log, writeBufsPanics g l bufs = true →
    U64MAX < (writeBufs g l bufs).1.cur := by
  induction bufs with
  | nil => intro l h; cases h
  | cons b bs ih =>
    intro l h
    rw [Step.writeBufs_cons]
    simp only [writeBufsPanics, Bool.or_eq_true] at h
    rcases h with h | h
    · exact Nat.lt_of_lt_of_le (writeBufPanics_cur g l b h) (Step.writeBufs_cur_le g bs _)
    · exact ih _ h

theorem writeEntryPanics_cur (l : Log) (e : Entry) (h : writeEntryPanics g l e = true) :
    U64MAX < (l.writeEntry g e).1.cur :=
  writeBufsPanics_cur g _ l h

theorem writeTouchesPanics_cur (names : List Bytes) : ∀ l : Log, writeTouchesPanics g l names = true →
    U64MAX < (writeTouches g l names).1.cur := by
  induction names with
  | nil => intro l h; cases h
  | cons n ns ih =>
    intro l h
    rw [Step.writeTouches_cons]
    simp only [writeTouchesPanics, Bool.or_eq_true] at h
    rcases h with h | h
    · exact Nat.lt_of_lt_of_le (writeEntryPanics_cur g l _ h) (Step.writeTouches_cur_le g ns _)
    · exact ih _ h

theorem runGcPanics_cur (l : Log) (order : List Bytes) (h : runGcPanics g l order = true) :
    U64MAX < (runGc g l order).1.cur := by
  unfold runGcPanics at h
  rcases runGc_names g l order with ⟨_, hn⟩ | ⟨hr, hn⟩
  · rw [hn] at h; cases h
  · rw [hn] at h
    rw [hr]
    exact writeTouchesPanics_cur g (Step.gcNames l order) l h

/-- the form in which the twin's tests are discharged: the `Nat` model stayed within `u64` -/
theorem writeEntryPanics_false (l : Log) (e : Entry) (h : (l.writeEntry g e).1.cur ≤ U64MAX) :
    writeEntryPanics g l e = false := by
  cases hp : writeEntryPanics g l e with
  | false => rfl
  | true => exact absurd (writeEntryPanics_cur g l e hp) (Nat.not_lt.mpr h)

theorem runGcPanics_false (l : Log) (order : List Bytes) (h : (runGc g l order).1.cur ≤ U64MAX) :
    runGcPanics g l order = false := by
  cases hp : runGcPanics g l order with
  | false => rfl
  | true => exact absurd (runGcPanics_cur g l order hp) (Nat.not_lt.mpr h)

end

def KeysLe (M : Nat) (img : Image) : Prop := ∀ f ∈ img.map (·.1), f ≤ M

theorem KeysLe.mono {M M' : Nat} {img : Image} (h : KeysLe M img) (hm : M ≤ M') : KeysLe M' img :=
  fun f hf => Nat.le_trans (h f hf) hm

theorem KeysLe.nil (M : Nat) : KeysLe M [] := fun _ h => by cases h

theorem insertFile_keys (img : Image) (f : Nat) (c : Bytes) :
    ∀ x ∈ (insertFile img f c).map (·.1), x = f ∨ x ∈ img.map (·.1) := fun x hx => by
  obtain ⟨kv, hkv, rfl⟩ := List.mem_map.mp hx
  rcases ImageOps.mem_insertFile_imp hkv with h | rfl
  · exact .inr (List.mem_map.mpr ⟨kv, h, rfl⟩)
  · exact .inl rfl

/-- only `create` adds a key -/
theorem applyOs_keys {M : Nat} {img : Image} (h : KeysLe M img) (op : OsOp)
    (hop : ∀ f, op = .create f → f ≤ M) : KeysLe M (applyOs img op) := by
  cases op with
  | write f off data => intro x hx; simp only [applyOs, ImageOps.mapFile_keys] at hx; exact h x hx
  | setLen f n => intro x hx; simp only [applyOs, ImageOps.mapFile_keys] at hx; exact h x hx
  | ensureLen f n => intro x hx; simp only [applyOs, ImageOps.mapFile_keys] at hx; exact h x hx
  | sync => exact h
  | unlink f =>
    intro x hx
    simp only [applyOs] at hx
    obtain ⟨kv, hkv, rfl⟩ := List.mem_map.mp hx
    exact h _ (List.mem_map.mpr ⟨kv, (List.mem_filter.mp hkv).1, rfl⟩)
  | create f =>
    intro x hx
    simp only [applyOs] at hx
    rcases insertFile_keys img f [] x hx with rfl | hx
    · exact hop _ rfl
    · exact h x hx

theorem applyOsOps_keys (ops : List OsOp) : ∀ {M : Nat} {img : Image}, KeysLe M img →
    (∀ f, OsOp.create f ∈ ops → f ≤ M) → KeysLe M (applyOsOps img ops) := by
  induction ops with
  | nil => intro M img h _; exact h
  | cons op ops ih =>
    intro M img h hc
    show KeysLe M (applyOsOps (applyOs img op) ops)
    exact ih (applyOs_keys h op (fun f hf => hc f (hf ▸ List.mem_cons_self)))
      (fun f hf => hc f (List.mem_cons_of_mem _ hf))

theorem crashImage_keys {M : Nat} {img : Image} (ops : List OsOp) (k cut : Nat) (h : KeysLe M img)
    (hc : ∀ f, OsOp.create f ∈ ops → f ≤ M) : KeysLe M (crashImage img ops k cut) := by
  have hb : KeysLe M (applyOsOps img (ops.take k)) :=
    applyOsOps_keys _ h (fun f hf => hc f (List.mem_of_mem_take hf))
  unfold crashImage
  simp only
  split
  · exact applyOs_keys hb _ (fun f hf => by cases hf)
  · exact hb

theorem flushOps_no_create (b : BufSt) : ∀ f, OsOp.create f ∉ b.flushOps := by
  intro f hf
  unfold BufSt.flushOps at hf
  split at hf
  · cases hf
  · simp at hf

theorem bufStep_creates (cap : Nat) (b : BufSt) (e : Effect) (f : Nat)
    (h : OsOp.create f ∈ (bufStep cap b e).2) : e = .create f := by
  cases e with
  | write f' off data =>
    exfalso
    simp only [bufStep] at h
    by_cases h1 : data.length < cap - b.pend.length
    · simp [h1] at h
    · by_cases h2 : data.length > cap - b.pend.length <;> by_cases h3 : data.length ≥ cap <;>
        simp [h1, h2, h3] at h <;> exact flushOps_no_create b f h
  | flush => exact absurd h (flushOps_no_create b f)
  | create f' => simp [bufStep] at h; rw [h]
  | fsyncFile _ => simp [bufStep] at h
  | fsyncDir => simp [bufStep] at h
  | setLen _ _ => simp [bufStep] at h
  | ensureLen _ _ => simp [bufStep] at h
  | unlink _ => simp [bufStep] at h
  | listDir => simp [bufStep] at h
  | openFile _ => simp [bufStep] at h
  | readBlock _ => simp [bufStep] at h

theorem toOsOps_creates (cap : Nat) (es : List Effect) : ∀ (b : BufSt) (f : Nat),
    OsOp.create f ∈ (toOsOps cap b es).2 → Effect.create f ∈ es := by
  induction es with
  | nil => intro b f h; cases h
  | cons e es ih =>
    intro b f h
    simp only [toOsOps, List.mem_append] at h
    rcases h with h | h
    · rw [bufStep_creates cap b e f h]; exact List.mem_cons_self
    · exact List.mem_cons_of_mem _ (ih _ f h)

theorem effects_keys {M : Nat} {img : Image} (cap : Nat) (b : BufSt) (es : List Effect) (h : KeysLe M img)
    (hc : CrLe M es) :
    KeysLe M (applyOsOps img (toOsOps cap b es).2) ∧
    ∀ k cut, KeysLe M (crashImage img (toOsOps cap b es).2 k cut) :=
  ⟨applyOsOps_keys _ h (fun f hf => hc f (toOsOps_creates cap es b f hf)),
   fun k cut => crashImage_keys _ k cut h (fun f hf => hc f (toOsOps_creates cap es b f hf))⟩

end MRL.FN
