/-
What each event of a history does, as one list: the history functions of `PXRun.lean` (`effsX`, `jourX`,
`logX`, also on a prefix of the events) are projections of it, so a concrete history is evaluated once.
-/
import MRL.Proofs.PXRun

namespace MRL.PX

/-- per event: the log after it, its effects, its journal entries -/
def trace (g : Geom) : Log → Image → List Ev → List (Log × List Effect × List JE)
  | _, _, [] => []
  | l, D, e :: es => (evLog g l D e, evEffs g l D e, evJ g l D e) :: trace g (evLog g l D e) (evDisk g l D e) es

theorem effsX_trace (g : Geom) (evs : List Ev) : ∀ (l : Log) (D : Image),
    effsX g l D evs = ((trace g l D evs).map (·.2.1)).flatten := by
  induction evs with
  | nil => intro l D; rfl
  | cons e es ih => intro l D; simp only [effsX, trace, List.map_cons, List.flatten_cons, ih]

theorem jourX_trace (g : Geom) (evs : List Ev) : ∀ (l : Log) (D : Image),
    jourX g l D evs = ((trace g l D evs).map (·.2.2)).flatten := by
  induction evs with
  | nil => intro l D; rfl
  | cons e es ih => intro l D; simp only [jourX, trace, List.map_cons, List.flatten_cons, ih]

theorem logX_trace (g : Geom) (evs : List Ev) : ∀ (l : Log) (D : Image),
    logX g l D evs = ((trace g l D evs).getLast?.map (·.1)).getD l := by
  induction evs with
  | nil => intro l D; rfl
  | cons e es ih =>
    intro l D
    rw [logX, trace, ih]
    cases h : trace g (evLog g l D e) (evDisk g l D e) es with
    | nil => rfl
    | cons a as => rw [List.getLast?_cons_cons, List.getLast?_eq_some_getLast (List.cons_ne_nil a as)]; rfl

theorem trace_take (g : Geom) (evs : List Ev) : ∀ (i : Nat) (l : Log) (D : Image),
    trace g l D (evs.take i) = (trace g l D evs).take i := by
  induction evs with
  | nil => intro i l D; simp [trace]
  | cons e es ih =>
    intro i l D
    cases i with
    | zero => rfl
    | succ i => simp only [List.take_succ_cons, trace, ih]

end MRL.PX
