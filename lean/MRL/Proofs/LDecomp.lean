/-
Every crash state of a GC pass and of a whole call, from a state satisfying the relaxed invariant: the
effects are a write part (the entry, the GC touches), the unlinks of the GC pass, and flush/fsync
effects that do not change the disk; at ANY byte `open` succeeds with the queues before or after, up to
the handles, and the recovered log satisfies the relaxed invariant again.
-/
import MRL.Proofs.DropReach
import MRL.Proofs.LPhase

namespace MRL.L
open Codec Consts G H Torn Log Buf C05 C01J

section
variable {N : Entry → Prop} {Q : List JE → MemQueues → Prop} (cq : Carry N Q) (g : Geom) (hB : g.B ≤ 65542)
include cq hB

/-- every crash state of a GC pass: inside the touches (`touch_phase_crash`), inside the flush that follows
    (the disk after all touches), or after `k` of the unlinks (`unlink_phase_crash`) -/
theorem Carry.gc_cut {l : Log} {J : List JE} {D : Image} (h : CInvX g l J D)
    (order : List Bytes) (hQ : Q J l.queues) (hn : ∀ j ∈ gcJ g l order, N j.e)
    (htorn : TornEffs (runGc g l order).2.1) (w : Bool) (X : Image)
    (hX : CutW w D (runGc g l order).2.1 X) :
    XInvResQ g Q l.queues l.queues X := by
  have hI := h.jinv.h.inv
  have hQgc : Q (J ++ gcJ g l order) l.queues :=
    cq.append hQ (QsWF.of_inv hI) (Drop.run_gc g l order hI.1) hn
  rcases runGc_full g l order with ⟨hr1, hr2⟩ | ⟨names, hnm, hr1, hr2⟩
  · rw [hr1] at hX
    rw [hX.nil_inv]
    exact cq.xinvres g hB h hQ
  · have hnames : ∀ n ∈ names, n ∈ l.queues.emptyNames := fun n hn => (mem_gcNames hI.1 order n).mp (hnm ▸ hn)
    rw [hr1] at hn hQgc
    have heff : (runGc g l order).2.1 =
        ((writeTouches g l names).2.1 ++ (writeTouches g l names).1.persistEffects .flushAndFsync) ++
        (gcFiles ((writeTouches g l names).1.canDelete l.cur) (writeTouches g l names).1.files).2.map Effect.unlink := by
      rw [hr2]
    have htorn2 : TornEffs (writeTouches g l names).2.1 := by
      apply htorn.mono
      intro v hv
      rw [heff]
      exact List.mem_append_left _ (List.mem_append_left _ hv)
    have hpre : ∀ (w : Bool) X, CutW w D (writeTouches g l names).2.1 X →
        XInvResQ g Q l.queues l.queues X := by
      intro w X hX
      refine cq.touch_phase_crash g hB (.of_cinvx h) names hnames (fun i => ?_) htorn2 w X hX
      rw [touchesJ_take]
      exact cq.append hQ (QsWF.of_inv hI) (Drop.run_touches g (names.take i) l hI.1
        (fun n hn => hnames n (List.mem_of_mem_take hn)))
        (fun j hj => hn j (by rw [← touchesJ_take] at hj; exact List.mem_of_mem_take hj))
    rw [heff] at hX
    rcases CutW.of_append _ hX with hX | hX
    · rcases CutW.of_append _ hX with hX | hX
      · exact hpre w X hX
      · have := cut_syncL (isSyncL_persist _ _) hX
        rw [this]
        exact hpre true _ (CutW.full true _ _)
    · obtain ⟨k, hk, hXe⟩ := cut_unlinks _ hX
      rw [hXe]
      have hD : applyOsOps D (directOps ((writeTouches g l names).2.1 ++
          (writeTouches g l names).1.persistEffects .flushAndFsync)) =
          applyOsOps D (directOps (writeTouches g l names).2.1) := by
        rw [directOps_append, applyOsOps_append, syncL_apply (isSyncL_persist _ _)]
      rw [hD]
      exact cq.unlink_phase_crash g hB h order names hr1 (by rw [hr2]) hQgc k hk

/-- every crash state of a call: inside the entry write, inside the GC pass that runs from the state after
    the entry, or after everything but trailing flushes -/
theorem Carry.call_cut {l : Log} {J : List JE} {D : Image} (h : CInvX g l J D)
    (c : Call) (tick : Bool) (order : List Bytes) (hQ : Q J l.queues)
    (hn : ∀ j ∈ l.stepJ g c order, N j.e)
    (htorn : TornEffs (l.step g c tick order).2.2) (w : Bool) (X : Image)
    (hX : CutW w D (l.step g c tick order).2.2 X) :
    XInvResQ g Q l.queues (l.step g c tick order).1.queues X := by
  have hI := h.jinv.h.inv
  have hfin : XInvResQ g Q l.queues (l.step g c tick order).1.queues
      (applyOsOps D (directOps (l.step g c tick order).2.2)) :=
    (cq.xinvres g hB (cinvx_step g h c tick order)
      (cq.append hQ (QsWF.of_inv hI) (Drop.run_step g l hI c tick order) hn)).of_same (.inr (.refl _))
  rcases step_full g l c tick order with ⟨hj, hl, hsy⟩ | ⟨e, qs', sy, hok, hre, hsy, hcase⟩
  · rw [cut_syncL hsy hX, hl]
    exact cq.xinvres g hB h hQ
  obtain ⟨rest, hrest⟩ : ∃ rest, l.stepJ g c order = l.je g e :: rest := by
    rcases hcase with ⟨hj, _⟩ | ⟨hj, _⟩ <;> exact ⟨_, hj⟩
  have hQ1 : Q (J ++ [l.je g e]) qs' := by
    refine cq.append hQ (QsWF.of_inv hI)
      (Drop.Run.cons hok hre Drop.Run.nil) fun j hj => ?_
    rw [List.mem_singleton.mp hj]
    exact hn _ (by rw [hrest]; exact List.mem_cons_self)
  rcases hcase with ⟨hj, hl, heff⟩ | ⟨hj, hl, heff⟩
  · -- one entry, no GC
    rw [hl] at hfin ⊢
    rw [heff] at hX htorn hfin
    rcases CutW.of_append _ hX with hX | hX
    · exact cq.entry_phase_crash g hB (.of_cinvx h) e qs' hok.wf hre hQ hQ1
        (htorn.mono fun v hv => List.mem_append_left _ hv) w X hX
    · rw [cut_syncL hsy hX]
      rwa [directOps_append, applyOsOps_append, syncL_apply hsy] at hfin
  · -- one entry, then a GC pass
    have hq' : (runGc g { (Log.writeEntry g l e).1 with queues := qs' } order).1.queues = qs' := Step.runGc_queues g _ order
    rw [hl] at hfin ⊢
    rw [hq'] at hfin ⊢
    rw [heff] at hX htorn hfin
    rcases CutW.of_append _ hX with hX | hX
    · rcases CutW.of_append _ hX with hX | hX
      · exact cq.entry_phase_crash g hB (.of_cinvx h) e qs' hok.wf hre hQ hQ1
          (htorn.mono fun v hv => List.mem_append_left _ (List.mem_append_left _ hv)) w X hX
      · exact (cq.gc_cut g hB (cinvx_write g h e qs' hok.wf hre) order hQ1
          (fun j hj' => hn j (by rw [hj]; exact List.mem_cons_of_mem _ hj'))
          (htorn.mono fun v hv => List.mem_append_left _ (List.mem_append_right _ hv)) w X hX).of_same (.inr (.refl _))
    · rw [cut_syncL hsy hX]
      rwa [directOps_append, applyOsOps_append, syncL_apply hsy] at hfin

end

end MRL.L
