/-
Writing one entry / the GC touches on a tape of items: the new invariant (the residue, if any, is
overwritten by the first frame), and EVERY crash state of the writes — at any byte — is a `DiskX`
disk for the journal without or with the entry being written, provided no frame of the entry collides
with its own torn forms (`H.TornEffs`, the clause on the effects; `H.writeBufs_mem` ties it to the frames).
-/
import MRL.Proofs.LClass
import MRL.Proofs.StepLemmas

namespace MRL.H
open Log

/-- the collision clause for the frames written by a list of effects -/
def TornEffs (es : List Effect) : Prop :=
  ∀ t p f off, Effect.write f off (encodeFrame t p) ∈ es → TornFrame t p

theorem TornEffs.mono {a b : List Effect} (h : TornEffs b) (hs : ∀ v ∈ a, v ∈ b) : TornEffs a :=
  fun t p f off hm => h t p f off (hs _ hm)

theorem writeBuf_mem (g : Geom) (l : Log) (b : Bytes) (hne : b ≠ []) :
    ∃ f off, Effect.write f off b ∈ (writeBuf g l b).2 := by
  have he : b.isEmpty = false := by cases b <;> simp_all
  unfold writeBuf
  simp only [he, Bool.false_eq_true, if_false]
  split
  · split
    · rename_i nf _; exact ⟨nf, 0, by simp⟩
    · exact ⟨l.cur + 1, 0, by simp⟩
  · exact ⟨l.cur, l.off, by simp⟩

theorem writeBufs_mem (g : Geom) (bufs : List Bytes) : ∀ (l : Log) (b : Bytes), b ∈ bufs → b ≠ [] →
    ∃ f off, Effect.write f off b ∈ (writeBufs g l bufs).2 := by
  induction bufs with
  | nil => intro l b hb; cases hb
  | cons x bs ih =>
    intro l b hb hne
    rw [Step.writeBufs_cons]
    rcases List.mem_cons.mp hb with rfl | hb
    · obtain ⟨f, off, h⟩ := writeBuf_mem g l b hne
      exact ⟨f, off, List.mem_append_left _ h⟩
    · obtain ⟨f, off, h⟩ := ih (writeBuf g l x).1 b hb hne
      exact ⟨f, off, List.mem_append_right _ h⟩

end MRL.H

namespace MRL.L
open Codec Consts G H Torn Log Buf

theorem SegsX.snoc_dead {F : Nat} {J : List JE} {ais items : List AItm} (h : SegsX F J ais)
    (hd : GrpOK (none, items)) : SegsX F J (ais ++ items) := by
  obtain ⟨lead, gs, h1, h2, h3, h4⟩ := h
  exact ((⟨h1, h2, h3, h4⟩ : SegsW F J ais lead gs).snoc_dead hd).segsX

theorem SegsX.snoc_live {F : Nat} {J : List JE} {ais items : List AItm} {j : JE} (h : SegsX F J ais)
    (hj : GrpOK (some j, items)) (hF : F ≤ j.loc) : SegsX F (J ++ [j]) (ais ++ items) := by
  obtain ⟨lead, gs, h1, h2, h3, h4⟩ := h
  exact ((⟨h1, h2, h3, h4⟩ : SegsW F J ais lead gs).snoc_live hj hF).segsX

theorem layoutBufs_head (g : Geom) {c : Nat} (hroom : 7 ≤ g.B - c) {fs : List Frm} {b : Bytes} {bs : List Bytes}
    (hb : layoutBufs g c fs = b :: bs) : 7 ≤ b.length := by
  cases fs with
  | nil => cases hb
  | cons fr fs' =>
    simp only [layoutBufs, frameWrites, HEADER_LEN] at hb
    rw [if_neg (Nat.not_lt.mpr hroom)] at hb
    rw [← (List.cons.inj hb).1, length_encodeFrame]; exact Nat.le_add_right 7 _

theorem layoutBufs_ne_nil (g : Geom) (c : Nat) {fs : List Frm} (hne : fs ≠ []) : layoutBufs g c fs ≠ [] := by
  obtain ⟨fr, fs', rfl⟩ := List.exists_cons_of_ne_nil hne
  intro hnil
  have := layout_cons_pos g c fr fs'
  rw [hnil] at this
  exact Nat.lt_irrefl 0 this

/-- writing one entry, with explicit witnesses and crash states. The first buffer is a frame of at
    least 7 bytes at a header position, so it wipes a residue (at most 6 bytes). A crash state holds
    the old items and a prefix of the new frames: an unfinished entry is a dead group, plus at most
    one junk slot (`CutCtx.classify`). `S` is what is known of the items: it has to survive appending the
    dead group of an unfinished entry, a junk slot, and the live group of the finished entry -/
theorem entry_extS {S : List JE → List AItm → Prop} (g : Geom) {l : Log} {D : Image} {F : Nat} {init : List Bytes} {t : Bytes} {x : Bool}
    {res : Bytes} {J : List JE} {ais lead : List AItm} {gs : List Grp}
    (h : XInvX g l D F J init t x res ais lead gs) (e : Entry)
    (hdeadS : ∀ items jk, GrpOK (none, items) → (jk = [] ∨ ∃ a r, jk = [a] ∧ a.2 = some r) →
      S J (ais ++ items ++ jk))
    (hliveS : ∀ T, GrpOK (some (l.je g e), plain T) → S (J ++ [l.je g e]) (ais ++ plain T)) :
    ∃ init' t' x' ntf B,
      XInvX g (Log.writeEntry g l e).1 (applyOsOps D (directOps (Log.writeEntry g l e).2.1)) F
        (J ++ [l.je g e]) init' t' x' [] (ais ++ plain ntf) lead (gs ++ [(some (l.je g e), plain ntf)]) ∧
      ntf ≠ [] ∧ (init'.flatten ++ t').length = endPos g 0 (frs (ais ++ plain ntf)) ∧
      init'.flatten ++ t' = init.flatten ++ t ++ B ∧
      (TornEffs (Log.writeEntry g l e).2.1 → ∀ (w : Bool) X, CutW w D (Log.writeEntry g l e).2.1 X →
        DiskXS g X F (S J) ∨ DiskXS g X F (S (J ++ [l.je g e]))) ∧
      (x = false → x' = false) ∧ (∀ a, ntf.getLast? = some a → a.1 = (Log.writeEntry g l e).1.cur) := by
  obtain ⟨hT, hL, hresok, hais, hlead, hmap, hok⟩ := h
  have hB := G.seven_lt_B g
  have hfb := fileBytes_pos g
  have hc : l.off % g.B < g.B := Nat.mod_lt _ (Nat.zero_lt_of_lt hB)
  obtain ⟨fs, hbufs, hef, hpay, hfit⟩ := writeEntryBufs_layout g (l.off % g.B) true e.encode hc
  have hne : fs ≠ [] := hef.ne_nil
  have hPl := hT.P_length
  have hmod : (init.flatten ++ t).length % g.B = l.off % g.B := by rw [hPl, tape_mod]
  have hwe : Log.writeEntry g l e =
      ((writeBufs g l (layoutBufs g (l.off % g.B) fs)).1, (writeBufs g l (layoutBufs g (l.off % g.B) fs)).2,
        totalLen (layoutBufs g (l.off % g.B) fs)) := by
    rw [Step.writeEntry_eq]
    unfold Step.entryBufs MRL.writeEntry
    rw [hbufs]
  rw [hwe]
  have hnc := noCross_layoutBufs g _ fs hc hfit
  -- the first buffer covers the residue
  have hresb : ∀ b bs, layoutBufs g (l.off % g.B) fs = b :: bs → res.length ≤ b.length := by
    intro b bs hb
    rcases hresok with he | ⟨r1, _, r3, _⟩
    · rw [he]; exact Nat.zero_le _
    · have hroom := hdrPos_room g (endPos g 0 (frs ais))
      rw [← r3, hmod] at hroom
      exact Nat.le_trans r1 (Nat.le_trans (by decide) (layoutBufs_head g hroom hb))
  obtain ⟨init', t', x', res1, hT', hP', hres1, hcur', hxx⟩ :=
    writeBufs_tapeR g (layoutBufs g (l.off % g.B) fs) hT hnc hresb
  have hbne := layoutBufs_ne_nil g (l.off % g.B) hne
  have hr1 : res1 = [] := hres1 hbne
  subst hr1
  have hmonoI : init.length ≤ init'.length := files_mono g hPl _ (by rw [← hT'.cur]; exact hcur' hbne)
  have hLL : (init.length + 1) * g.fileBytes ≤ (init'.length + 1) * g.fileBytes :=
    Nat.mul_le_mul_right _ (Nat.succ_le_succ hmonoI)
  have hfit' : Fits g ((init.flatten ++ t).length % g.B) fs := by rw [hmod]; exact hfit
  obtain ⟨T, hTg⟩ : ∃ T, T = tagFrom g F (endPos g 0 (frs ais)) fs := ⟨_, rfl⟩
  obtain ⟨hL', hlen'⟩ := flay_appendJ g F _ _ _ ais hL hLL fs hne hfit'
  rw [hmod, ← hP'] at hL' hlen'
  rw [← hTg] at hL'
  have hlocF : F ≤ (l.je g e).loc :=
    Nat.le_trans (Nat.le_add_right F init.length) (hT.cur ▸ nextLoc_ge g l)
  have hnonempty : T ≠ [] := hTg ▸ tagFrom_ne_nil g F _ hne
  have hsegnew : SegOK (l.je g e, T) := by
    rw [hTg]
    refine ⟨by simpa [untag_tagFrom] using hef, by simpa [untag_tagFrom, je] using hpay, ?_⟩
    intro a ha
    cases fs with
    | nil => exact absurd rfl hne
    | cons fr fs' =>
      simp only [tagFrom, List.head?_cons, Option.some.injEq] at ha
      subst ha
      simp only [je]
      rw [nextLoc_tagR g hT, ← hPl]
      rcases hL.len with h1 | h1
      · rw [h1]
      · rw [h1, hdrPos_idem]
  have hoknew : GrpOK (some (l.je g e), plain T) :=
    ⟨by rw [tfs_plain]; exact hsegnew, fun a ha => mem_plain ha⟩
  have hfrsN : frs (ais ++ plain T) = frs ais ++ fs := by
    rw [hTg, frs_append, frs_plain, untag_tagFrom]
  have hxnew : XInvX g (writeBufs g l (layoutBufs g (l.off % g.B) fs)).1
      (applyOsOps D (directOps (writeBufs g l (layoutBufs g (l.off % g.B) fs)).2)) F (J ++ [l.je g e]) init' t' x' []
      (ais ++ plain T) lead (gs ++ [(some (l.je g e), plain T)]) := by
    have hs := (⟨hais, hlead, hmap, hok⟩ : SegsW F J ais lead gs).snoc_live hoknew hlocF
    exact ⟨hT', hL', Or.inl rfl, hs.hais, hs.hlead, hs.hmap, hs.hok⟩
  -- the final bytes are exactly the bytes of the items
  have hPf : init'.flatten ++ t' = flatJ g 0 (ais ++ plain T) := by
    have := hL'.bytes
    rw [hfrsN, hlen', Nat.sub_self] at this
    simpa [zeros] using this
  -- the last new frame lies in the new current file
  have hlast : ∀ a, T.getLast? = some a → a.1 = (writeBufs g l (layoutBufs g (l.off % g.B) fs)).1.cur := by
    intro a ha
    obtain ⟨fs0, frL, hfs⟩ : ∃ fs0 frL, fs = fs0 ++ [frL] := by
      rcases List.eq_nil_or_concat fs with h | ⟨fs0, frL, h⟩
      · exact absurd h hne
      · exact ⟨fs0, frL, by rw [h, List.concat_eq_append]⟩
    have h1 := layout_dropLast_len g (init.flatten ++ t).length fs0 frL (by rw [← hfs]; exact hfit')
    rw [hmod, ← hfs] at h1
    rw [hcur' hbne, h1, hdr_end_eq g _ _ fs0 hL.len]
    rw [hTg, hfs, tagFrom_append] at ha
    simp only [tagFrom, List.getLast?_append, List.getLast?_singleton, Option.some_or,
      Option.some.injEq] at ha
    subst ha
    rfl
  refine ⟨init', t', x', T, (layoutBufs g (l.off % g.B) fs).flatten,
    hxnew, hnonempty, by rw [hlen', hfrsN], hP', ?_, hxx, hlast⟩
  intro htorn0 w X hX
  have htorn : TornEffs (writeBufs g l (layoutBufs g (l.off % g.B) fs)).2 := htorn0
  obtain ⟨Pm, n, res', c1, c2, c3, c4, c5⟩ := writeBufs_cutR g _ hT hnc hresb hX
  obtain ⟨m0, hm1, hm2, hPm0⟩ := c2
  have hPmlen : Pm.length = m0 := by rw [hPm0, List.length_take, Nat.min_eq_left hm2]
  have hctx : CutCtx S g F ais fs T ((init.length + 1) * g.fileBytes)
      (init.flatten ++ t).length res n Pm res' X J (J ++ [l.je g e]) := by
    refine ⟨hTg, hfrsN ▸ hL'.fits, hL.tagged, hL.jok, hL.len, hresok, ?_, c1, Nat.mul_le_mul_right _ c5, ?_,
      by rw [hPmlen]; exact hm1, by rw [← hlen', hP', hPmlen]; exact hm2, ?_, c3, ?_, hliveS T hoknew⟩
    · intro fr hfr
      obtain ⟨tt, pp⟩ := fr
      have hb := mem_layout g tt pp fs (l.off % g.B) hfr
      obtain ⟨f, off, hm⟩ := writeBufs_mem g _ l _ hb (Step.encodeFrame_ne_nil _ _)
      exact htorn tt pp f off hm
    · intro hr; rw [c4 hr]
    · rw [← hPf, hP', hPmlen]; exact hPm0
    · -- the groups when the entry is unfinished
      intro i hi jk hjk
      have hdead : GrpOK (none, plain (T.take i)) := by
        refine Or.inl ⟨fs.drop i, ?_, ?_, fun a ha => mem_plain ha⟩
        · exact fun hd => Nat.not_le_of_lt hi (List.drop_eq_nil_iff.mp hd)
        · show EntryFrames true (frs (plain (T.take i)) ++ fs.drop i)
          have := frs_prefix g F [] fs (endPos g 0 (frs ais)) i
          simp only [List.nil_append, frs_nil, ← hTg] at this
          rw [this, List.take_append_drop]; exact hef
      exact hdeadS _ jk hdead hjk
  exact hctx.classify hne

/-- `entry_extS` with nothing more known of the items than `SegsX` -/
theorem entry_extX (g : Geom) {l : Log} {D : Image} {F : Nat} {init : List Bytes} {t : Bytes} {x : Bool}
    {res : Bytes} {J : List JE} {ais lead : List AItm} {gs : List Grp}
    (h : XInvX g l D F J init t x res ais lead gs) (e : Entry) :
    ∃ init' t' x' ntf B,
      XInvX g (Log.writeEntry g l e).1 (applyOsOps D (directOps (Log.writeEntry g l e).2.1)) F
        (J ++ [l.je g e]) init' t' x' [] (ais ++ plain ntf) lead (gs ++ [(some (l.je g e), plain ntf)]) ∧
      ntf ≠ [] ∧ (init'.flatten ++ t').length = endPos g 0 (frs (ais ++ plain ntf)) ∧
      init'.flatten ++ t' = init.flatten ++ t ++ B ∧
      (TornEffs (Log.writeEntry g l e).2.1 → ∀ (w : Bool) X, CutW w D (Log.writeEntry g l e).2.1 X →
        DiskX g X F J ∨ DiskX g X F (J ++ [l.je g e])) ∧
      (x = false → x' = false) ∧ (∀ a, ntf.getLast? = some a → a.1 = (Log.writeEntry g l e).1.cur) :=
  entry_extS (S := SegsX F) g h e
    (fun items jk hd hjk => by
      rcases hjk with rfl | ⟨a, r, rfl, har⟩
      · rw [List.append_nil]; exact h.segs.snoc_dead hd
      · exact (h.segs.snoc_dead hd).snoc_dead (Or.inr ⟨a, r, rfl, har⟩))
    (fun _ hT => h.segs.snoc_live hT
      (Nat.le_trans (Nat.le_add_right F init.length) (h.tape.cur ▸ nextLoc_ge g l)))

/-- **The GC touches are entry writes, one after the other.** For an invariant `I` of (log, disk, journal)
    that one entry write keeps, and a description `R` of a disk and its journal that holds of the disks
    satisfying `I` and of every crash state of one entry write (for the journal without or with the entry):
    the touches keep `I`, and every crash state of theirs is described by `R` for the journal with some prefix
    of the touches. -/
theorem touches_fold (g : Geom) {I : Log → Image → List JE → Prop} {R : Image → List JE → Prop}
    (hent : ∀ l D J (e : Entry), I l D J →
      I (Log.writeEntry g l e).1 (applyOsOps D (directOps (Log.writeEntry g l e).2.1)) (J ++ [l.je g e]) ∧
      (TornEffs (Log.writeEntry g l e).2.1 → ∀ (w : Bool) X, CutW w D (Log.writeEntry g l e).2.1 X →
        R X J ∨ R X (J ++ [l.je g e])))
    (hbase : ∀ l D J, I l D J → R D J) (names : List Bytes) : ∀ (l : Log) (D : Image) (J : List JE), I l D J →
    I (writeTouches g l names).1 (applyOsOps D (directOps (writeTouches g l names).2.1)) (J ++ touchesJ g l names) ∧
    (TornEffs (writeTouches g l names).2.1 → ∀ (w : Bool) X, CutW w D (writeTouches g l names).2.1 X →
      ∃ i, R X (J ++ (touchesJ g l names).take i)) := by
  induction names with
  | nil =>
    intro l D J h
    refine ⟨by simpa [writeTouches, touchesJ, directOps, applyOsOps] using h, fun _ w X hX => ?_⟩
    have : X = D := by simpa [writeTouches] using hX.nil_inv
    rw [this]
    exact ⟨0, by simpa using hbase l D J h⟩
  | cons n ns ih =>
    intro l D J h
    have he : Step.touchEntry l n = .touch n (touchNext l n) := rfl
    obtain ⟨y1, hcut1'⟩ := hent l D J (.touch n (touchNext l n)) h
    obtain ⟨y2, hcut2'⟩ := ih _ _ _ y1
    refine ⟨?_, fun htorn w X hX => ?_⟩
    · rw [Step.writeTouches_cons, touchesJ_cons, he]
      simp only [directOps_append, applyOsOps_append]
      rw [List.append_cons]
      exact y2
    · rw [Step.writeTouches_cons, he] at htorn hX
      rcases CutW.of_append _ hX with hX | hX
      · rcases hcut1' (fun t p f off hm => htorn t p f off (List.mem_append_left _ hm)) w X hX with hd | hd
        · exact ⟨0, by simpa using hd⟩
        · exact ⟨1, by rw [touchesJ_cons]; simpa using hd⟩
      · obtain ⟨i, hd⟩ := hcut2' (fun t p f off hm => htorn t p f off (List.mem_append_right _ hm)) w X hX
        refine ⟨i + 1, ?_⟩
        rw [touchesJ_cons, List.take_succ_cons]
        simpa [List.append_assoc] using hd

theorem touches_extX (g : Geom) (F : Nat) (lead : List AItm) (names : List Bytes)
    (l : Log) (D : Image) (J : List JE) (init : List Bytes) (t : Bytes) (x : Bool) (res : Bytes)
    (ais : List AItm) (gs : List Grp) (h : XInvX g l D F J init t x res ais lead gs) :
    ∃ init' t' x' res' ais' gs',
      XInvX g (writeTouches g l names).1 (applyOsOps D (directOps (writeTouches g l names).2.1)) F
        (J ++ touchesJ g l names) init' t' x' res' ais' lead gs' ∧
      (TornEffs (writeTouches g l names).2.1 → ∀ (w : Bool) X, CutW w D (writeTouches g l names).2.1 X →
        ∃ i, DiskX g X F (J ++ (touchesJ g l names).take i)) := by
  obtain ⟨⟨i', t', x', r', a', g', y⟩, hcut⟩ := touches_fold g
    (I := fun l D J => ∃ init t x res ais gs, XInvX g l D F J init t x res ais lead gs) (R := fun X J => DiskX g X F J)
    (fun l D J e ⟨_, _, _, _, _, _, h⟩ =>
      let ⟨i1, t1, x1, _, _, y1, _, _, _, hcut1, _⟩ := entry_extX g h e
      ⟨⟨i1, t1, x1, [], _, _, y1⟩, hcut1⟩)
    (fun _ _ _ ⟨_, _, _, _, _, _, h⟩ => h.diskX) names l D J ⟨init, t, x, res, ais, gs, h⟩
  exact ⟨i', t', x', r', a', g', y, hcut⟩

end MRL.L
