/-
C08 (genuineness): `locs` are where the frames are in the clean stream. The acceptance test in
computable form (`acceptB`) and `Img.accepted`, the enumeration of the positions of a stream that pass
it — the list `Img.CleanDamage` is stated with, and on which `NoAcc` is decided; `checkAll` is the finite
check used on concrete streams. Events read from one file deliver entries attributed to that file.
-/
import MRL.Proofs.GenRead
import MRL.Proofs.RecReplay

namespace MRL.Gen
open Codec Torn

theorem locs_in_stream (g : Geom) (fs : List Frm) : ∀ (P : Nat) (pre tail : Bytes), pre.length = P →
    Fits g (P % g.B) fs → ∀ x ∈ locs g P fs,
      ((pre ++ (layoutBufs g (P % g.B) fs).flatten ++ tail).drop x.1).take (7 + x.2.2.length) =
        encodeFrame x.2.1 x.2.2 := by
  induction fs with
  | nil => intro P pre tail _ _ x hx; cases hx
  | cons fr fs ih =>
    intro P pre tail hpre hF x hx
    obtain ⟨t, p⟩ := fr
    rw [G.Fits_pos_cons] at hF
    rw [G.layoutBufs_pos_cons g P (t, p) fs hF.1, List.flatten_append, frameWrites_flatten]
    simp only [locs, List.mem_cons] at hx
    rcases hx with rfl | hx
    · simp only [List.append_assoc]
      rw [← List.append_assoc pre, List.drop_left' (by simp [hpre, hdrPos_eq_pad]),
        List.take_left' (by simp [length_encodeFrame])]
    · rw [← List.append_assoc pre, ← List.append_assoc pre]
      exact ih (G.nextPos g P p.length) _ tail
        (by simp [G.nextPos, hdrPos_eq_pad, length_encodeFrame, hpre]; omega) hF.2 x hx

theorem locs_fit (g : Geom) (fs : List Frm) : ∀ (P : Nat), Fits g (P % g.B) fs →
    ∀ x ∈ locs g P fs, x.1 % g.B + 7 + x.2.2.length ≤ g.B := by
  induction fs with
  | nil => intro P _ x hx; cases hx
  | cons fr fs ih =>
    intro P hF x hx
    rw [G.Fits_pos_cons] at hF
    simp only [locs, List.mem_cons] at hx
    rcases hx with rfl | hx
    · exact G.maxFrameLen_pos g P _ hF.1
    · exact ih _ hF.2 x hx

def acceptB (g : Geom) (S : Bytes) (k x : Nat) : Option (FrameType × Bytes) :=
  let r := ((S.drop (k * g.B)).take g.B).drop x
  let hdr := r.take 7
  if 7 ≤ g.B - x ∧ isAllZero hdr = false then
    match FrameType.ofCode (hdr.getD 6 0).toNat with
    | none => none
    | some t =>
      let len := leNat ((hdr.drop 4).take 2)
      let p := (r.drop 7).take len
      if x + 7 + len ≤ g.B ∧ frameCrc t p = leNat (hdr.take 4) then some (t, p) else none
  else none

theorem accepts_acceptB (g : Geom) (S : Bytes) (k x : Nat) (t : FrameType) (p : Bytes)
    (h : Accepts g S k x t p) : acceptB g S k x = some (t, p) := by
  obtain ⟨h1, h2, h3, h4, h5, h6⟩ := h
  unfold acceptB
  simp only [h1, h2, and_self, if_true, h3]
  rw [← h5]
  simp [h4, h6]

theorem accepts_block_lt {g : Geom} {S : Bytes} {k x : Nat} {t : FrameType} {p : Bytes}
    (h : Accepts g S k x t p) {N : Nat} (hlen : S.length ≤ N * g.B) : k < N := by
  rcases Nat.lt_or_ge k N with h1 | h1
  · exact h1
  · exfalso
    have hz := h.2.1
    have : S.drop (k * g.B) = [] := List.drop_of_length_le (Nat.le_trans hlen (Nat.mul_le_mul_right _ h1))
    rw [this] at hz
    simp [isAllZero] at hz

def checkAll (g : Geom) (LL : List (Nat × Frm)) (S : Bytes) (N : Nat) : Bool :=
  (List.range N).all fun k => (List.range (g.B - 6)).all fun x =>
    match acceptB g S k x with
    | some tp => decide ((k * g.B + x, tp) ∈ LL)
    | none => true

/-- every (position, frame) passing the acceptance test in the first `N` blocks of `S` -/
def _root_.MRL.Img.accepted (g : Geom) (S : Bytes) (N : Nat) : List (Nat × Frm) :=
  (List.range N).flatMap fun k => (List.range (g.B - 6)).filterMap fun x =>
    (acceptB g S k x).map fun tp => (k * g.B + x, tp)

theorem _root_.MRL.Img.mem_accepted (g : Geom) (S : Bytes) (N k x : Nat) (t : FrameType) (p : Bytes) (hk : k < N)
    (h : Accepts g S k x t p) : (k * g.B + x, (t, p)) ∈ Img.accepted g S N := by
  unfold Img.accepted
  rw [List.mem_flatMap]
  refine ⟨k, List.mem_range.mpr hk, ?_⟩
  rw [List.mem_filterMap]
  refine ⟨x, List.mem_range.mpr (Nat.lt_sub_of_add_lt (by rw [Nat.add_comm]; exact Nat.add_lt_of_lt_sub h.1)), ?_⟩
  rw [accepts_acceptB g S k x t p h]; rfl

theorem noAcc_of_accepted (g : Geom) (LL : List (Nat × Frm)) (S : Bytes) (N : Nat) (hlen : S.length ≤ N * g.B)
    (h : ∀ y ∈ Img.accepted g S N, y ∈ LL) : NoAcc g LL S :=
  fun k x t p hacc => h _ (Img.mem_accepted g S N k x t p (accepts_block_lt hacc hlen) hacc)

theorem checkAll_eq (g : Geom) (LL : List (Nat × Frm)) (S : Bytes) (N : Nat) :
    checkAll g LL S N = (Img.accepted g S N).all fun y => decide (y ∈ LL) := by
  unfold checkAll Img.accepted
  rw [List.all_flatMap]
  congr 1; funext k
  rw [List.all_filterMap]
  congr 1; funext x
  cases acceptB g S k x <;> rfl

theorem noAcc_of_check (g : Geom) (LL : List (Nat × Frm)) (S : Bytes) (N : Nat) (hlen : S.length ≤ N * g.B)
    (h : checkAll g LL S N = true) : NoAcc g LL S :=
  noAcc_of_accepted g LL S N hlen fun y hy => by
    rw [checkAll_eq, List.all_eq_true] at h; exact of_decide_eq_true (h y hy)

theorem _root_.MRL.Img.accepted_sorted (g : Geom) (S : Bytes) (N : Nat) :
    (Img.accepted g S N).Pairwise (fun a b => a.1 < b.1) := by
  have hin : ∀ k, ∀ y ∈ (List.range (g.B - 6)).filterMap (fun x => (acceptB g S k x).map fun tp => (k * g.B + x, tp)),
      k * g.B ≤ y.1 ∧ y.1 < (k + 1) * g.B := by
    intro k y hy
    obtain ⟨x, hx, he⟩ := List.mem_filterMap.mp hy
    obtain ⟨tp, _, rfl⟩ := Option.map_eq_some_iff.mp he
    have := List.mem_range.mp hx
    exact ⟨Nat.le_add_right _ _, by rw [Nat.succ_mul]; omega⟩
  unfold Img.accepted
  rw [List.pairwise_flatMap]
  refine ⟨fun k _ => ?_, ?_⟩
  · rw [List.pairwise_filterMap]
    refine (List.pairwise_lt_range).imp ?_
    intro x x' hxx y hy y' hy'
    obtain ⟨tp, _, rfl⟩ := Option.map_eq_some_iff.mp hy
    obtain ⟨tp', _, rfl⟩ := Option.map_eq_some_iff.mp hy'
    exact Nat.add_lt_add_left hxx _
  · refine (List.pairwise_lt_range).imp ?_
    intro k k' hkk y hy y' hy'
    exact Nat.lt_of_lt_of_le (hin k y hy).2 (Nat.le_trans (Nat.mul_le_mul_right _ hkk) (hin k' y' hy').1)

def tagOf : RdEv → Nat
  | .frame f _ _ => f
  | .corrupt f => f

theorem tagOf_tagEvs (f : Nat) : ∀ (l : List FrameEv), ∀ ev ∈ tagEvs f l, tagOf ev = f
  | [], _, h => by cases h
  | .frame _ _ :: l, ev, h => by
    rcases List.mem_cons.mp h with rfl | h
    · rfl
    · exact tagOf_tagEvs f l ev h
  | .corrupt :: l, ev, h => by
    rcases List.mem_cons.mp h with rfl | h
    · rfl
    · exact tagOf_tagEvs f l ev h

theorem tagOf_scanB (g : Geom) (f : Nat) : ∀ (rest : List Blk) (cur : Blk) (c : Nat), cur.file = f →
    (∀ b ∈ rest, b.file = f) → ∀ ev ∈ (scanB g cur c rest).1, tagOf ev = f := by
  intro rest
  induction rest with
  | nil =>
    intro cur c hcur _ ev hev
    rcases hs : scanBlock g cur.data c with ⟨evs, e⟩
    cases e with
    | zeroHeader c' => rw [scanB_zeroHeader g cur c _ evs c' hs] at hev; exact tagOf_tagEvs f evs ev (hcur ▸ hev)
    | needNext c' => rw [scanB_needNext_nil g cur c evs c' hs] at hev; exact tagOf_tagEvs f evs ev (hcur ▸ hev)
  | cons b rest ih =>
    intro cur c hcur hrest ev hev
    rcases hs : scanBlock g cur.data c with ⟨evs, e⟩
    cases e with
    | zeroHeader c' => rw [scanB_zeroHeader g cur c _ evs c' hs] at hev; exact tagOf_tagEvs f evs ev (hcur ▸ hev)
    | needNext c' =>
      rw [scanB_needNext_cons g cur b c rest evs c' hs] at hev
      rcases List.mem_append.mp hev with h | h
      · exact tagOf_tagEvs f evs ev (hcur ▸ h)
      · exact ih b 0 (hrest b List.mem_cons_self) (fun b' hb' => hrest b' (List.mem_cons_of_mem _ hb')) ev h

theorem entriesOf_one_file (f : Nat) : ∀ (evs : List RdEv) (st : AsmSt), st.attr = f → (∀ ev ∈ evs, tagOf ev = f) →
    entriesOf (assemble st evs) = (bytesOf (assemble st evs)).map (RecEv.entry f) := by
  intro evs
  induction evs with
  | nil => intro st _ _; rfl
  | cons ev evs ih =>
    intro st hst htag
    have htl : ∀ ev' ∈ evs, tagOf ev' = f := fun ev' h => htag ev' (List.mem_cons_of_mem _ h)
    cases ev with
    | corrupt f' =>
      have hstep : assemble st (RdEv.corrupt f' :: evs) =
          RecEv.corrupt :: assemble { within := false, buf := st.buf, attr := f' } evs := rfl
      rw [hstep, entriesOf_cons_corrupt, bytesOf_cons_corrupt]
      exact ih _ (htag _ List.mem_cons_self) htl
    | frame f' t p =>
      have hf' : f' = f := htag _ List.mem_cons_self
      simp only [assemble]
      split
      · split
        · rw [entriesOf_cons_entry, bytesOf_cons_entry, List.map_cons, hst, ih _ hf' htl]
        · exact ih _ hst htl
      · exact ih _ hst htl

theorem entriesOf_sublist (l : List RecEv) : List.Sublist (entriesOf l) l := List.filter_sublist

theorem decoded_entriesOf (l : List RecEv) : Rec.decoded (entriesOf l) = Rec.decoded l := by
  induction l with
  | nil => rfl
  | cons ev l ih =>
    cases ev with
    | corrupt => simp [entriesOf, Rec.decoded] at ih ⊢; exact ih
    | entry a b =>
      rw [entriesOf_cons_entry]
      simp only [Rec.decoded, ih]

theorem decoded_encoded (file : Nat) (l : List Entry) (hwf : ∀ e ∈ l, Entry.decode e.encode = some e) :
    Rec.decoded (l.map fun e => RecEv.entry file e.encode) = l.map fun e => (file, e) :=
  Rec.decoded_map_entry (fun _ => file) id l hwf

theorem recordsOf_sublist {l' l : List (Nat × Entry)} (h : List.Sublist l' l) :
    ∀ x ∈ Rec.recordsOf l', x ∈ Rec.recordsOf l := fun _ hx =>
  let ⟨fe, hfe, hx'⟩ := Rec.mem_recordsOf.mp hx
  Rec.mem_recordsOf.mpr ⟨fe, h.subset hfe, hx'⟩

end MRL.Gen
