/-
The block reader, one step at a time (C02, C07, C09). A RAW frame is a frame whose checksum bytes and
payload are arbitrary (length field and type byte as the writer sets them): the reader
resynchronises after it whatever its checksum, emitting the frame when the checksum matches, a
corrupt event otherwise; `tornFrame` is the raw frame a payload cut leaves (intact header, zero-filled
payload), `H.TornFrame` the clause that its checksum then fails. A torn header (fewer than 7 bytes of
a header, not all zero, followed by zeros) makes the reader give up the block.

The reader over a stream cut into blocks (`scanFrom`), the blocks being given any file and index
(a single file and a sequence of files differ only in that), one step for each thing it can meet at
the cursor: a raw frame, a torn header, the padding, zeros to the end.
-/
import MRL.Proofs.CodecRead
import MRL.Proofs.CodecAsm

namespace MRL.Torn
open Consts Codec

/-- checksum bytes, type, payload -/
abbrev Raw := Bytes × FrameType × Bytes

/-- the frame on disk: the checksum bytes as they are, length and type as `Header::serialize`
    writes them, the payload -/
def Raw.bytes (x : Raw) : Bytes := x.1 ++ leBytes x.2.2.length 2 ++ [x.2.1.code.toUInt8] ++ x.2.2

/-- what the reader makes of a raw frame -/
def Raw.ev (x : Raw) : FrameEv :=
  if frameCrc x.2.1 x.2.2 = leNat x.1 then FrameEv.frame x.2.1 x.2.2 else FrameEv.corrupt

/-- the frame as the writer writes it -/
def good (fr : Frm) : Raw := (leBytes (frameCrc fr.1 fr.2) 4, fr.1, fr.2)

theorem good_bytes (fr : Frm) : (good fr).bytes = encodeFrame fr.1 fr.2 := by
  simp [good, Raw.bytes, encodeFrame, encodeHeader]

theorem good_ev (fr : Frm) : (good fr).ev = FrameEv.frame fr.1 fr.2 := by
  simp [good, Raw.ev, leNat_leBytes4 _ (frameCrc_lt fr.1 fr.2)]

theorem length_raw_bytes (x : Raw) (h : x.1.length = 4) : x.bytes.length = 7 + x.2.2.length := by
  rw [Raw.bytes, List.length_append, List.length_append, List.length_append, h, length_leBytes]; rfl

def rawWrites (g : Geom) (c : Nat) (x : Raw) : List Bytes :=
  if g.B - c < HEADER_LEN then [zeros (g.B - c), x.bytes] else [x.bytes]

theorem rawWrites_eq (g : Geom) (c : Nat) (x : Raw) :
    rawWrites g c x = (if g.B - c < HEADER_LEN then [zeros (g.B - c)] else []) ++ [x.bytes] := by
  unfold rawWrites; split <;> rfl

/-- buffers of a list of raw frames laid out from cursor `c` with the writer's padding rule -/
def rawLayout (g : Geom) : Nat → List Raw → List Bytes
  | _, [] => []
  | c, x :: xs => rawWrites g c x ++ rawLayout g (frameEndCursor g c x.2.2.length) xs

/-- `Fits` for raw frames: 4 checksum bytes, and the payload fits the room at its cursor -/
def FitsRaw (g : Geom) : Nat → List Raw → Prop
  | _, [] => True
  | c, x :: xs => x.1.length = 4 ∧ x.2.2.length ≤ maxFrameLen g c ∧ FitsRaw g (frameEndCursor g c x.2.2.length) xs

def endCursorRaw (g : Geom) : Nat → List Raw → Nat
  | c, [] => c
  | c, x :: xs => endCursorRaw g (frameEndCursor g c x.2.2.length) xs

theorem rawWrites_flatten (g : Geom) (c : Nat) (x : Raw) :
    (rawWrites g c x).flatten = zeros (padLen g c) ++ x.bytes := by
  unfold rawWrites padLen
  split <;> simp [zeros]

theorem rawLayout_good (g : Geom) (c : Nat) (fs : List Frm) :
    rawLayout g c (fs.map good) = layoutBufs g c fs := by
  induction fs generalizing c with
  | nil => rfl
  | cons fr fs ih =>
    simp only [List.map_cons, rawLayout, layoutBufs, rawWrites, frameWrites, good_bytes]
    rw [ih]; rfl

theorem endCursorRaw_good (g : Geom) (c : Nat) (fs : List Frm) :
    endCursorRaw g c (fs.map good) = endCursor g c fs := by
  induction fs generalizing c with
  | nil => rfl
  | cons fr fs ih => simp only [List.map_cons, endCursorRaw, endCursor]; exact ih _

theorem rawLayout_append (g : Geom) (c : Nat) (a b : List Raw) :
    rawLayout g c (a ++ b) = rawLayout g c a ++ rawLayout g (endCursorRaw g c a) b := by
  induction a generalizing c with
  | nil => simp [rawLayout, endCursorRaw]
  | cons x xs ih => simp [rawLayout, endCursorRaw, ih]

theorem endCursorRaw_lt (g : Geom) (c : Nat) (xs : List Raw) (hc : c < g.B) (hf : FitsRaw g c xs) :
    endCursorRaw g c xs < g.B := by
  induction xs generalizing c with
  | nil => exact hc
  | cons x xs ih => exact ih _ (frameEndCursor_lt g c _ hc hf.2.1) hf.2.2

theorem lt_of_room {B c : Nat} (h : 7 ≤ B - c) : c < B := by omega

theorem scanBlockFrom_raw (g : Geom) (x : Raw) (r : Bytes) (c : Nat) (h4 : x.1.length = 4)
    (hfit : c + 7 + x.2.2.length ≤ g.B) (hp : x.2.2.length < 65536) :
    scanBlockFrom g (x.bytes ++ r) c =
      (x.ev :: (scanBlockFrom g r (c + 7 + x.2.2.length)).1,
        (scanBlockFrom g r (c + 7 + x.2.2.length)).2) := by
  obtain ⟨crc, t, p⟩ := x
  simp only at h4 hfit hp ⊢
  have h2l := length_leBytes p.length 2
  have hhl : (crc ++ leBytes p.length 2 ++ [t.code.toUInt8]).length = 7 := by simp [h4, h2l]
  have htake : (Raw.bytes (crc, t, p) ++ r).take 7 = crc ++ leBytes p.length 2 ++ [t.code.toUInt8] := by
    show ((crc ++ leBytes p.length 2 ++ [t.code.toUInt8] ++ p) ++ r).take 7 = _
    rw [List.append_assoc, List.take_left' hhl]
  have hdrop : (Raw.bytes (crc, t, p) ++ r).drop 7 = p ++ r := by
    show ((crc ++ leBytes p.length 2 ++ [t.code.toUInt8] ++ p) ++ r).drop 7 = _
    rw [List.append_assoc, List.drop_left' hhl]
  have hz : isAllZero (crc ++ leBytes p.length 2 ++ [t.code.toUInt8]) = false := by
    simp [isAllZero, code_ne_zero]
  have h6 : (crc ++ leBytes p.length 2 ++ [t.code.toUInt8]).getD 6 0 = t.code.toUInt8 := by
    have h : (crc ++ leBytes p.length 2).length = 6 := by simp [h4, h2l]
    rw [List.getD_eq_getElem?_getD, List.getElem?_append_right (Nat.le_of_eq h), h]
    rfl
  have hlen : leNat (((crc ++ leBytes p.length 2 ++ [t.code.toUInt8]).drop 4).take 2) = p.length := by
    rw [List.append_assoc, List.drop_left' h4, List.take_left' h2l, leNat_leBytes2 _ hp]
  have hcrc : (crc ++ leBytes p.length 2 ++ [t.code.toUInt8]).take 4 = crc := by
    rw [List.append_assoc, List.take_left' h4]
  have e := scanBlockFrom_hdr g (Raw.bytes (crc, t, p) ++ r) c t
    (Nat.le_sub_of_add_le' (Nat.le_trans (Nat.le_add_right _ _) hfit)) (by rw [htake]; exact hz)
    (by rw [htake, h6]; exact ofCode_code t) (by rw [htake, hlen]; exact hfit)
  rw [htake, hdrop, hlen, hcrc, List.take_left' rfl, List.drop_left' rfl] at e
  exact e

theorem scanBlockFrom_torn (g : Geom) (hd : Bytes) (m : Nat) (r : Bytes) (c : Nat) (h : 7 ≤ g.B - c)
    (hl : hd.length ≤ 6) (hm : 7 ≤ hd.length + m) (hnz : isAllZero hd = false) :
    scanBlockFrom g (hd ++ zeros m ++ r) c = ([.corrupt], .needNext c) := by
  have htake := take_in_zeros hd r m 7 rfl (Nat.le_succ_of_le hl) hm
  rw [← List.append_assoc] at htake
  -- the type byte, at offset 6, is one of the zeros
  have h6 : (hd ++ zeros (7 - hd.length)).getD 6 0 = 0 := by
    rw [List.getD_eq_getElem?_getD, List.getElem?_append_right hl]
    simp only [zeros, List.getElem?_replicate]
    split <;> rfl
  refine scanBlockFrom_badType g _ c h ?_ ?_
  · rw [htake, isAllZero_append, hnz]; rfl
  · rw [htake, h6]; rfl

theorem scanB_raw (g : Geom) (cur : Blk) (c : Nat) (rest : List Blk) (x : Raw) (r : Bytes)
    (hd : cur.data.drop c = x.bytes ++ r) (h4 : x.1.length = 4)
    (hfit : c + 7 + x.2.2.length ≤ g.B) (hp : x.2.2.length < 65536) :
    scanB g cur c rest =
      (tagEvs cur.file [x.ev] ++ (scanB g cur (c + 7 + x.2.2.length) rest).1,
        (scanB g cur (c + 7 + x.2.2.length) rest).2) := by
  have hr : cur.data.drop (c + 7 + x.2.2.length) = r := by
    rw [Nat.add_assoc c 7, ← List.drop_drop, hd, List.drop_left' (length_raw_bytes x h4)]
  apply scanB_cons
  unfold scanBlock
  rw [hd, hr]
  exact scanBlockFrom_raw g x r c h4 hfit hp

theorem scanB_torn (g : Geom) (cur b : Blk) (c : Nat) (rest : List Blk) (hd : Bytes) (m : Nat) (r : Bytes)
    (hdata : cur.data.drop c = hd ++ zeros m ++ r) (h : 7 ≤ g.B - c)
    (hl : hd.length ≤ 6) (hm : 7 ≤ hd.length + m) (hnz : isAllZero hd = false) :
    scanB g cur c (b :: rest) = (RdEv.corrupt cur.file :: (scanB g b 0 rest).1, (scanB g b 0 rest).2) := by
  apply scanB_needNext_cons g cur b c rest [.corrupt] c
  rw [scanBlock, hdata]
  exact scanBlockFrom_torn g hd m r c h hl hm hnz

end MRL.Torn

namespace MRL.H

/-- the collision clause for one frame: a payload whose tail was lost (zero-filled) and thereby
    changed fails the checksum -/
def TornFrame (t : FrameType) (p : Bytes) : Prop :=
  ∀ i, i < p.length → p.take i ++ zeros (p.length - i) ≠ p →
    frameCrc t (p.take i ++ zeros (p.length - i)) ≠ frameCrc t p

end MRL.H

namespace MRL.Torn
open Codec G

/-- the torn frame as a raw frame: intact header, zero-filled payload -/
def tornFrame (t : FrameType) (p : Bytes) (i : Nat) : Raw :=
  (leBytes (frameCrc t p) 4, t, p.take i ++ zeros (p.length - i))

theorem tornFrame_len (p : Bytes) (i : Nat) (hi : i < p.length) :
    (p.take i ++ zeros (p.length - i)).length = p.length := by
  rw [List.length_append, List.length_take, length_zeros, Nat.min_eq_left (Nat.le_of_lt hi),
    Nat.add_sub_cancel' (Nat.le_of_lt hi)]

theorem tornFrame_bytes (t : FrameType) (p : Bytes) (i : Nat) (hi : i < p.length) :
    (tornFrame t p i).bytes = encodeHeader t p ++ (p.take i ++ zeros (p.length - i)) := by
  simp only [tornFrame, Raw.bytes, encodeHeader, tornFrame_len p i hi]

theorem tornFrame_ev (t : FrameType) (p : Bytes) (i : Nat) :
    (tornFrame t p i).ev =
      if frameCrc t (p.take i ++ zeros (p.length - i)) = frameCrc t p
      then FrameEv.frame t (p.take i ++ zeros (p.length - i)) else FrameEv.corrupt := by
  simp only [tornFrame, Raw.ev, leNat_leBytes4 _ (frameCrc_lt t p)]

theorem mem_layout (g : Geom) (t : FrameType) (p : Bytes) (fs : List Frm) : ∀ c, (t, p) ∈ fs →
    encodeFrame t p ∈ layoutBufs g c fs := by
  induction fs with
  | nil => intro c h; cases h
  | cons fr fs ih =>
    intro c h
    simp only [layoutBufs, List.mem_append]
    rcases List.mem_cons.mp h with h | h
    · left; subst h; unfold frameWrites; split <;> simp
    · right; exact ih _ h

/-! The blocks `blk 0, …, blk (N - 1)` carry the stream `S`, `g.B` bytes each; which file and index a
block is given is left open. -/

/-- the reader standing at cursor `c` of block `k` -/
def scanFrom (g : Geom) (blk : Nat → Blk) (N k c : Nat) : List RdEv × EndPos :=
  scanB g (blk k) c ((List.range' (k + 1) (N - (k + 1))).map blk)

section
variable (g : Geom) (blk : Nat → Blk) (S : Bytes) (N : Nat)

theorem scanFrom_next (k : Nat) (hk : k + 1 < N) :
    (List.range' (k + 1) (N - (k + 1))).map blk =
      blk (k + 1) :: (List.range' (k + 1 + 1) (N - (k + 1 + 1))).map blk := by
  obtain ⟨m, rfl⟩ := Nat.exists_eq_add_of_lt hk
  rw [Nat.add_right_comm (k + 1) m 1, Nat.add_sub_cancel_left, Nat.add_right_comm (k + 1) 1 m,
    Nat.add_assoc (k + 1) m 1, Nat.add_sub_cancel_left, List.range'_succ, List.map_cons]

theorem scanFrom_needNext (k c c' : Nat) (evs : List FrameEv)
    (hs : scanBlock g (blk k).data c = (evs, .needNext c')) (hk : k + 1 < N) :
    scanFrom g blk N k c =
      (tagEvs (blk k).file evs ++ (scanFrom g blk N (k + 1) 0).1, (scanFrom g blk N (k + 1) 0).2) := by
  unfold scanFrom
  rw [scanFrom_next blk N k hk]
  exact scanB_needNext_cons g _ _ c _ evs c' hs

theorem scanFrom_skip (k c : Nat) (h : g.B - c < 7) (hk : k + 1 < N) :
    scanFrom g blk N k c = scanFrom g blk N (k + 1) 0 :=
  scanFrom_needNext g blk N k c c [] (scanBlockFrom_short g _ c h) hk

theorem scanFrom_last (k c : Nat) (h : g.B - c < 7) (hk : N ≤ k + 1) :
    scanFrom g blk N k c = ([], ⟨(blk k).file, (blk k).idx, c⟩) := by
  unfold scanFrom
  rw [Nat.sub_eq_zero_of_le hk]
  exact scanB_short_nil g _ c h

/-- the reader at `(k, c)` and at the next header position `hdrPos` do the same: with fewer than 7 bytes left
    it asks for block `k + 1` without an event (`frame/reader.rs:50-63`) — the writer's padding rule, read back -/
theorem scanFrom_norm (k c : Nat) (hc : c ≤ g.B) (hnext : hdrPos g (k * g.B + c) < N * g.B) :
    ∃ kh ch, kh < N ∧ 7 ≤ g.B - ch ∧ kh * g.B + ch = hdrPos g (k * g.B + c) ∧
      scanFrom g blk N k c = scanFrom g blk N kh ch := by
  by_cases h7 : 7 ≤ g.B - c
  · have hfin := hdrPos_good g k c h7
    rw [hfin] at hnext
    exact ⟨k, c, Nat.lt_of_mul_lt_mul_right (a := g.B) (Nat.lt_of_le_of_lt (Nat.le_add_right _ c) hnext),
      h7, hfin.symm, rfl⟩
  · have hbad := Nat.lt_of_not_le h7
    have hfin := hdrPos_pad g k c hc hbad
    rw [hfin] at hnext
    have hk1 : k + 1 < N := Nat.lt_of_mul_lt_mul_right (a := g.B) hnext
    exact ⟨k + 1, 0, hk1, Nat.le_of_lt g.hB, hfin.symm, scanFrom_skip g blk N k c hbad hk1⟩

variable (hblk : ∀ k, (blk k).data = (S.drop (k * g.B)).take g.B)
include hblk

theorem blk_data_drop (k c : Nat) : (blk k).data.drop c = (S.drop (k * g.B + c)).take (g.B - c) := by
  rw [hblk, List.drop_take, List.drop_drop]

theorem scanFrom_frame (k c : Nat) (x : Raw) (R : Bytes) (hd : S.drop (k * g.B + c) = x.bytes ++ R)
    (h4 : x.1.length = 4) (hfit : c + 7 + x.2.2.length ≤ g.B) (hp : x.2.2.length < 65536) :
    scanFrom g blk N k c =
      (tagEvs (blk k).file [x.ev] ++ (scanFrom g blk N k (c + 7 + x.2.2.length)).1,
        (scanFrom g blk N k (c + 7 + x.2.2.length)).2) := by
  have hxl := length_raw_bytes x h4
  refine scanB_raw g (blk k) c _ x (R.take (g.B - c - (7 + x.2.2.length))) ?_ h4 hfit hp
  rw [blk_data_drop g blk S hblk, hd, List.take_append, hxl,
    List.take_of_length_le (hxl ▸ Nat.le_sub_of_add_le' (Nat.add_assoc c 7 _ ▸ hfit))]

theorem scanBlock_torn (k c : Nat) (hd : Bytes) (m : Nat) (r : Bytes) (h7 : 7 ≤ g.B - c)
    (hT : S.drop (k * g.B + c) = hd ++ zeros m ++ r) (hl : hd.length ≤ 6)
    (hm : g.B - c ≤ hd.length + m) (hnz : isAllZero hd = false) :
    scanBlock g (blk k).data c = ([.corrupt], .needNext c) := by
  rw [scanBlock, blk_data_drop g blk S hblk, hT]
  have hle : hd.length ≤ g.B - c := Nat.le_trans (Nat.le_succ_of_le hl) h7
  rw [List.append_assoc, take_in_zeros hd r m _ rfl hle hm, ← List.append_nil (hd ++ _)]
  exact scanBlockFrom_torn g hd _ [] c h7 hl (by rw [Nat.add_sub_cancel' hle]; exact h7) hnz

theorem scanFrom_zeros (k c : Nat) (hc : c ≤ g.B)
    (hz : S.drop (k * g.B + c) = zeros (N * g.B - (k * g.B + c))) :
    ∃ ke ce, scanFrom g blk N k c = ([], ⟨(blk ke).file, (blk ke).idx, ce⟩) ∧
      (ke, ce) = (if g.B - c < 7 ∧ k + 1 < N then (k + 1, 0) else (k, c)) := by
  by_cases h7 : 7 ≤ g.B - c
  · refine ⟨k, c, ?_, by rw [if_neg (fun h => Nat.not_lt.mpr h7 h.1)]⟩
    refine scanB_zeros g _ c _ (min (g.B - c) (N * g.B - (k * g.B + c))) ?_ h7
    rw [blk_data_drop g blk S hblk, hz, take_zeros]
  · have hbad := Nat.lt_of_not_le h7
    by_cases hk1 : k + 1 < N
    · refine ⟨k + 1, 0, ?_, by rw [if_pos ⟨hbad, hk1⟩]⟩
      rw [scanFrom_skip g blk N k c hbad hk1]
      refine scanB_zeros g _ 0 _ (min (g.B - 0) (N * g.B - (k * g.B + c) - (g.B - c))) ?_ (Nat.le_of_lt g.hB)
      have e1 : (k + 1) * g.B + 0 = (k * g.B + c) + (g.B - c) := (next_block g.B k c hc).symm
      rw [blk_data_drop g blk S hblk, e1, ← List.drop_drop, hz, drop_zeros, take_zeros]
    · exact ⟨k, c, scanFrom_last g blk N k c hbad (Nat.le_of_not_lt hk1), by rw [if_neg (fun h => hk1 h.2)]⟩

end

/-- the blocks of file `f` holding `T0`, the first of them numbered `k`. The cost has the shape of
    `fileBlocks` with `firstCost = 1` so that `readFrom_eq_scanFrom` closes by `rfl`; `scanB` ignores costs -/
def blk1 (g : Geom) (f k : Nat) (T0 : Bytes) (i : Nat) : Blk :=
  ⟨f, k + i, (T0.drop (i * g.B)).take g.B, if k + i = 0 then 1 else 1⟩

theorem readFrom_eq_scanFrom (g : Geom) (f : Nat) (T0 : Bytes) (k n c : Nat) :
    readFrom g f T0 k n c = scanFrom g (blk1 g f k T0) (n + 1) 0 c := by
  have h := fileBlocks_map g f 1 T0 k n 1
  rw [Nat.one_mul] at h
  unfold readFrom scanFrom
  rw [h, blk1, Nat.zero_mul, List.drop_zero]
  rfl

theorem pad_blocks (g : Geom) (A X : Bytes) : ∃ z2, 7 ≤ z2 ∧ (A ++ X ++ zeros z2).length % g.B = 0 := by
  have hB7 : 7 < g.B := g.hB
  let L := A.length + X.length + 7
  have hm : L % g.B < g.B := Nat.mod_lt _ (by omega)
  refine ⟨7 + (g.B - L % g.B), by omega, ?_⟩
  have hL := Nat.div_add_mod L g.B
  have : (A ++ X ++ zeros (7 + (g.B - L % g.B))).length = g.B * (L / g.B + 1) := by
    simp only [List.length_append, length_zeros, Nat.mul_add, Nat.mul_one]
    omega
  rw [this, Nat.mul_mod_right]

theorem whole_blocks (g : Geom) (S : Bytes) (h : S.length % g.B = 0) (hpos : 0 < S.length) :
    ∃ n, S.length = (n + 1) * g.B := by
  obtain ⟨q, hq⟩ := Nat.dvd_of_mod_eq_zero h
  cases q with
  | zero => rw [hq] at hpos; exact absurd hpos (Nat.lt_irrefl _)
  | succ n => exact ⟨n, by rw [hq, Nat.mul_comm]⟩

theorem pos_of_zeros (A : Bytes) {z : Nat} (hz : 0 < z) : 0 < (A ++ zeros z).length := by
  rw [List.length_append, length_zeros]; exact Nat.lt_of_lt_of_le hz (Nat.le_add_left _ _)

/-- `fileBlocks` then `scanBlocks` on a one-file stream, as `recover` runs them, is `readFrom` -/
theorem pipeline (g : Geom) (file : Nat) (S : Bytes) (c n : Nat) (hlen : S.length = (n + 1) * g.B) :
    ∃ b0 rest io, fileBlocks g file S 1 0 (S.length / g.B) = b0 :: rest ∧
      scanBlocks g none 1 0 b0 c rest =
        some ((readFrom g file S 0 n c).1, (readFrom g file S 0 n c).2, io) := by
  have hn : S.length / g.B = n + 1 := by rw [hlen, Nat.mul_div_cancel _ (Bpos g)]
  obtain ⟨io, hio⟩ := scanBlocks_eq_scanB g 1 0
    ⟨file, 0, S.take g.B, if 0 = 0 then 1 else 1⟩ c (fileBlocks g file (S.drop g.B) 1 (0 + 1) n)
  exact ⟨_, _, io, by rw [hn]; exact fileBlocks_succ g file S 0 n, hio⟩

end MRL.Torn
