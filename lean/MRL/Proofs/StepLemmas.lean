/-
Equations for the write path of the log model in projection form, and one equation for `Log.step`
(and one for its journal, `Log.stepJ`): a call first decides, from the queues in memory, what it does
(`act`, whose graph is the inductive view `Does`), and every call that logs an entry then runs the same
sequence — write the entry, update the queues, possibly GC, sync. From it come the induction principles
for relations `R l effects n l'` (`n`: the bytes the code reports to have written) that hold along the
write path (`Along`, from one buffer) and along a whole call (`AlongCall`, from one entry).
-/
import MRL.Proofs.Journal
import MRL.Proofs.CodecFrame
import MRL.Proofs.QMemQueue

namespace MRL.Step
open MRL.Log

variable (g : Geom) (l : Log)

theorem writeBufs_nil : writeBufs g l [] = (l, []) := rfl

theorem writeBufs_cons (b : Bytes) (bs : List Bytes) :
    writeBufs g l (b :: bs) =
      ((writeBufs g (writeBuf g l b).1 bs).1, (writeBuf g l b).2 ++ (writeBufs g (writeBuf g l b).1 bs).2) := rfl

theorem _root_.MRL.Log.nextFile_some {files : List Nat} {cur nf : Nat} (h : nextFile files cur = some nf) :
    nf ∈ files ∧ cur < nf := by
  unfold nextFile at h
  exact ⟨List.mem_of_find?_eq_some h, by simpa using List.find?_some h⟩

theorem _root_.MRL.Log.nextFile_none {files : List Nat} {cur : Nat} (h : nextFile files cur = none) :
    ∀ f ∈ files, f ≤ cur := by
  unfold nextFile at h
  rw [List.find?_eq_none] at h
  intro f hf
  have := h f hf
  simpa using this

theorem writeBuf_noroll (buf : Bytes) (hne : buf ≠ []) (h : ¬ l.off + buf.length > g.fileBytes) :
    writeBuf g l buf = ({ l with off := l.off + buf.length }, [.write l.cur l.off buf]) := by
  unfold writeBuf
  rw [if_neg (fun he => hne (List.isEmpty_iff.mp he)), if_neg h]

theorem writeBuf_roll_none (buf : Bytes) (hne : buf ≠ []) (h : l.off + buf.length > g.fileBytes)
    (hn : nextFile l.files l.cur = none) :
    writeBuf g l buf = ({ l with files := l.files ++ [l.cur + 1], cur := l.cur + 1, off := buf.length },
      [Effect.flush, .fsyncFile l.cur, .fsyncDir] ++
        [.create (l.cur + 1), .setLen (l.cur + 1) g.fileBytes, .write (l.cur + 1) 0 buf]) := by
  unfold writeBuf
  rw [if_neg (fun he => hne (List.isEmpty_iff.mp he)), if_pos h, hn]

theorem writeBuf_roll_some (buf : Bytes) (hne : buf ≠ []) (h : l.off + buf.length > g.fileBytes)
    (nf : Nat) (hn : nextFile l.files l.cur = some nf) :
    writeBuf g l buf = ({ l with cur := nf, off := buf.length },
      [Effect.flush, .fsyncFile l.cur, .fsyncDir] ++
        [.openFile nf, .ensureLen nf g.fileBytes, .write nf 0 buf]) := by
  unfold writeBuf
  rw [if_neg (fun he => hne (List.isEmpty_iff.mp he)), if_pos h, hn]

theorem writeBuf_cases (buf : Bytes) :
    (buf = [] ∧ writeBuf g l buf = (l, [])) ∨
    (buf ≠ [] ∧ l.off + buf.length ≤ g.fileBytes ∧
      writeBuf g l buf = ({ l with off := l.off + buf.length }, [.write l.cur l.off buf])) ∨
    (buf ≠ [] ∧ g.fileBytes < l.off + buf.length ∧ ∃ nf, nextFile l.files l.cur = some nf ∧
      writeBuf g l buf = ({ l with cur := nf, off := buf.length },
        [.flush, .fsyncFile l.cur, .fsyncDir, .openFile nf, .ensureLen nf g.fileBytes, .write nf 0 buf])) ∨
    (buf ≠ [] ∧ g.fileBytes < l.off + buf.length ∧ nextFile l.files l.cur = none ∧
      writeBuf g l buf = ({ l with files := l.files ++ [l.cur + 1], cur := l.cur + 1, off := buf.length },
        [.flush, .fsyncFile l.cur, .fsyncDir, .create (l.cur + 1), .setLen (l.cur + 1) g.fileBytes,
          .write (l.cur + 1) 0 buf])) := by
  by_cases hb : buf = []
  · exact .inl ⟨hb, by subst hb; rfl⟩
  · by_cases h2 : l.off + buf.length > g.fileBytes
    · cases hn : nextFile l.files l.cur with
      | some nf => exact .inr (.inr (.inl ⟨hb, h2, nf, rfl, writeBuf_roll_some g l buf hb h2 nf hn⟩))
      | none => exact .inr (.inr (.inr ⟨hb, h2, rfl, writeBuf_roll_none g l buf hb h2 hn⟩))
    · exact .inr (.inl ⟨hb, Nat.le_of_not_gt h2, writeBuf_noroll g l buf hb h2⟩)

/-- the buffers `Log.writeEntry` hands to the rolling writer -/
def entryBufs (e : Entry) : List Bytes :=
  MRL.writeEntry g (l.off % g.B) e.encode (Nat.mod_lt _ (Nat.lt_trans (Nat.succ_pos _) g.hB))

theorem writeEntry_eq (e : Entry) :
    l.writeEntry g e =
      ((writeBufs g l (entryBufs g l e)).1, (writeBufs g l (entryBufs g l e)).2, totalLen (entryBufs g l e)) := rfl

theorem encodeFrame_ne_nil (t : FrameType) (p : Bytes) : encodeFrame t p ≠ [] := by
  intro h
  have := Codec.length_encodeFrame t p
  rw [h] at this
  exact absurd this (by simp only [List.length_nil]; omega)

theorem writeTouches_nil : writeTouches g l [] = (l, [], 0) := rfl

/-- the entry written for an empty queue `name` by `record_empty_queues_position` -/
def touchEntry (name : Bytes) : Entry :=
  .touch name (match l.queues.get? name with | some q => q.nextPosition | none => 0)

theorem writeTouches_cons (name : Bytes) (rest : List Bytes) :
    writeTouches g l (name :: rest) =
      ((writeTouches g (l.writeEntry g (touchEntry l name)).1 rest).1,
       (l.writeEntry g (touchEntry l name)).2.1 ++ (writeTouches g (l.writeEntry g (touchEntry l name)).1 rest).2.1,
       (l.writeEntry g (touchEntry l name)).2.2 + (writeTouches g (l.writeEntry g (touchEntry l name)).1 rest).2.2) := rfl

/-- the names visited by `run_gc_if_necessary` -/
def gcNames (order : List Bytes) : List Bytes :=
  if isPermOf order l.queues.emptyNames then order else l.queues.emptyNames

theorem gcFiles_split (canDel : Nat → Bool) (files : List Nat) :
    (gcFiles canDel files).2 ++ (gcFiles canDel files).1 = files := by
  fun_induction gcFiles canDel files with
  | case1 f f' rest h r d hrec ih =>
    simp only [hrec] at ih
    simp [ih]
  | case2 f f' rest h => rfl
  | case3 fs h => rfl

theorem gcFiles_deleted (canDel : Nat → Bool) (files : List Nat) :
    ∀ f ∈ (gcFiles canDel files).2, canDel f = true := by
  fun_induction gcFiles canDel files with
  | case1 f f' rest h r d hrec ih =>
    simp only [hrec] at ih
    intro x hx
    rcases List.mem_cons.mp hx with rfl | hx
    · exact h
    · exact ih x hx
  | case2 f f' rest h => intro x hx; cases hx
  | case3 fs h => intro x hx; cases hx

/-- the never-delete-the-last rule -/
theorem gcFiles_ne_nil (canDel : Nat → Bool) (files : List Nat) (h : files ≠ []) :
    (gcFiles canDel files).1 ≠ [] := by
  fun_induction gcFiles canDel files with
  | case1 f f' rest hd r d hrec ih =>
    simp only [hrec] at ih
    exact ih (by simp)
  | case2 f f' rest hd => simp
  | case3 fs hfs => exact h

theorem gcFiles_head (canDel : Nat → Bool) (files : List Nat) (f₀ : Nat)
    (h : (gcFiles canDel files).1.head? = some f₀) :
    (gcFiles canDel files).1 = [f₀] ∨ canDel f₀ = false := by
  fun_induction gcFiles canDel files with
  | case1 f f' rest hd r d hrec ih =>
    simp only [hrec] at ih
    exact ih h
  | case2 f f' rest hd =>
    simp only [List.head?_cons, Option.some.injEq] at h
    subst h
    right
    simpa using hd
  | case3 fs hfs =>
    left
    match fs, hfs, h with
    | [x], _, h =>
      simp only [List.head?_cons, Option.some.injEq] at h
      rw [h]
    | x :: y :: rest, hfs, _ => exact absurd rfl (hfs x y rest)

/-- the result of a GC pass that does run -/
def gcResult (order : List Bytes) : Log × List Effect × Nat :=
  let r := writeTouches g l (gcNames l order)
  let gc := gcFiles (r.1.canDelete l.cur) r.1.files
  ({ r.1 with files := gc.1 }, r.2.1 ++ r.1.persistEffects .flushAndFsync ++ gc.2.map Effect.unlink, r.2.2)

theorem runGc_run (order : List Bytes) (f f' : Nat) (rest : List Nat) (hf : l.files = f :: f' :: rest)
    (hd : l.canDelete l.cur f = true) : runGc g l order = gcResult g l order := by
  unfold runGc
  simp only [hf, hd, if_true]
  rfl

theorem runGc_skip (order : List Bytes) (f f' : Nat) (rest : List Nat) (hf : l.files = f :: f' :: rest)
    (hd : l.canDelete l.cur f = false) : runGc g l order = (l, [], 0) := by
  unfold runGc
  simp [hf, hd]

theorem runGc_short (order : List Bytes) (hf : ∀ f f' rest, l.files ≠ f :: f' :: rest) :
    runGc g l order = (l, [], 0) := by
  unfold runGc
  split
  · rename_i f f' rest h
    exact absurd h (hf f f' rest)
  · rfl

theorem runGc_view (order : List Bytes) :
    (runGc g l order = (l, [], 0) ∧ gcJ g l order = [] ∧
      ((∀ f f' rest, l.files ≠ f :: f' :: rest) ∨
        ∃ f f' rest, l.files = f :: f' :: rest ∧ l.canDelete l.cur f = false)) ∨
    (runGc g l order = gcResult g l order ∧ gcJ g l order = touchesJ g l (gcNames l order) ∧
      ∃ f f' rest, l.files = f :: f' :: rest ∧ l.canDelete l.cur f = true) := by
  match hfs : l.files with
  | f :: f' :: rest =>
    cases hd : l.canDelete l.cur f with
    | true =>
      exact .inr ⟨runGc_run g l order f f' rest hfs hd, by simp only [gcJ, hfs, hd, if_true, gcNames],
        f, f', rest, rfl, hd⟩
    | false =>
      exact .inl ⟨runGc_skip g l order f f' rest hfs hd, by simp [gcJ, hfs, hd],
        .inr ⟨f, f', rest, rfl, hd⟩⟩
  | [] => exact .inl ⟨runGc_short g l order (by simp [hfs]), by simp [gcJ, hfs], .inl (by simp)⟩
  | [x] => exact .inl ⟨runGc_short g l order (by simp [hfs]), by simp [gcJ, hfs], .inl (by simp)⟩

theorem runGc_trichotomy (order : List Bytes) :
    (runGc g l order = gcResult g l order ∧ ∃ f f' rest, l.files = f :: f' :: rest ∧ l.canDelete l.cur f = true) ∨
    (runGc g l order = (l, [], 0) ∧ ∃ f f' rest, l.files = f :: f' :: rest ∧ l.canDelete l.cur f = false) ∨
    (runGc g l order = (l, [], 0) ∧ ∀ f f' rest, l.files ≠ f :: f' :: rest) := by
  rcases runGc_view g l order with ⟨h, _, hs | hs⟩ | ⟨h, _, hs⟩
  · exact .inr (.inr ⟨h, hs⟩)
  · exact .inr (.inl ⟨h, hs⟩)
  · exact .inl ⟨h, hs⟩

/-- A relation closed under `[]` and `++` that holds of one `writeBuf` holds of everything the write path is
    built from. `n` is the byte count the code hands back (`wal_bytes_written`): it rides along so that the one
    walk of the call tree also gives C15; most instances ignore it. -/
structure Along (g : Geom) (R : Log → List Effect → Nat → Log → Prop) : Prop where
  nil : ∀ l, R l [] 0 l
  app : ∀ {a b c : Log} {x y : List Effect} {m n : Nat}, R a x m b → R b y n c → R a (x ++ y) (m + n) c
  buf : ∀ l b, R l (writeBuf g l b).2 b.length (writeBuf g l b).1

/-- `entry` carries the byte count `writeEntry` returns, so a relation that holds of whole entries only
    is an instance too (`Along.call` comes from the buffers). In `unlinks`, `pinned` is the current file at
    the start of the pass; what is known of the two lists is `gcFiles_split`, `gcFiles_deleted`,
    `gcFiles_ne_nil`, `gcFiles_head`. -/
structure AlongCall (g : Geom) (R : Log → List Effect → Nat → Log → Prop) : Prop where
  nil : ∀ l, R l [] 0 l
  app : ∀ {a b c : Log} {x y : List Effect} {m n : Nat}, R a x m b → R b y n c → R a (x ++ y) (m + n) c
  entry : ∀ l e, R l (l.writeEntry g e).2.1 (l.writeEntry g e).2.2 (l.writeEntry g e).1
  sync : ∀ l a, R l (l.persistEffects a) 0 l
  queues : ∀ l qs, R l [] 0 { l with queues := qs }
  unlinks : ∀ (l : Log) (pinned : Nat),
    R l (l.persistEffects .flushAndFsync ++ (gcFiles (l.canDelete pinned) l.files).2.map Effect.unlink) 0
      { l with files := (gcFiles (l.canDelete pinned) l.files).1 }

section
variable {g} {R : Log → List Effect → Nat → Log → Prop}

theorem Along.of_shapes (nil : ∀ l, R l [] 0 l)
    (app : ∀ {a b c : Log} {x y : List Effect} {m n : Nat}, R a x m b → R b y n c → R a (x ++ y) (m + n) c)
    (inPlace : ∀ (l : Log) (buf : Bytes), buf ≠ [] → l.off + buf.length ≤ g.fileBytes →
      R l [.write l.cur l.off buf] buf.length { l with off := l.off + buf.length })
    (rollInto : ∀ (l : Log) (buf : Bytes) (nf : Nat), buf ≠ [] → nextFile l.files l.cur = some nf →
      R l [.flush, .fsyncFile l.cur, .fsyncDir, .openFile nf, .ensureLen nf g.fileBytes, .write nf 0 buf]
        buf.length { l with cur := nf, off := buf.length })
    (rollNew : ∀ (l : Log) (buf : Bytes), buf ≠ [] → nextFile l.files l.cur = none →
      R l [.flush, .fsyncFile l.cur, .fsyncDir, .create (l.cur + 1), .setLen (l.cur + 1) g.fileBytes,
          .write (l.cur + 1) 0 buf]
        buf.length { l with files := l.files ++ [l.cur + 1], cur := l.cur + 1, off := buf.length }) :
    Along g R where
  nil := nil
  app := app
  buf l b := by
    rcases writeBuf_cases g l b with ⟨rfl, e⟩ | ⟨hb, hle, e⟩ | ⟨hb, _, nf, hn, e⟩ | ⟨hb, _, hn, e⟩ <;> rw [e]
    · exact nil l
    · exact inPlace l b hb hle
    · exact rollInto l b nf hb hn
    · exact rollNew l b hb hn

theorem Along.writeBufs (h : Along g R) (bufs : List Bytes) :
    ∀ l, R l (writeBufs g l bufs).2 (totalLen bufs) (writeBufs g l bufs).1 := by
  induction bufs with
  | nil => exact h.nil
  | cons b bs ih => intro l; rw [writeBufs_cons]; exact h.app (h.buf l b) (ih _)

theorem Along.writeEntry (h : Along g R) (l : Log) (e : Entry) :
    R l (l.writeEntry g e).2.1 (l.writeEntry g e).2.2 (l.writeEntry g e).1 := by
  rw [writeEntry_eq]; exact h.writeBufs _ l

theorem writeTouches_along (nil : ∀ l, R l [] 0 l)
    (app : ∀ {a b c : Log} {x y : List Effect} {m n : Nat}, R a x m b → R b y n c → R a (x ++ y) (m + n) c)
    (entry : ∀ l e, R l (l.writeEntry g e).2.1 (l.writeEntry g e).2.2 (l.writeEntry g e).1)
    (names : List Bytes) :
    ∀ l, R l (writeTouches g l names).2.1 (writeTouches g l names).2.2 (writeTouches g l names).1 := by
  induction names with
  | nil => exact nil
  | cons n ns ih => intro l; rw [writeTouches_cons]; exact app (entry l _) (ih _)

theorem Along.writeTouches (h : Along g R) (names : List Bytes) :
    ∀ l, R l (writeTouches g l names).2.1 (writeTouches g l names).2.2 (writeTouches g l names).1 :=
  writeTouches_along h.nil h.app h.writeEntry names

theorem AlongCall.writeTouches (h : AlongCall g R) (names : List Bytes) :
    ∀ l, R l (writeTouches g l names).2.1 (writeTouches g l names).2.2 (writeTouches g l names).1 :=
  writeTouches_along h.nil h.app h.entry names

theorem Along.call (h : Along g R) (sync : ∀ l a, R l (l.persistEffects a) 0 l)
    (queues : ∀ l qs, R l [] 0 { l with queues := qs })
    (unlinks : ∀ (l : Log) (pinned : Nat),
      R l (l.persistEffects .flushAndFsync ++ (gcFiles (l.canDelete pinned) l.files).2.map Effect.unlink) 0
        { l with files := (gcFiles (l.canDelete pinned) l.files).1 }) : AlongCall g R :=
  ⟨h.nil, h.app, h.writeEntry, sync, queues, unlinks⟩

end

theorem writeBuf_queues (buf : Bytes) : (writeBuf g l buf).1.queues = l.queues := by
  rcases writeBuf_cases g l buf with ⟨_, h⟩ | ⟨_, _, h⟩ | ⟨_, _, _, _, h⟩ | ⟨_, _, _, h⟩ <;> rw [h]

theorem along_queues : Along g fun l _ _ l' => l'.queues = l.queues :=
  ⟨fun _ => rfl, fun h1 h2 => h2.trans h1, writeBuf_queues g⟩

theorem writeEntry_queues (e : Entry) : (l.writeEntry g e).1.queues = l.queues :=
  (along_queues g).writeEntry l e

theorem writeTouches_queues (names : List Bytes) (l : Log) : (writeTouches g l names).1.queues = l.queues :=
  (along_queues g).writeTouches names l

theorem runGc_queues (order : List Bytes) : (runGc g l order).1.queues = l.queues := by
  rcases runGc_view g l order with ⟨h, _⟩ | ⟨h, _⟩ <;> rw [h]
  exact writeTouches_queues g _ l

theorem appendRecord_isSome (q : MemQueue) (file pos : Nat) (pl : Bytes) (h : q.nextPosition ≤ pos) :
    ∃ q', q.appendRecord file pos pl = some q' := by
  unfold MemQueue.appendRecord
  rw [if_neg (by omega)]
  exact ⟨_, rfl⟩

theorem appendAll_isSome (file : Nat) (pls : List Bytes) :
    ∀ (q : MemQueue) (pos : Nat), q.nextPosition ≤ pos → ∃ q', appendAll q file (numberFrom pos pls) = some q' := by
  induction pls with
  | nil => intro q pos _; exact ⟨q, rfl⟩
  | cons p ps ih =>
    intro q pos h
    obtain ⟨q1, h1⟩ := appendRecord_isSome q file pos p h
    have hn := appendRecord_next h1
    obtain ⟨q2, h2⟩ := ih q1 (pos + 1) (by omega)
    refine ⟨q2, ?_⟩
    simp only [numberFrom, appendAll, h1, Option.bind_some, h2]

/-- reported `wal_bytes_written` of an outcome; the same function as `C13.walBytes` and `C15.walBytes`,
    in which C13 and C15 are stated -/
def outBytes : Outcome → Nat
  | .created n | .deleted n | .appended _ n | .truncated _ n => n
  | _ => 0

/-- a list of `flush`/`fsync` effects of the current file: `[]` or `persistEffects a`. It implies
    `H.IsSyncL` (below), which only says of each effect that it is a `flush` or an `fsync` -/
def IsSync (l : Log) (sy : List Effect) : Prop := sy = [] ∨ ∃ a, sy = l.persistEffects a

theorem policyEffects_isSync (tick : Bool) : IsSync l (l.policyEffects tick) := by
  unfold policyEffects IsSync
  split
  · exact .inr ⟨_, rfl⟩
  · split
    · exact .inr ⟨_, rfl⟩
    · exact .inl rfl
  · exact .inl rfl

/-- calls that end with a GC pass -/
def isGcCall : Call → Bool
  | .delete _ | .truncate _ _ => true
  | _ => false

/-- calls that end with an unconditional `persist(FlushAndFsync)` -/
def isForced : Call → Bool
  | .create _ | .delete _ => true
  | _ => false

def tailSync (l' : Log) (c : Call) (tick : Bool) : List Effect :=
  if isForced c then l'.persistEffects .flushAndFsync else l'.policyEffects tick

theorem tailSync_isSync (l' : Log) (c : Call) (tick : Bool) : IsSync l' (tailSync l' c tick) := by
  unfold tailSync
  split
  · exact .inr ⟨_, rfl⟩
  · exact policyEffects_isSync l' tick

/-- the position checks of `append_records`: the position the batch is written at, or the answer
    given without writing anything -/
def appendAt (mq : MemQueue) (pos? : Option Nat) (pls : List Bytes) : Except Outcome Nat :=
  match pos? with
  | some p =>
    if p + 1 = mq.nextPosition then .error (.appended none 0)
    else if p < mq.nextPosition then .error .past
    else if pls.isEmpty then .error (.appended none 0) else .ok p
  | none => if pls.isEmpty then .error (.appended none 0) else .ok mq.nextPosition

theorem appendAt_eq_ok {mq : MemQueue} {pos? : Option Nat} {pls : List Bytes} {pos : Nat} :
    appendAt mq pos? pls = .ok pos ↔ pls ≠ [] ∧ pos = pos?.getD mq.nextPosition ∧ mq.nextPosition ≤ pos := by
  have hemp : pls.isEmpty = true ↔ pls = [] := List.isEmpty_iff
  cases pos? with
  | none =>
    simp only [appendAt, Option.getD_none]
    by_cases he : pls.isEmpty = true
    · rw [if_pos he]; exact ⟨nofun, fun h => absurd (hemp.mp he) h.1⟩
    · rw [if_neg he]
      exact ⟨fun h => ⟨fun e => he (hemp.mpr e), (Except.ok.inj h).symm, Nat.le_of_eq (Except.ok.inj h)⟩,
        fun h => by rw [h.2.1]⟩
  | some p =>
    simp only [appendAt, Option.getD_some]
    by_cases h1 : p + 1 = mq.nextPosition
    · rw [if_pos h1]; exact ⟨nofun, fun h => by omega⟩
    by_cases h2 : p < mq.nextPosition
    · rw [if_neg h1, if_pos h2]; exact ⟨nofun, fun h => by omega⟩
    by_cases he : pls.isEmpty = true
    · rw [if_neg h1, if_neg h2, if_pos he]; exact ⟨nofun, fun h => absurd (hemp.mp he) h.1⟩
    · rw [if_neg h1, if_neg h2, if_neg he]
      exact ⟨fun h => ⟨fun e => he (hemp.mpr e), (Except.ok.inj h).symm, by have := Except.ok.inj h; omega⟩,
        fun h => by rw [h.2.1]⟩

/-- What a call does, decided from the queues in memory and the number of the current file. -/
inductive Act
  /-- answered without touching the log or the disk -/
  | skip (out : Outcome)
  | sync (a : PersistAction)
  /-- the entry logged, the queues afterwards, the outcome as a function of the bytes written -/
  | log (e : Entry) (qs' : MemQueues) (out : Nat → Outcome)

def act : Call → Act
  | .create q =>
    if l.queues.contains q then .skip .alreadyExists else .log (.touch q 0) (l.queues.set q {}) .created
  | .delete q =>
    match l.queues.get? q with
    | none => .skip .missingQueue
    | some mq => .log (.delete q mq.nextPosition) (l.queues.remove q) .deleted
  | .truncate q p =>
    match l.queues.get? q with
    | none => .skip .missingQueue
    | some mq =>
      .log (.truncate q p) (l.queues.set q (mq.truncateHead p).1) (.truncated (mq.truncateHead p).2)
  | .append q pos? pls =>
    match l.queues.get? q with
    | none => .skip .missingQueue
    | some mq =>
      match appendAt mq pos? pls with
      | .error out => .skip out
      | .ok pos =>
        match appendAll mq l.cur (numberFrom pos pls) with
        | some mq' =>
          .log (.append q pos (numberFrom pos pls)) (l.queues.set q mq') (.appended (some (pos + pls.length - 1)))
        | none => .skip .past  -- never: `appendAt` answers a position at or above `nextPosition`
  | .persist a => .sync a

/-- **What a call does, case by case**: the twelve ways `act` can answer, each with what it found
    in the queues. The seven that answer without writing are the shapes of `C13.Rejected`. -/
inductive Does (l : Log) : Call → Act → Prop
  | createExisting (q) : l.queues.contains q = true → Does l (.create q) (.skip .alreadyExists)
  | create (q) : l.queues.contains q = false →
      Does l (.create q) (.log (.touch q 0) (l.queues.set q {}) .created)
  | deleteMissing (q) : l.queues.get? q = none → Does l (.delete q) (.skip .missingQueue)
  | delete (q mq) : l.queues.get? q = some mq →
      Does l (.delete q) (.log (.delete q mq.nextPosition) (l.queues.remove q) .deleted)
  | truncateMissing (q p) : l.queues.get? q = none → Does l (.truncate q p) (.skip .missingQueue)
  | truncate (q p mq) : l.queues.get? q = some mq →
      Does l (.truncate q p)
        (.log (.truncate q p) (l.queues.set q (mq.truncateHead p).1) (.truncated (mq.truncateHead p).2))
  | appendMissing (q pos? pls) : l.queues.get? q = none → Does l (.append q pos? pls) (.skip .missingQueue)
  | appendRetry (q mq p pls) : l.queues.get? q = some mq → p + 1 = mq.nextPosition →
      Does l (.append q (some p) pls) (.skip (.appended none 0))
  | appendPast (q mq p pls) : l.queues.get? q = some mq → p + 1 < mq.nextPosition →
      Does l (.append q (some p) pls) (.skip .past)
  | appendEmpty (q mq pos?) : l.queues.get? q = some mq → (∀ p, pos? = some p → mq.nextPosition ≤ p) →
      Does l (.append q pos? []) (.skip (.appended none 0))
  /-- the batch is written at `pos` (`appendAt_eq_ok` says which position that is) -/
  | append (q mq mq' pos? pls pos) : l.queues.get? q = some mq → appendAt mq pos? pls = .ok pos →
      appendAll mq l.cur (numberFrom pos pls) = some mq' →
      Does l (.append q pos? pls)
        (.log (.append q pos (numberFrom pos pls)) (l.queues.set q mq') (.appended (some (pos + pls.length - 1))))
  | persist (a) : Does l (.persist a) (.sync a)

theorem act_does (l : Log) (c : Call) : Does l c (act l c) := by
  cases c with
  | persist a => exact .persist a
  | create q =>
    simp only [act]
    cases hc : l.queues.contains q with
    | true => rw [if_pos rfl]; exact .createExisting q hc
    | false => rw [if_neg Bool.false_ne_true]; exact .create q hc
  | delete q =>
    simp only [act]
    cases hg : l.queues.get? q with
    | none => exact .deleteMissing q hg
    | some mq => exact .delete q mq hg
  | truncate q p =>
    simp only [act]
    cases hg : l.queues.get? q with
    | none => exact .truncateMissing q p hg
    | some mq => exact .truncate q p mq hg
  | append q pos? pls =>
    simp only [act]
    cases hg : l.queues.get? q with
    | none => exact .appendMissing q pos? pls hg
    | some mq =>
      simp only
      cases ha : appendAt mq pos? pls with
      | ok pos =>
        -- the branch in which `appendAll` fails is dead
        obtain ⟨mq', hall⟩ := appendAll_isSome l.cur pls mq pos (appendAt_eq_ok.mp ha).2.2
        simp only [hall]
        exact .append q mq mq' pos? pls pos hg ha hall
      | error out =>
        simp only
        -- which of the three answers without writing it is
        cases pos? with
        | none =>
          simp only [appendAt] at ha
          by_cases he : pls.isEmpty = true
          · rw [if_pos he] at ha; cases ha
            rw [List.isEmpty_iff.mp he]
            exact .appendEmpty q mq none hg nofun
          · rw [if_neg he] at ha; cases ha
        | some p =>
          simp only [appendAt] at ha
          by_cases h1 : p + 1 = mq.nextPosition
          · rw [if_pos h1] at ha; cases ha; exact .appendRetry q mq p pls hg h1
          · rw [if_neg h1] at ha
            by_cases h2 : p < mq.nextPosition
            · rw [if_pos h2] at ha; cases ha
              exact .appendPast q mq p pls hg (Nat.lt_of_le_of_ne h2 h1)
            · rw [if_neg h2] at ha
              by_cases he : pls.isEmpty = true
              · rw [if_pos he] at ha; cases ha
                rw [List.isEmpty_iff.mp he]
                exact .appendEmpty q mq (some p) hg
                  (fun p' hp' => by cases hp'; exact Nat.le_of_not_lt h2)
              · rw [if_neg he] at ha; cases ha

theorem Does.act_eq {l : Log} {c : Call} {a : Act} (h : Does l c a) : act l c = a := by
  cases h with
  | createExisting q hc => simp only [act, hc, if_true]
  | create q hc => simp only [act, hc, Bool.false_eq_true, if_false]
  | deleteMissing q hg => simp only [act, hg]
  | delete q mq hg => simp only [act, hg]
  | truncateMissing q p hg => simp only [act, hg]
  | truncate q p mq hg => simp only [act, hg]
  | appendMissing q pos? pls hg => simp only [act, hg]
  | appendRetry q mq p pls hg hp => simp only [act, hg, appendAt, hp, if_true]
  | appendPast q mq p pls hg hp =>
    simp only [act, hg, appendAt, if_neg (Nat.ne_of_lt hp), if_pos (Nat.lt_of_succ_lt hp)]
  | appendEmpty q mq pos? hg hp =>
    cases pos? with
    | none => simp only [act, hg, appendAt, List.isEmpty_nil, if_true]
    | some p =>
      have := hp p rfl
      simp only [act, hg, appendAt, if_neg (Nat.ne_of_gt (Nat.lt_succ_of_le this)),
        if_neg (Nat.not_lt_of_le this), List.isEmpty_nil, if_true]
  | append q mq mq' pos? pls pos hg ha hall => simp only [act, hg, ha, hall]
  | persist a => rfl

/-- **One API call.** The branch of `step` that `appendAll` fails in is dead (`appendAll_isSome`),
    and the entry writer does not touch the queues, so the new queues can be given beforehand. -/
theorem step_eq (c : Call) (tick : Bool) (order : List Bytes) :
    step g l c tick order =
      match act l c with
      | .skip out => (l, out, [])
      | .sync a => (l, .persisted, l.persistEffects a)
      | .log e qs' out =>
        let r1 := l.writeEntry g e
        let l2 : Log := { r1.1 with queues := qs' }
        let r3 := if isGcCall c then l2.runGc g order else (l2, [], 0)
        (r3.1, out (r1.2.2 + r3.2.2), r1.2.1 ++ r3.2.1 ++ tailSync r3.1 c tick) := by
  have hd := act_does l c
  generalize act l c = a at hd
  cases hd with
  | persist a => rfl
  | createExisting q hc => simp [step, hc]
  | create q hc => simp [step, hc, isGcCall, tailSync, isForced, writeEntry_queues]; rfl
  | deleteMissing q hg => simp [step, hg]
  | delete q mq hg => simp [step, hg, isGcCall, tailSync, isForced, writeEntry_queues]
  | truncateMissing q p hg => simp [step, hg]
  | truncate q p mq hg => simp [step, hg, isGcCall, tailSync, isForced, writeEntry_queues]
  | appendMissing q pos? pls hg => simp [step, hg]
  | appendRetry q mq p pls hg hp => simp [step, hg, hp]
  | appendPast q mq p pls hg hp => simp [step, hg, Nat.ne_of_lt hp, Nat.lt_of_succ_lt hp]
  | appendEmpty q mq pos? hg hp =>
    cases pos? with
    | none => simp [step, hg]
    | some p =>
      have := hp p rfl
      simp [step, hg, Nat.ne_of_gt (Nat.lt_succ_of_le this), Nat.not_lt_of_le this]
  | append q mq mq' pos? pls pos hg ha hall =>
    obtain ⟨hne, hpos, hle⟩ := appendAt_eq_ok.mp ha
    have hemp : pls.isEmpty = false := by cases pls <;> simp_all
    cases pos? with
    | none =>
      have hp' : pos = mq.nextPosition := hpos
      subst hp'
      simp [step, hg, hemp, hall, isGcCall, tailSync, isForced, writeEntry_queues]; rfl
    | some p =>
      have hp' : pos = p := hpos
      subst hp'
      simp [step, hg, Nat.ne_of_gt (Nat.lt_succ_of_le hle), Nat.not_lt_of_le hle, hemp, hall, isGcCall,
        tailSync, isForced, writeEntry_queues]
      rfl

theorem step_skip {c : Call} {out : Outcome} (h : act l c = .skip out) (tick : Bool) (order : List Bytes) :
    step g l c tick order = (l, out, []) := by
  rw [step_eq, h]

theorem step_log {c : Call} {e : Entry} {qs' : MemQueues} {out : Nat → Outcome}
    (h : act l c = .log e qs' out) (tick : Bool) (order : List Bytes) :
    (step g l c tick order).1.queues = qs' ∧ ∃ n, (step g l c tick order).2.1 = out n := by
  rw [step_eq, h]
  refine ⟨?_, _, rfl⟩
  cases isGcCall c with
  | false => rfl
  | true => exact runGc_queues g _ order

theorem stepJ_eq (c : Call) (order : List Bytes) :
    l.stepJ g c order =
      match act l c with
      | .log e qs' _ =>
        l.je g e :: if isGcCall c then gcJ g { (l.writeEntry g e).1 with queues := qs' } order else []
      | _ => [] := by
  have hd := act_does l c
  generalize act l c = a at hd
  cases hd with
  | persist a => rfl
  | createExisting q hc => simp [stepJ, hc]
  | create q hc => simp [stepJ, hc, isGcCall]
  | deleteMissing q hg => simp [stepJ, hg]
  | delete q mq hg => simp [stepJ, hg, isGcCall, writeEntry_queues]
  | truncateMissing q p hg => simp [stepJ, hg]
  | truncate q p mq hg => simp [stepJ, hg, isGcCall, writeEntry_queues]
  | appendMissing q pos? pls hg => simp [stepJ, hg]
  | appendRetry q mq p pls hg hp => simp [stepJ, hg, hp]
  | appendPast q mq p pls hg hp => simp [stepJ, hg, Nat.ne_of_lt hp, Nat.lt_of_succ_lt hp]
  | appendEmpty q mq pos? hg hp =>
    cases pos? with
    | none => simp [stepJ, hg]
    | some p =>
      have := hp p rfl
      simp [stepJ, hg, Nat.ne_of_gt (Nat.lt_succ_of_le this), Nat.not_lt_of_le this]
  | append q mq mq' pos? pls pos hg ha hall =>
    obtain ⟨hne, hpos, hle⟩ := appendAt_eq_ok.mp ha
    have hemp : pls.isEmpty = false := by cases pls <;> simp_all
    cases pos? with
    | none =>
      have hp' : pos = mq.nextPosition := hpos
      subst hp'
      simp [stepJ, hg, hemp, isGcCall]
    | some p =>
      have hp' : pos = p := hpos
      subst hp'
      simp [stepJ, hg, Nat.ne_of_gt (Nat.lt_succ_of_le hle), Nat.not_lt_of_le hle, hemp, isGcCall]

/-- what `AlongCall.step` needs of `act`: the outcome reports exactly the bytes the write path returned, and 0
    when nothing is logged — so `outBytes` of the outcome is the `n` of `AlongCall` -/
def Act.Ok (c : Call) : Act → Prop
  | .skip out => outBytes out = 0
  | .sync a => c = .persist a
  | .log _ _ out => ∀ n, outBytes (out n) = n

theorem act_ok (c : Call) : (act l c).Ok c := by
  have hd := act_does l c
  generalize act l c = a at hd
  cases hd with
  | persist a => exact rfl
  | createExisting q _ | deleteMissing q _ | truncateMissing q p _ | appendMissing q pos? pls _
  | appendRetry q mq p pls _ _ | appendPast q mq p pls _ _ | appendEmpty q mq pos? _ _ => exact rfl
  | create q _ | delete q mq _ | truncate q p mq _ | append q mq mq' pos? pls pos _ _ _ => exact fun _ => rfl

theorem step_shape (c : Call) (tick : Bool) (order : List Bytes) :
    (∃ out, step g l c tick order = (l, out, [])) ∨
    (∃ a, c = .persist a ∧ step g l c tick order = (l, .persisted, l.persistEffects a)) ∨
    (∃ (e : Entry) (qs' : MemQueues) (out : Outcome),
      let r1 := l.writeEntry g e
      let l2 : Log := { r1.1 with queues := qs' }
      let r3 := if isGcCall c then l2.runGc g order else (l2, [], 0)
      step g l c tick order = (r3.1, out, r1.2.1 ++ r3.2.1 ++ tailSync r3.1 c tick)) := by
  have hb := act_ok l c
  rw [step_eq]
  cases h : act l c with
  | skip out => exact .inl ⟨out, rfl⟩
  | sync a => rw [h] at hb; exact .inr (.inl ⟨a, hb, rfl⟩)
  | log e qs' out => exact .inr (.inr ⟨e, qs', _, rfl⟩)

section
variable {g} {R : Log → List Effect → Nat → Log → Prop}

theorem AlongCall.runGc (h : AlongCall g R) (l : Log) (order : List Bytes) :
    R l (runGc g l order).2.1 (runGc g l order).2.2 (runGc g l order).1 := by
  rcases runGc_view g l order with ⟨e, _⟩ | ⟨e, _⟩ <;> rw [e]
  · exact h.nil l
  · simp only [gcResult, List.append_assoc]
    exact h.app (n := 0) (h.writeTouches _ l) (h.unlinks _ l.cur)

theorem AlongCall.step (h : AlongCall g R) (l : Log) (c : Call) (tick : Bool) (order : List Bytes) :
    R l (step g l c tick order).2.2 (outBytes (step g l c tick order).2.1) (step g l c tick order).1 := by
  have hb := act_ok l c
  rw [step_eq]
  cases ha : act l c with
  | skip out => rw [ha] at hb; rw [show outBytes out = 0 from hb]; exact h.nil l
  | sync a => exact h.sync l a
  | log e qs' out =>
    rw [ha] at hb
    simp only [show ∀ n, outBytes (out n) = n from hb]
    have h2 : R l (l.writeEntry g e).2.1 (l.writeEntry g e).2.2 { (l.writeEntry g e).1 with queues := qs' } := by
      have := h.app (h.entry l e) (h.queues _ qs')
      rwa [List.append_nil, Nat.add_zero] at this
    have h3 : ∀ l', R l' (tailSync l' c tick) 0 l' := fun l' => by
      rcases tailSync_isSync l' c tick with e | ⟨a, e⟩ <;> rw [e]
      · exact h.nil l'
      · exact h.sync l' a
    refine h.app (n := 0) (h.app h2 ?_) (h3 _)
    cases isGcCall c with
    | false => exact h.nil _
    | true => exact h.runGc _ order

end

theorem entryBufs_one (g : Geom) (l : Log) (e : Entry) (hfit : Consts.HEADER_LEN + e.encode.length ≤ g.B - l.off % g.B) :
    entryBufs g l e = [encodeFrame .full e.encode] := by
  have hB : Consts.HEADER_LEN ≤ g.B - l.off % g.B := Nat.le_trans (Nat.le_add_right _ _) hfit
  have h1 : min (maxFrameLen g (l.off % g.B)) e.encode.length = e.encode.length := by
    rw [maxFrameLen, if_pos hB]
    exact Nat.min_eq_right (Nat.le_sub_of_add_le' hfit)
  unfold entryBufs MRL.writeEntry
  rw [writeEntryBufs]
  simp only [h1, List.drop_length, List.isEmpty_nil, List.take_length, dite_true]
  rw [frameWrites, if_neg (Nat.not_lt_of_le hB)]
  rfl

theorem entry_one_buf (g : Geom) (l : Log) (e : Entry) (hfit : Consts.HEADER_LEN + e.encode.length ≤ g.B - l.off % g.B)
    (hfile : l.off + (Consts.HEADER_LEN + e.encode.length) ≤ g.fileBytes) :
    l.writeEntry g e = ({ l with off := l.off + (Consts.HEADER_LEN + e.encode.length) },
      [.write l.cur l.off (encodeFrame .full e.encode)], Consts.HEADER_LEN + e.encode.length) := by
  rw [writeEntry_eq, entryBufs_one g l e hfit]
  have hne : (encodeFrame .full e.encode).isEmpty = false :=
    List.isEmpty_eq_false_iff.mpr (encodeFrame_ne_nil .full e.encode)
  have hnr : ¬ g.fileBytes < l.off + (Consts.HEADER_LEN + e.encode.length) := Nat.not_lt_of_le hfile
  simp [writeBufs, writeBuf, hne, Codec.length_encodeFrame, totalLen, hnr]

end MRL.Step

namespace MRL.H

/-- `flush` / `fsync` effects only: they change no image and are not writes -/
def IsSyncL (sy : List Effect) : Prop := ∀ v ∈ sy, v = .flush ∨ (∃ f, v = .fsyncFile f) ∨ v = .fsyncDir

theorem isSyncL_nil : IsSyncL [] := fun _ h => by cases h

theorem IsSyncL.take {s : List Effect} (h : IsSyncL s) (k : Nat) : IsSyncL (s.take k) :=
  fun v hv => h v (List.mem_of_mem_take hv)

theorem isSyncL_persist (l : Log) (a : PersistAction) : IsSyncL (l.persistEffects a) := by
  intro v hv
  cases a <;> simp [Log.persistEffects] at hv
  · exact Or.inl hv
  · rcases hv with h | h | h
    · exact Or.inl h
    · exact Or.inr (Or.inl ⟨_, h⟩)
    · exact Or.inr (Or.inr h)

theorem isSyncL_of_isSync {l : Log} {sy : List Effect} (h : Step.IsSync l sy) : IsSyncL sy := by
  rcases h with rfl | ⟨a, rfl⟩
  · exact isSyncL_nil
  · exact isSyncL_persist l a

theorem isSyncL_tailSync (l' : Log) (c : Call) (tick : Bool) : IsSyncL (Step.tailSync l' c tick) :=
  isSyncL_of_isSync (Step.tailSync_isSync l' c tick)

end MRL.H

namespace MRL.Log
variable (g : Geom) (l : Log) (tick : Bool) (order : List Bytes)

theorem step_persist (a : PersistAction) :
    step g l (.persist a) tick order = (l, .persisted, l.persistEffects a) := rfl

end MRL.Log
