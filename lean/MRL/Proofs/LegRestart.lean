/-
The end-to-end system state as a record (`Sys`: log, journal, OS image, `BufWriter`), running calls
on it, and what one restart of a reachable state gives back: the same files and current file
before the GC pass (`reopen_facts`); the queues are equivalent (`C01R.restart_queues`). The bound `g.B ≤ 65542`
carried by these statements is 65535 + `HEADER_LEN`: a frame payload length is a `u16`.
-/
import MRL.Props.C01Restart
import MRL.Proofs.StepGc

namespace MRL.Restart
open Log C01R C01J G

structure Sys where
  l : Log
  J : List JE
  img : Image
  b : BufSt

def Reach (g : Geom) (cap : Nat) (s : Sys) : Prop := ReachD g cap s.l s.J s.img s.b

def WFJ (s : Sys) : Prop := ∀ j ∈ s.J, C07.WF j.e

def Sys.step (g : Geom) (cap : Nat) (s : Sys) (c : Call) (tick : Bool) (order : List Bytes) : Sys :=
  { l := (s.l.step g c tick order).1
    J := s.J ++ s.l.stepJ g c order
    img := applyOsOps s.img (toOsOps cap s.b (s.l.step g c tick order).2.2).2
    b := (toOsOps cap s.b (s.l.step g c tick order).2.2).1 }

def Sys.run (g : Geom) (cap : Nat) (s : Sys) : List (Call × Bool × List Bytes) → Sys
  | [] => s
  | (c, tick, order) :: cs => Sys.run g cap (s.step g cap c tick order) cs

/-- the disk once the `BufWriter` is dropped -/
def Sys.disk (s : Sys) : Image := C01R.flushDisk s.img s.b

/-- `s'` is `s` restarted with `policy` (GC order oracle `order`) -/
def Reopens (g : Geom) (cap : Nat) (s : Sys) (policy : Policy) (order : List Bytes) (s' : Sys) : Prop :=
  ∃ lp e0 io r, recoverPre g s.disk policy none = .ok (lp, e0, io) ∧
    recover g s.disk policy order none = .ok r ∧
    s' = { l := r.log, J := s.J ++ lp.gcJ g order,
           img := applyOsOps s.disk (toOsOps cap {} r.effects).2, b := (toOsOps cap {} r.effects).1 }

variable {g : Geom} {cap : Nat}

theorem Reach.step {s : Sys} (h : Reach g cap s) (c : Call) (tick : Bool) (order : List Bytes) :
    Reach g cap (s.step g cap c tick order) := ReachD.step c tick order h

theorem Reach.run {s : Sys} (h : Reach g cap s) (cs : List (Call × Bool × List Bytes)) :
    Reach g cap (s.run g cap cs) := by
  induction cs generalizing s with
  | nil => exact h
  | cons x cs ih => obtain ⟨c, tick, order⟩ := x; exact ih (h.step c tick order)

theorem Reach.reopen {s s' : Sys} {policy : Policy} {order : List Bytes} (h : Reach g cap s)
    (hr : Reopens g cap s policy order s') : Reach g cap s' := by
  obtain ⟨lp, e0, io, r, hpre, hrec, rfl⟩ := hr
  exact ReachD.reopen policy order lp e0 io r h hpre hrec

theorem run_log (s : Sys) (cs : List (Call × Bool × List Bytes)) :
    (s.run g cap cs).l = C05.run g s.l cs := by
  induction cs generalizing s with
  | nil => rfl
  | cons x cs ih => obtain ⟨c, tick, order⟩ := x; exact ih _

theorem run_journal (s : Sys) (cs : List (Call × Bool × List Bytes)) :
    ∃ J', (s.run g cap cs).J = s.J ++ J' := by
  induction cs generalizing s with
  | nil => exact ⟨[], by simp [Sys.run]⟩
  | cons x cs ih =>
    obtain ⟨c, tick, order⟩ := x
    obtain ⟨J', hJ⟩ := ih (s.step g cap c tick order)
    exact ⟨s.l.stepJ g c order ++ J', by rw [Sys.run, hJ]; simp [Sys.step]⟩

theorem WFJ.of_run {s : Sys} {cs : List (Call × Bool × List Bytes)} (h : WFJ (s.run g cap cs)) : WFJ s := by
  obtain ⟨J', hJ⟩ := run_journal (g := g) (cap := cap) s cs
  intro j hj
  exact h j (by rw [hJ]; exact List.mem_append_left _ hj)

theorem WFJ.of_reopen {s s' : Sys} {policy : Policy} {order : List Bytes}
    (hr : Reopens g cap s policy order s') (h : WFJ s') : WFJ s := by
  obtain ⟨lp, e0, io, r, _, _, rfl⟩ := hr
  intro j hj
  exact h j (List.mem_append_left _ hj)

theorem Reach.inv (hB : g.B ≤ 65542) {s : Sys} (h : Reach g cap s) (hwf : WFJ s) : C05.Inv s.l := by
  have := (reach_rinv g hB cap h hwf).c.jinv
  obtain ⟨hH, _⟩ := this
  exact hH.inv

theorem reopen_facts (hB : g.B ≤ 65542) {s : Sys} (h : Reach g cap s) (hwf : WFJ s)
    (policy : Policy) (order : List Bytes) (lp : Log) (e0 : List Effect) (io : Nat) (r : Recovered)
    (hpre : recoverPre g s.disk policy none = .ok (lp, e0, io))
    (hrec : recover g s.disk policy order none = .ok r) :
    r.log = (runGc g lp order).1 ∧ lp.files = s.l.files ∧ lp.cur = s.l.cur := by
  obtain ⟨lp', io', hpre', _, _, hfiles, _, hcur⟩ := open_ok g hB (reach_rinv g hB cap h hwf).c hwf policy
  cases hpre.symm.trans hpre'
  obtain ⟨lp2, e2, io2, hpre2, hlog, _⟩ := Step.recover_ok g s.disk policy order none r hrec
  cases hpre.symm.trans hpre2
  exact ⟨hlog, hfiles, hcur⟩

theorem reopens_exists (hB : g.B ≤ 65542) {s : Sys} (h : Reach g cap s) (hwf : WFJ s)
    (policy : Policy) (order : List Bytes) : ∃ s', Reopens g cap s policy order s' := by
  obtain ⟨lp, e0, io, r, hpre, hrec⟩ := reopen_ok g hB cap s.l s.J s.img s.b h hwf policy order
  exact ⟨_, lp, e0, io, r, hpre, hrec, rfl⟩

theorem reach_init (hB : g.B ≤ 65542) (policy : Policy) (order : List Bytes) :
    ∃ s, Reach g cap s ∧ s.J = [] := by
  obtain ⟨r, hr⟩ := init_ok g hB policy order
  exact ⟨⟨r.log, [], _, _⟩, ReachD.init policy order r hr, rfl⟩

end MRL.Restart
