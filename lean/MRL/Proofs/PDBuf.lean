/-
Operation boundaries are effect boundaries, for the power-loss state with pending unlinks
(`prunD`, MRL/Model/PowerLossDir.lean), hence for the plain power-loss state, which is part of it.
The refined `BufWriter` has the shape of the plain one (`P.bufStepP_shape`), and a write only changes
the volatile image, so two contiguous writes are the merged write: that is all `op_boundary_fold` asks.
Operations that are neither an `fsync` nor an `unlink` only change the volatile image (`prunD_quiet`).
-/
import MRL.Model.PowerLossDir
import MRL.Proofs.PBuf

namespace MRL.PD
open Buf H P

def isUnl : Effect → Bool
  | .unlink _ => true
  | _ => false

def Quiet (ops : List OsOp) : Prop := ∀ o ∈ ops, o ≠ OsOp.sync ∧ ∀ f, o ≠ OsOp.unlink f

theorem Quiet.noSync {ops : List OsOp} (h : Quiet ops) : NoSync ops := fun o ho => (h o ho).1

theorem prunD_append (d : DState) (a b : List OsOpP) : prunD d (a ++ b) = prunD (prunD d a) b := by
  simp [prunD, List.foldl_append]

theorem pstepD_s (d : DState) (op : OsOpP) : (pstepD d op).s = pstep d.s op := by
  cases op with
  | unlink f =>
    simp only [pstepD]
    split
    · split <;> rfl
    · rfl
  | syncDir => rfl
  | syncFile f => rfl
  | write f off data => rfl
  | create f => rfl
  | setLen f n => rfl
  | ensureLen f n => rfl

theorem prunD_s (ops : List OsOpP) : ∀ d : DState, (prunD d ops).s = prun d.s ops := by
  induction ops with
  | nil => intro d; rfl
  | cons o ops ih =>
    intro d
    simp only [prunD, prun, List.foldl_cons]
    have := ih (pstepD d o)
    simp only [prunD, prun] at this
    rw [this, pstepD_s]

theorem dstate_eta (d : DState) : ({ d with s := d.s } : DState) = d := by cases d; rfl

theorem prunD_quiet (ops : List OsOp) (h : Quiet ops) : ∀ d : DState,
    prunD d (ops.map OsOpP.lift) = { d with s := prun d.s (ops.map OsOpP.lift) } := by
  induction ops with
  | nil => intro d; exact (dstate_eta d).symm
  | cons o ops ih =>
    intro d
    obtain ⟨h1, h2⟩ := h o List.mem_cons_self
    have hs : pstepD d (OsOpP.lift o) = { d with s := pstep d.s (OsOpP.lift o) } := by
      cases o with
      | sync => exact absurd rfl h1
      | unlink f => exact absurd rfl (h2 f)
      | write f off data => rfl
      | create f => rfl
      | setLen f n => rfl
      | ensureLen f n => rfl
    simp only [List.map_cons, prunD, prun, List.foldl_cons, hs]
    have := ih (fun o' ho' => h o' (List.mem_cons_of_mem _ ho')) { d with s := pstep d.s (OsOpP.lift o) }
    simp only [prunD, prun] at this
    rw [this]

theorem direct_quiet (e : Effect) (he : isSyncE e = false) (hu : isUnl e = false) : Quiet (direct e) := by
  intro o ho
  cases e with
  | fsyncFile f => cases he
  | fsyncDir => cases he
  | unlink f => cases hu
  | write _ _ _ | create _ | setLen _ _ | ensureLen _ _ =>
    simp only [direct, List.mem_singleton] at ho; rw [ho]; exact ⟨(fun h => by cases h), (fun f h => by cases h)⟩
  | flush | listDir | openFile _ | readBlock _ => cases ho

theorem prunD_merge (S : DState) (f o : Nat) (p d : Bytes) :
    prunD S (directP (.write f o (p ++ d))) =
      prunD (prunD S (directP (.write f o p))) (directP (.write f (o + p.length) d)) := by
  show ({ S with s := { S.s with vol := applyOs S.s.vol (.write f o (p ++ d)) } } : DState) =
    { S with s := { S.s with vol := applyOs (applyOs S.s.vol (.write f o p)) (.write f (o + p.length) d) } }
  rw [write_write]

theorem toOsOpsD_ok (cap : Nat) (es : List Effect) (b : BufSt) (st st' : St) (hinv : Inv cap b st)
    (hr : runS st es = some st') :
    Inv cap (toOsOpsP cap b es).1 st' ∧
    ∀ S : DState, prunD (prunD S (toOsOpsP cap b es).2) ((toOsOpsP cap b es).1.flushOps.map OsOpP.lift) =
      prunD (prunD S (b.flushOps.map OsOpP.lift)) (directOpsP es) := by
  rw [runS_eq] at hr
  have := ok_fold prunD (fun _ => rfl) prunD_append cap (bufStepP cap) (toOsOpsP cap) directP run1S
    (fun _ => rfl) (toOsOpsP_cons cap) directP_length_le directP_silent prunD_merge
    (bufStepP_shape prunD cap) es b st st' hinv hr
  refine ⟨this.1, fun S => ?_⟩
  rw [← pendW_lift, ← pendW_lift]
  exact this.2 S

theorem prunD_triple_end (d : DState) (pre : List Effect) (f : Nat) :
    prunD d (directOpsP (pre ++ [.flush, .fsyncFile f, .fsyncDir])) =
      ⟨prun d.s (directOpsP (pre ++ [.flush, .fsyncFile f, .fsyncDir])), [], false⟩ := by
  have hs := prunD_s (directOpsP (pre ++ [.flush, .fsyncFile f, .fsyncDir])) d
  rw [directOpsP_append, prunD_append] at hs ⊢
  generalize prunD d (directOpsP pre) = d0 at *
  have : prunD d0 (directOpsP [Effect.flush, Effect.fsyncFile f, Effect.fsyncDir]) =
      ⟨(pstepD (pstepD d0 (.syncFile f)) .syncDir).s, [], false⟩ := rfl
  rw [this] at hs ⊢
  rw [hs]

theorem op_boundaryD (cap : Nat) (es : List Effect) (b : BufSt) (st st' : St) (S : DState)
    (hinv : Inv cap b st) (hr : runS st es = some st') (k : Nat) :
    ∃ n, prunD S ((toOsOpsP cap b es).2.take k) = prunD S (directOpsP ((pendW b ++ es).take n)) :=
  op_boundary_fold prunD (fun _ => rfl) prunD_append cap (bufStepP cap) (toOsOpsP cap) directP
    run1S (fun _ => rfl) (toOsOpsP_cons cap) directP_length_le directP_silent prunD_merge
    (bufStepP_shape prunD cap) es b st st' S hinv (runS_eq st es ▸ hr) k

end MRL.PD

namespace MRL.P
open Buf H PD

/-- for the plain power-loss state, which is part of the state with pending unlinks -/
theorem op_boundaryP (cap : Nat) (es : List Effect) (b : BufSt) (st st' : St) (S : PState)
    (hinv : Inv cap b st) (hr : runS st es = some st') (k : Nat) :
    ∃ n, prun S ((toOsOpsP cap b es).2.take k) = prun S (directOpsP ((pendW b ++ es).take n)) := by
  obtain ⟨n, hn⟩ := op_boundaryD cap es b st st' ⟨S, [], false⟩ hinv hr k
  have := congrArg DState.s hn
  rw [prunD_s, prunD_s] at this
  exact ⟨n, this⟩

end MRL.P
