/-
Classification of the crash states of an entry write: whatever the byte at which the write was
cut, the tape is again a tape of items. The frames written entirely are kept (those of an
unfinished entry as a dead group); the frame that was cut leaves nothing (only zeros reached the
disk, or it is complete), a junk slot (torn payload; torn header not in the last block) or a
residue (torn header in the last block).
-/
import MRL.Proofs.LDisk
import MRL.Proofs.LTape

namespace MRL.L
open Codec G H Torn

theorem align_le {B a h c : Nat} (hB : 7 < B) (ha : a % B = 0) (hroom : 7 ≤ B - h % B) (hle : a ≤ h + c)
    (hc : c ≤ 6) : a ≤ h := by
  apply Classical.byContradiction
  intro hn
  have h1 := block_le (Nat.zero_lt_of_lt hB) ha (Nat.lt_of_not_le hn)
  have hd := Nat.div_add_mod h B
  rw [Nat.add_mul, Nat.one_mul, Nat.mul_comm] at h1
  omega

theorem in_block {B h m len : Nat} (hb : (h / B + 1) * B ≤ m) (hf : h % B + 7 + len ≤ B) : h + 7 + len ≤ m := by
  have hd := Nat.div_add_mod h B
  rw [Nat.add_mul, Nat.one_mul, Nat.mul_comm] at hb
  omega

/-! ### one more item on a tape

The disk when the tape holds the items `B`, then the slot of one more item `a` of which the part `w`
was written, the lost bytes being zeros. -/

theorem tape_len {g : Geom} {cs : List Bytes} {B : List AItm} {L : Nat} {w : Bytes} {z : Nat}
    (hfull : ∀ c ∈ cs, c.length = g.fileBytes) (hfit : Fits g 0 (frs B)) (hjok : JOK g L 0 B)
    (hstream : cs.flatten =
      flatJ g 0 B ++ zeros (hdrPos g (endPos g 0 (frs B)) - endPos g 0 (frs B)) ++ w ++ zeros z) :
    cs.length * g.fileBytes = hdrPos g (endPos g 0 (frs B)) + w.length + z := by
  have hl := congrArg List.length hstream
  rw [flatten_length_full _ _ hfull] at hl
  simp only [List.length_append, length_zeros, flatJ0_len g B hjok.rawLen hfit] at hl
  rw [hl, Nat.add_sub_cancel' (le_hdrPos g _)]

theorem diskX_snoc {S : List JE → List AItm → Prop} {g : Geom} {F : Nat} {cs : List Bytes} {x : Bool} {X : Image} {J : List JE}
    {B : List AItm} {tg : Nat} {t : FrameType} {p : Bytes} {r : Option Bytes} {w : Bytes} {k z : Nat}
    (hne : cs ≠ []) (hfull : ∀ c ∈ cs, c.length = g.fileBytes) (hX : X = imgOf F cs ++ xtra x (F + cs.length))
    (hfit : Fits g 0 (frs B)) (htag : Tagged g F 0 (tfs B)) (hjok : JOK g (cs.length * g.fileBytes) 0 B)
    (hstream : cs.flatten =
      flatJ g 0 B ++ zeros (hdrPos g (endPos g 0 (frs B)) - endPos g 0 (frs B)) ++ w ++ zeros z)
    (hslot : slot ((tg, t, p), r) = w ++ zeros k)
    (hfa : p.length ≤ maxFrameLen g (endPos g 0 (frs B) % g.B))
    (hta : tg = F + hdrPos g (endPos g 0 (frs B)) / g.fileBytes)
    (hja : JunkOK g (hdrPos g (endPos g 0 (frs B)) % g.B) (nextPos g (endPos g 0 (frs B)) p.length)
      (cs.length * g.fileBytes) ((tg, t, p), r))
    (hlast : (cs.length - 1) * g.fileBytes ≤ nextPos g (endPos g 0 (frs B)) p.length)
    (hend : nextPos g (endPos g 0 (frs B)) p.length ≤ cs.length * g.fileBytes)
    (hseg : S J (B ++ [((tg, t, p), r)])) : DiskXS g X F (S J) := by
  have hE : endPos g 0 (frs (B ++ [((tg, t, p), r)])) = nextPos g (endPos g 0 (frs B)) p.length := by
    rw [frs_append, endPos_append]; rfl
  have hcur := endCursor_frs g B hfit
  -- the slot ends on the tape: the lost bytes are among the zeros
  have hkz : k ≤ z := by
    have hs := congrArg List.length hslot
    rw [slot_length hja.rawLen] at hs
    simp only [List.length_append, length_zeros] at hs
    rw [nextPos, tape_len hfull hfit hjok hstream, Nat.add_assoc _ 7, hs, ← Nat.add_assoc] at hend
    exact Nat.le_of_add_le_add_left hend
  refine ⟨cs, x, B ++ [((tg, t, p), r)], [], 0, z - k, ⟨hne, hfull, ?_, ?_, ?_, ?_, ?_, Or.inl rfl⟩, hX, hseg⟩
  · have hz : zeros z = zeros k ++ zeros (z - k) := by rw [← zeros_add, Nat.add_sub_cancel' hkz]
    rw [hstream, flatJ_snoc g B _ hfit, hslot, hz]
    simp only [zeros, List.replicate_zero, List.append_nil, List.append_assoc]
  · rw [hE]; exact Nat.le_trans hlast (le_hdrPos g _)
  · rw [frs_append, Fits_append, hcur]; exact ⟨hfit, hfa, trivial⟩
  · rw [tfs_append, Tagged_append]; exact ⟨htag, hta, trivial⟩
  · rw [JOK_append]; exact ⟨hjok, hja, trivial⟩

/-- **a cut inside a header**: at most 6 bytes `junk` (what was written of the header, over what
    was left of an older residue) stand where the header of the next frame goes. All zero: nothing
    happened. In the last block: a residue. Otherwise the reader gives up the rest of the block
    (`block_corrupted` in `frame/reader.rs`):
    a junk slot up to the end of the block (`t` is the type of the placeholder frame). -/
theorem hdr_cut {S : List JE → List AItm → Prop} {g : Geom} {F : Nat} {cs : List Bytes} {x : Bool} {X : Image} {J : List JE}
    {B : List AItm} {junk : Bytes} {z : Nat} (t : FrameType)
    (hfull : ∀ c ∈ cs, c.length = g.fileBytes) (hX : X = imgOf F cs ++ xtra x (F + cs.length))
    (hfit : Fits g 0 (frs B)) (htag : Tagged g F 0 (tfs B)) (hjok : JOK g (cs.length * g.fileBytes) 0 B)
    (hstream : cs.flatten =
      flatJ g 0 B ++ zeros (hdrPos g (endPos g 0 (frs B)) - endPos g 0 (frs B)) ++ junk ++ zeros z)
    (hjl : junk.length ≤ 6) (hne : cs ≠ [])
    (hlast : (cs.length - 1) * g.fileBytes ≤ hdrPos g (endPos g 0 (frs B)) + junk.length)
    (hseg0 : S J B) (hseg1 : ∀ a r, a.2 = some r → S J (B ++ [a])) : DiskXS g X F (S J) := by
  have hroom := hdrPos_room g (endPos g 0 (frs B))
  have hhle := le_hdrPos g (endPos g 0 (frs B))
  have hlasth : (cs.length - 1) * g.fileBytes ≤ hdrPos g (endPos g 0 (frs B)) :=
    align_le g.hB (mul_fileBytes_mod g (cs.length - 1)) hroom hlast hjl
  by_cases hz : isAllZero junk = true
  · refine ⟨cs, x, B, [], hdrPos g (endPos g 0 (frs B)) - endPos g 0 (frs B), junk.length + z,
      ⟨hne, hfull, ?_, hlasth, hfit, htag, hjok, Or.inl rfl⟩, hX, hseg0⟩
    rw [hstream, isAllZero_eq_zeros junk hz, length_zeros, zeros_add]
    simp only [List.append_assoc, List.append_nil]
  · have hnz : isAllZero junk = false := by simpa using hz
    by_cases hlastb : cs.length * g.fileBytes ≤ (hdrPos g (endPos g 0 (frs B)) / g.B + 1) * g.B
    · refine ⟨cs, x, B, junk, hdrPos g (endPos g 0 (frs B)) - endPos g 0 (frs B), z,
        ⟨hne, hfull, hstream, hlasth, hfit, htag, hjok, ?_⟩, hX, hseg0⟩
      rw [Nat.add_sub_cancel' hhle]
      exact Or.inr ⟨hjl, hnz, rfl, hlastb⟩
    · -- a placeholder frame that fills the block
      obtain ⟨pl, hpl⟩ : ∃ pl : Bytes, pl.length = g.B - hdrPos g (endPos g 0 (frs B)) % g.B - 7 :=
        ⟨zeros _, length_zeros _⟩
      have hfill : hdrPos g (endPos g 0 (frs B)) % g.B + 7 + pl.length = g.B := by
        rw [hpl, Nat.add_assoc, Nat.add_sub_cancel' hroom,
          Nat.add_sub_cancel' (Nat.le_of_lt (Nat.mod_lt _ (Torn.Bpos g)))]
      have hnx : nextPos g (endPos g 0 (frs B)) pl.length < cs.length * g.fileBytes :=
        Nat.lt_of_le_of_lt (in_block (Nat.le_refl _) (Nat.le_of_eq hfill)) (Nat.lt_of_not_le hlastb)
      refine diskX_snoc (w := junk) (k := 7 + pl.length - junk.length) (t := t) (p := pl)
        (r := some (junk ++ zeros (7 + pl.length - junk.length))) hne hfull hX hfit htag hjok hstream rfl ?_ rfl
        (fun r hr => Or.inr ⟨junk, hjl, hnz, (Option.some.inj hr).symm, hfill, hnx⟩)
        (Nat.le_trans hlasth (Nat.le_trans (Nat.le_add_right _ 7) (Nat.le_add_right _ _))) (Nat.le_of_lt hnx)
        (hseg1 _ _ rfl)
      rw [maxFrameLen_hdr, hpl]; exact Nat.le_refl _

/-- **a cut inside a payload**: the header and `i` bytes of the payload of `(t, p)` were written.
    If the lost bytes were zeros the frame is complete; otherwise the checksum fails (`TornFrame`):
    a junk slot of the size of the frame. -/
theorem pay_cut {S : List JE → List AItm → Prop} {g : Geom} {F : Nat} {cs : List Bytes} {x : Bool} {X : Image} {J J' : List JE}
    {B : List AItm} {t : FrameType} {p : Bytes} {i z : Nat} (hne : cs ≠ [])
    (hfull : ∀ c ∈ cs, c.length = g.fileBytes) (hX : X = imgOf F cs ++ xtra x (F + cs.length))
    (hfit : Fits g 0 (frs B)) (htag : Tagged g F 0 (tfs B)) (hjok : JOK g (cs.length * g.fileBytes) 0 B)
    (hstream : cs.flatten = flatJ g 0 B ++ zeros (hdrPos g (endPos g 0 (frs B)) - endPos g 0 (frs B)) ++
      (encodeHeader t p ++ p.take i) ++ zeros z)
    (hi : i < p.length) (hfp : p.length ≤ maxFrameLen g (endPos g 0 (frs B) % g.B)) (htorn : TornFrame t p)
    (hlast : (cs.length - 1) * g.fileBytes ≤ hdrPos g (endPos g 0 (frs B)) + 7 + i)
    (hsegJ : ∀ a r, a.2 = some r → S J (B ++ [a]))
    (hsegD : S J' (B ++ [((F + hdrPos g (endPos g 0 (frs B)) / g.fileBytes, (t, p)), none)])) :
    DiskXS g X F (S J) ∨ DiskXS g X F (S J') := by
  -- the frame fits its block, and the block lies on the tape
  have hblk : hdrPos g (endPos g 0 (frs B)) + 7 + p.length ≤ cs.length * g.fileBytes := by
    have hl := tape_len hfull hfit hjok hstream
    rw [List.length_append, length_encodeHeader] at hl
    refine in_block (block_le (Torn.Bpos g) (mul_fileBytes_mod g cs.length) ?_)
      (maxFrameLen_pos g _ _ hfp)
    rw [hl]
    exact Nat.lt_of_lt_of_le (Nat.lt_add_of_pos_right (Nat.add_pos_left (Nat.succ_pos 6) _)) (Nat.le_add_right _ z)
  -- an item whose slot holds the header of `(t, p)` and the torn payload `p'`
  have key : ∀ (tg : Nat) (p' : Bytes) (r : Option Bytes) (J0 : List JE),
      tg = F + hdrPos g (endPos g 0 (frs B)) / g.fileBytes → p' = p.take i ++ zeros (p.length - i) →
      slot ((tg, t, p'), r) = encodeHeader t p ++ p' →
      JunkOK g (hdrPos g (endPos g 0 (frs B)) % g.B) (nextPos g (endPos g 0 (frs B)) p'.length)
        (cs.length * g.fileBytes) ((tg, t, p'), r) →
      S J0 (B ++ [((tg, t, p'), r)]) → DiskXS g X F (S J0) := by
    intro tg p' r J0 htg hp' hsl hja hs
    have hlen : p'.length = p.length := by rw [hp']; exact tornFrame_len p i hi
    refine diskX_snoc (w := encodeHeader t p ++ p.take i) (k := p.length - i) hne hfull hX hfit htag hjok hstream
      (by rw [hsl, hp', List.append_assoc]) (by rw [hlen]; exact hfp) htg hja ?_ ?_ hs
    · rw [hlen]; exact Nat.le_trans hlast (Nat.add_le_add_left (Nat.le_of_lt hi) _)
    · rw [hlen]; exact hblk
  by_cases hpp : p.take i ++ zeros (p.length - i) = p
  · exact Or.inr (key _ p none J' rfl hpp.symm rfl (fun r hr => by cases hr) hsegD)
  · left
    refine key _ _ (some (tornFrame t p i).bytes) J rfl rfl (tornFrame_bytes t p i hi) ?_ (hsegJ _ _ rfl)
    intro r hr
    simp only [Option.some.injEq] at hr
    refine Or.inl ⟨leBytes (frameCrc t p) 4, length_leBytes _ _, hr.symm, ?_⟩
    have hev := tornFrame_ev t p i
    rwa [if_neg (htorn i hi hpp)] at hev

/-- the context of a cut: old items `A` (tape of length `L`, writer at `W`, residue `res`), new
    frames `fs` with their tags `T`, and a crash tape `X` of `n` files holding the first `Pm.length`
    bytes. `J`: the journal without the entry being written, `Jfull`: with it. `hseg1`: while a new
    frame is missing the items (with at most one junk slot behind them) are those of `J`, the new
    frames forming a dead group; `hseg2`: with all the new frames they are those of `Jfull` -/
structure CutCtx (S : List JE → List AItm → Prop) (g : Geom) (F : Nat) (A : List AItm) (fs : List Frm) (T : List TFrm) (L W : Nat) (res : Bytes)
    (n : Nat) (Pm res' : Bytes) (X : Image) (J Jfull : List JE) : Prop where
  hT : T = tagFrom g F (endPos g 0 (frs A)) fs
  hfit : Fits g 0 (frs A ++ fs)
  htagA : Tagged g F 0 (tfs A)
  hjok : JOK g L 0 A
  hW : W = endPos g 0 (frs A) ∨ W = hdrPos g (endPos g 0 (frs A))
  hres : ResOK g L W (endPos g 0 (frs A)) res
  htorn : ∀ fr ∈ fs, TornFrame fr.1 fr.2
  hrt : RTapeR g F n Pm res' X
  hLn : L ≤ n * g.fileBytes
  hresn : res' ≠ [] → n * g.fileBytes = L
  hm1 : W ≤ Pm.length
  hm2 : Pm.length ≤ endPos g 0 (frs A ++ fs)
  hPm : Pm = (flatJ g 0 (A ++ plain T)).take Pm.length
  hresd : res' = res.drop (Pm.length - W)
  hseg1 : ∀ i, i < fs.length → ∀ jk : List AItm, (jk = [] ∨ ∃ a r, jk = [a] ∧ a.2 = some r) →
    S J (A ++ plain (T.take i) ++ jk)
  hseg2 : S Jfull (A ++ plain T)

section
variable {S : List JE → List AItm → Prop} {g : Geom} {F : Nat} {A : List AItm} {fs : List Frm} {T : List TFrm} {L W : Nat} {res : Bytes}
  {n : Nat} {Pm res' : Bytes} {X : Image} {J Jfull : List JE}

theorem frs_prefix (g : Geom) (F : Nat) (A : List AItm) (fs : List Frm) (p i : Nat) :
    frs (A ++ plain ((tagFrom g F p fs).take i)) = frs A ++ fs.take i := by
  rw [frs_append, frs_plain]
  congr 1
  have := untag_tagFrom g F fs p
  unfold untag at this ⊢
  rw [List.map_take, this]

theorem CutCtx.pre (c : CutCtx S g F A fs T L W res n Pm res' X J Jfull) (i : Nat) :
    frs (A ++ plain (T.take i)) = frs A ++ fs.take i ∧
    Fits g 0 (frs (A ++ plain (T.take i))) ∧ Tagged g F 0 (tfs (A ++ plain (T.take i))) ∧
    JOK g (n * g.fileBytes) 0 (A ++ plain (T.take i)) ∧
    Fits g (endPos g 0 (frs (A ++ plain (T.take i))) % g.B) (fs.drop i) := by
  have hfrs : frs (A ++ plain (T.take i)) = frs A ++ fs.take i := by rw [c.hT]; exact frs_prefix g F A fs _ i
  have hf := c.hfit
  rw [← List.take_append_drop i fs, ← List.append_assoc, ← hfrs, Fits_append] at hf
  refine ⟨hfrs, hf.1, ?_, ?_, by rw [← endCursor_frs g _ hf.1]; exact hf.2⟩
  · rw [tfs_append, tfs_plain, Tagged_append]
    refine ⟨c.htagA, ?_⟩
    have ht := Tagged_tagFrom g F fs (endPos g 0 (frs A))
    rw [← c.hT, ← List.take_append_drop i T, Tagged_append] at ht
    exact ht.1
  · rw [JOK_append]
    exact ⟨c.hjok.mono c.hLn, JOK_plain g _ _ _⟩

theorem CutCtx.all (c : CutCtx S g F A fs T L W res n Pm res' X J Jfull) {i : Nat} (hi : fs.length ≤ i) :
    A ++ plain (T.take i) = A ++ plain T := by
  rw [List.take_of_length_le (by rw [c.hT, tagFrom_length]; exact hi)]

theorem CutCtx.segs (c : CutCtx S g F A fs T L W res n Pm res' X J Jfull) (i : Nat) :
    S J (A ++ plain (T.take i)) ∨ S Jfull (A ++ plain (T.take i)) := by
  by_cases hlt : i < fs.length
  · left; simpa using c.hseg1 i hlt [] (Or.inl rfl)
  · right; rw [c.all (by omega)]; exact c.hseg2

theorem endPos_take_pos (g : Geom) (p : Nat) (fs : List Frm) (i : Nat) (hi : 0 < i) (hfs : fs ≠ []) :
    hdrPos g p + 7 ≤ endPos g p (fs.take i) := by
  cases fs with
  | nil => exact absurd rfl hfs
  | cons fr fs =>
    cases i with
    | zero => exact absurd hi (Nat.lt_irrefl 0)
    | succ j =>
      exact Nat.le_trans (Nat.le_add_right _ fr.2.length) (le_endPos g (fs.take j) (nextPos g p fr.2.length))

theorem CutCtx.hdr_ge (c : CutCtx S g F A fs T L W res n Pm res' X J Jfull) (hfs : fs ≠ []) (i : Nat) :
    W ≤ hdrPos g (endPos g 0 (frs (A ++ plain (T.take i)))) ∧
    (0 < i → hdrPos g (endPos g 0 (frs A)) + 7 ≤ endPos g 0 (frs (A ++ plain (T.take i)))) := by
  rw [(c.pre i).1, endPos_append]
  have h2 := le_hdrPos g (endPos g (endPos g 0 (frs A)) (fs.take i))
  refine ⟨?_, fun hi => endPos_take_pos g (endPos g 0 (frs A)) fs i hi hfs⟩
  rcases c.hW with h | h <;> rw [h]
  · exact Nat.le_trans (le_endPos g (fs.take i) (endPos g 0 (frs A))) h2
  · by_cases hi : i = 0
    · subst hi; exact Nat.le_refl _
    · exact Nat.le_trans (Nat.le_trans (Nat.le_add_right _ 7)
        (endPos_take_pos g (endPos g 0 (frs A)) fs i (Nat.pos_of_ne_zero hi) hfs)) h2

theorem CutCtx.res_pad (c : CutCtx S g F A fs T L W res n Pm res' X J Jfull) (hfs : fs ≠ []) (i : Nat)
    (h1 : endPos g 0 (frs (A ++ plain (T.take i))) ≤ Pm.length)
    (h2 : Pm.length ≤ hdrPos g (endPos g 0 (frs (A ++ plain (T.take i))))) :
    ResOK g (n * g.fileBytes) (endPos g 0 (frs (A ++ plain (T.take i))) +
        (Pm.length - endPos g 0 (frs (A ++ plain (T.take i)))))
      (endPos g 0 (frs (A ++ plain (T.take i)))) res' := by
  by_cases hr : res' = []
  · exact Or.inl hr
  · right
    rcases c.hres with he | ⟨r1, r2, r3, r4⟩
    · rw [c.hresd, he] at hr; exact absurd List.drop_nil hr
    · -- the writer has not moved
      have hlt : Pm.length - W < res.length :=
        Nat.lt_of_not_le fun hn => hr (by rw [c.hresd]; exact List.drop_of_length_le hn)
      have hi0 : i = 0 := by
        apply Classical.byContradiction
        intro hn
        have h7 : 7 ≤ Pm.length - W :=
          Nat.le_sub_of_add_le' (by rw [r3]; exact Nat.le_trans ((c.hdr_ge hfs i).2 (Nat.pos_of_ne_zero hn)) h1)
        exact absurd (Nat.le_trans h7 (Nat.le_of_lt (Nat.lt_of_lt_of_le hlt r1))) (by decide)
      subst hi0
      simp only [List.take_zero, plain, List.map_nil, List.append_nil] at h1 h2 ⊢
      have hmW : Pm.length = W := Nat.le_antisymm (by rw [r3]; exact h2) c.hm1
      have hrr : res' = res := by rw [c.hresd, hmW, Nat.sub_self]; rfl
      rw [hrr, c.hresn hr, Nat.add_sub_cancel' h1, hmW]
      exact ⟨r1, r2, r3, r4⟩

/-- **the cut falls between two frames** (or in the padding) -/
theorem CutCtx.class_pad (c : CutCtx S g F A fs T L W res n Pm res' X J Jfull) (hfs : fs ≠ []) (i : Nat)
    (h1 : endPos g 0 (frs (A ++ plain (T.take i))) ≤ Pm.length)
    (h2 : Pm.length ≤ hdrPos g (endPos g 0 (frs (A ++ plain (T.take i))))) :
    DiskXS g X F (S J) ∨ DiskXS g X F (S Jfull) := by
  obtain ⟨hfrs, p1, p2, p3, _⟩ := c.pre i
  have hall := c.pre fs.length
  rw [c.all (Nat.le_refl _)] at hall
  have hsplit : A ++ plain T = (A ++ plain (T.take i)) ++ plain (T.drop i) := by
    rw [List.append_assoc, ← plain_append, List.take_append_drop]
  have hm2 : Pm.length ≤ endPos g 0 (frs (A ++ plain T)) := by
    rw [hall.1, List.take_length]; exact c.hm2
  have hPm := c.hPm
  rw [hsplit] at hPm hall hm2
  rw [flatJ_take_pad g _ _ hall.2.2.2.1.rawLen hall.2.1 _ h1 h2 hm2] at hPm
  obtain ⟨cs, x, rfl, hpos, hfull, ⟨z, hflat⟩, hX, hlast⟩ := c.hrt
  have hne : cs ≠ [] := List.length_pos_iff.mp hpos
  have hd : ∀ J0, S J0 (A ++ plain (T.take i)) → DiskXS g X F (S J0) := fun J0 hs =>
    ⟨cs, x, _, res', Pm.length - endPos g 0 (frs (A ++ plain (T.take i))), z, ⟨hne, hfull,
      by rw [hflat]; conv => lhs; rw [hPm], Nat.le_trans hlast h2, p1, p2, p3, c.res_pad hfs i h1 h2⟩, hX, hs⟩
  exact (c.segs i).imp (hd J) (hd Jfull)

/-- a residue of at most 6 bytes written from `W`, `d` bytes after `h`: with `d` it stays within 6 bytes,
    and nothing is left of it from `d = 7` on -/
theorem res_left {rl W h d : Nat} (hr : rl ≤ 6) (hW : W ≤ h) :
    (d ≤ 6 → d + (rl - (h + d - W)) ≤ 6) ∧ (6 < d → rl ≤ h + d - W) := by omega

/-- **the cut falls in the slot of new frame `i`** -/
theorem CutCtx.class_slot (c : CutCtx S g F A fs T L W res n Pm res' X J Jfull) (hfs : fs ≠ []) (i : Nat) (fr : Frm)
    (hfr : fs[i]? = some fr) (h1 : hdrPos g (endPos g 0 (frs (A ++ plain (T.take i)))) < Pm.length)
    (h2 : Pm.length < hdrPos g (endPos g 0 (frs (A ++ plain (T.take i)))) + 7 + fr.2.length) :
    DiskXS g X F (S J) ∨ DiskXS g X F (S Jfull) := by
  obtain ⟨hilt, _⟩ := List.getElem?_eq_some_iff.mp hfr
  obtain ⟨hfrs, p1, p2, p3, p4⟩ := c.pre i
  have hge := (c.hdr_ge hfs i).1
  have hx := tagFrom_get g F fs (endPos g 0 (frs A)) i fr hfr
  rw [← c.hT, ← endPos_append, ← hfrs] at hx
  obtain ⟨d, hd⟩ := Nat.exists_eq_add_of_le (Nat.le_of_lt h1)
  rw [hd, Nat.add_assoc] at h2
  have h2 := Nat.lt_of_add_lt_add_left h2
  have hr6 : res.length ≤ 6 := c.hres.elim (fun he => he ▸ Nat.zero_le _) (·.1)
  have hresd := c.hresd
  -- the bytes on the tape: the items before the slot, the padding, `d` bytes of the frame
  have hPm := c.hPm
  rw [split_at hx, plain_append, ← List.append_assoc, plain_cons] at hPm
  conv at hPm => rhs; rw [hd]
  rw [flatJ_take_slot g _ _ _ p3.rawLen p1 _ (by
    show _ ≤ (encodeFrame fr.1 fr.2).length
    rw [length_encodeFrame]; exact Nat.le_of_lt h2)] at hPm
  change Pm = _ ++ _ ++ (encodeFrame fr.1 fr.2).take _ at hPm
  have hseg1 : ∀ a r, a.2 = some r → S J (A ++ plain (T.take i) ++ [a]) :=
    fun a r h => c.hseg1 i hilt [a] (Or.inr ⟨a, r, rfl, h⟩)
  obtain ⟨cs, x, rfl, hpos, hfull, ⟨z, hflat⟩, hX, hlast⟩ := c.hrt
  conv at hflat => rhs; rw [hPm, List.append_assoc _ _ res']
  rw [hd] at hlast hresd
  by_cases h6 : d ≤ 6
  · -- in the header: the bytes written and what is left of the old residue are at most 6
    left
    have hjl : ((encodeFrame fr.1 fr.2).take d ++ res').length = d + (res.length - (hdrPos g (endPos g 0 (frs (A ++ plain (T.take i)))) + d - W)) := by
      rw [List.length_append, List.length_take, length_encodeFrame, hresd, List.length_drop,
        Nat.min_eq_left (Nat.le_add_right_of_le (Nat.le_succ_of_le h6))]
    refine hdr_cut fr.1 hfull hX p1 p2 p3 hflat ?_ (List.length_pos_iff.mp hpos) ?_
      (by simpa using c.hseg1 i hilt [] (Or.inl rfl)) hseg1
    · rw [hjl]; exact (res_left hr6 hge).1 h6
    · rw [hjl, ← Nat.add_assoc]; exact Nat.le_trans hlast (Nat.le_add_right _ _)
  · -- in the payload: nothing is left of an old residue
    obtain ⟨t, p⟩ := fr
    have hres0 : res' = [] := by
      rw [hresd]; exact List.drop_of_length_le ((res_left hr6 hge).2 (Nat.lt_of_not_le h6))
    obtain ⟨e, rfl⟩ := Nat.exists_eq_add_of_le (Nat.lt_of_not_le h6)
    have henc : (encodeFrame t p).take (7 + e) = encodeHeader t p ++ p.take e := by
      unfold encodeFrame
      rw [List.take_append, List.take_of_length_le (by rw [length_encodeHeader]; exact Nat.le_add_right 7 e),
        length_encodeHeader, Nat.add_sub_cancel_left]
    rw [hres0, List.append_nil, henc] at hflat
    rw [drop_get hfr] at p4
    rw [← Nat.add_assoc] at hlast
    have hd : ∀ J', S J' _ → DiskXS g X F (S J) ∨ DiskXS g X F (S J') :=
      fun J' => pay_cut (List.length_pos_iff.mp hpos) hfull hX p1 p2 p3 hflat (Nat.lt_of_add_lt_add_left h2) p4.1
        (c.htorn (t, p) (List.mem_of_getElem? hfr)) hlast hseg1
    have hsegD := c.segs (i + 1)
    rw [take_succ_get hx, plain_append, ← List.append_assoc] at hsegD
    rcases hsegD with hs | hs
    · exact Or.inl ((hd J hs).elim id id)
    · exact hd Jfull hs

theorem CutCtx.classify (c : CutCtx S g F A fs T L W res n Pm res' X J Jfull) (hfs : fs ≠ []) :
    DiskXS g X F (S J) ∨ DiskXS g X F (S Jfull) := by
  have hEW : endPos g 0 (frs A) ≤ Pm.length := by
    refine Nat.le_trans ?_ c.hm1
    rcases c.hW with h | h <;> rw [h]
    · exact Nat.le_refl _
    · exact le_hdrPos g _
  have hm2 := c.hm2
  rw [endPos_append] at hm2
  obtain ⟨i, h⟩ := cut_pos g fs (endPos g 0 (frs A)) Pm.length hEW hm2
  rw [← endPos_append, ← (c.pre i).1] at h
  rcases h with ⟨h1, h2⟩ | ⟨fr, hfr, h1, h2⟩
  · exact c.class_pad hfs i h1 h2
  · exact c.class_slot hfs i fr hfr h1 h2

end

end MRL.L
