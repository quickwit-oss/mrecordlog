/-
Crash atomicity in terms of the per-queue view: recovery from whatever a process on a crash-reachable
state leaves behind — after a clean stop, a crash in the middle of a call, a crash in the middle of `open`
— succeeds, returns a well-formed log, and every queue looks either as before or as after the interrupted
call, the same alternative for all queues (`stop_views`; `crash_views`: a call cut from a state reached
without crashes, on the image `crashDisk`). `nextOf_view`: the next position of C04 is read off the view of C18.
-/
import MRL.Props.C02Usable
import MRL.Proofs.LegRestart
import MRL.Props.C18
import MRL.Props.C04
import MRL.Props.C08

namespace MRL.Crash
open Log C01J C02A

theorem nextOf_view (l : Log) (q : Bytes) : C04.nextOf l q = (C18.view l q).map (·.next) := by
  unfold C04.nextOf C18.view
  cases l.queues.get? q <;> rfl

/-- the image a crash leaves: the first `k` OS operations of the call, the `k`-th cut at `cut` -/
def crashDisk (g : Geom) (cap : Nat) (l : Log) (img : Image) (b : BufSt) (c : Call) (tick : Bool)
    (order : List Bytes) (k cut : Nat) : Image :=
  crashImage img (toOsOps cap b (l.step g c tick order).2.2).2 k cut

/-- recovery from the image a process on a crash-reachable state leaves behind (`L.Stop`) -/
theorem stop_views (g : Geom) (hB : g.B ≤ 65542) (cap : Nat) {l lA : Log} {img X : Image} {b : BufSt}
    (h : C02U.ReachX g cap l img b) (hs : L.Stop g cap C07.WF l img b lA X) (policy : Policy) (order : List Bytes) :
    ∃ r, recover g X policy order none = .ok r ∧ C05.Inv r.log ∧ C05.Inv l ∧
      ((∀ q, C18.view r.log q = C18.view l q) ∨ (∀ q, C18.view r.log q = C18.view lA q)) := by
  obtain ⟨r, hr, hab⟩ := C02U.usable_stop g hB cap h hs policy order
  obtain ⟨⟨J, hc, _⟩, _⟩ := C02U.reachX_inv g hB cap h
  exact ⟨r, hr, C08.recover_sorted g _ policy order none r hr, hc.jinv.h.inv, hab.imp (fun h q => h q) fun h q => h q⟩

theorem crash_views (g : Geom) (hB : g.B ≤ 65542) (cap : Nat) (l : Log) (J : List JE) (img : Image)
    (b : BufSt) (h : C01R.ReachD g cap l J img b) (hb : b.pend = []) (c : Call) (tick : Bool)
    (order : List Bytes) (hfits : ∀ j ∈ J ++ l.stepJ g c order, C07.WF j.e)
    (htorn : TornStep g l c tick order) (k cut : Nat) (policy' : Policy) (order' : List Bytes) :
    ∃ rec, recover g (crashDisk g cap l img b c tick order k cut) policy' order' none = .ok rec ∧
      C05.Inv rec.log ∧ C05.Inv l ∧
      ((∀ q, C18.view rec.log q = C18.view l q) ∨
       (∀ q, C18.view rec.log q = C18.view (l.step g c tick order).1 q)) :=
  stop_views g hB cap (.base h fun j hj => hfits j (List.mem_append_left _ hj))
    (.call c tick order k cut hb (fun j hj => hfits j (List.mem_append_right _ hj)) htorn) policy' order'

end MRL.Crash
