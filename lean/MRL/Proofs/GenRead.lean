/-
C08 (genuineness), the reader half: on ANY byte string, if every location where the reader's
acceptance test passes holds a genuine frame of the layout (`NoAcc`), the events the reader
returns form a `Trace` of the layout's frames.
-/
import MRL.Proofs.GenLoc
import MRL.Proofs.GenTrace

namespace MRL.Gen
open Codec Torn

/-- the reader's frame acceptance test at cursor `x` of block `k` of `S` passes, for type `t` and
    payload `p` (7 = HEADER_LEN): header not all zero, type byte decodes to `t`, the length fits the
    block, the checksum of `(t, p)` is the one stored -/
def Accepts (g : Geom) (S : Bytes) (k x : Nat) (t : FrameType) (p : Bytes) : Prop :=
  7 ≤ g.B - x ∧
  isAllZero ((((S.drop (k * g.B)).take g.B).drop x).take 7) = false ∧
  FrameType.ofCode (((((S.drop (k * g.B)).take g.B).drop x).take 7).getD 6 0).toNat = some t ∧
  x + 7 + leNat ((((((S.drop (k * g.B)).take g.B).drop x).take 7).drop 4).take 2) ≤ g.B ∧
  p = ((((S.drop (k * g.B)).take g.B).drop x).drop 7).take
        (leNat ((((((S.drop (k * g.B)).take g.B).drop x).take 7).drop 4).take 2)) ∧
  frameCrc t p = leNat (((((S.drop (k * g.B)).take g.B).drop x).take 7).take 4)

def NoAcc (g : Geom) (LL : List (Nat × Frm)) (S : Bytes) : Prop :=
  ∀ k x t p, Accepts g S k x t p → (k * g.B + x, (t, p)) ∈ LL

theorem hdrPos_short (g : Geom) (k x : Nat) (h : g.B - x < 7) (hx : x ≤ g.B) :
    G.hdrPos g (k * g.B + x) = (k + 1) * g.B := by
  rcases Nat.lt_or_ge x g.B with h1 | h1
  · unfold G.hdrPos
    rw [mod_of_pos g k x h1, if_pos h]; exact next_block g.B k x hx
  · obtain rfl : x = g.B := Nat.le_antisymm hx h1
    rw [← Nat.succ_mul]
    exact G.hdrPos_good g (k + 1) 0 (Nat.le_of_lt g.hB)

theorem after_frame {B x len : Nat} (h : x + 7 + len ≤ B) :
    B - (x + 7 + len) < B - x ∧ min len (B - x - 7) = len :=
  have hx : x < x + 7 + len := by omega
  ⟨Nat.sub_lt_sub_left (Nat.lt_of_lt_of_le hx h) hx,
   Nat.min_eq_left (by rw [Nat.sub_sub]; exact Nat.le_sub_of_add_le (Nat.add_comm _ _ ▸ h))⟩

theorem tagEvs_cons_frame (f : Nat) (t : FrameType) (p : Bytes) (l : List FrameEv) :
    tagEvs f (FrameEv.frame t p :: l) = RdEv.frame f t p :: tagEvs f l := rfl

theorem tagEvs_cons_corrupt (f : Nat) (l : List FrameEv) :
    tagEvs f (FrameEv.corrupt :: l) = RdEv.corrupt f :: tagEvs f l := rfl

section
variable (g : Geom) (LL : List (Nat × Frm)) (hL : Located g LL) (S : Bytes) (hN : NoAcc g LL S)

include hL in
theorem trace_forward {P P' : Nat} (h : P ≤ P') {evs : List RdEv}
    (ht : Trace ((ahead LL P').map (·.2)) false evs) :
    Trace ((ahead LL P).map (·.2)) false evs := by
  obtain ⟨sk, hsk⟩ := ahead_mono LL hL.sorted P P' h
  rw [hsk, List.map_append]
  exact Trace.skip ht

include hL hN in
/-- the reader inside block `k` (a full block), from cursor `x`. Stated in continuation form: if the
    block ends with `needNext`, the trace of whatever is read from the next block on (`evs2`) extends
    to a trace from here; `tight` survives only the step over the padding at the block end. -/
theorem trace_block (f k : Nat) (blk : Bytes) (hblk : (S.drop (k * g.B)).take g.B = blk) (hfull : blk.length = g.B) :
    ∀ (m x : Nat), g.B - x = m → x ≤ g.B → ∀ tight : Bool, (tight = true → TightAt g LL (k * g.B + x)) →
      (∀ c', (scanBlockFrom g (blk.drop x) x).2 = .zeroHeader c' →
        Trace ((ahead LL (k * g.B + x)).map (·.2)) tight
          (tagEvs f (scanBlockFrom g (blk.drop x) x).1)) ∧
      (∀ c', (scanBlockFrom g (blk.drop x) x).2 = .needNext c' →
        ∃ tight2 : Bool, ∀ evs2, Trace ((ahead LL ((k + 1) * g.B)).map (·.2)) tight2 evs2 →
          Trace ((ahead LL (k * g.B + x)).map (·.2)) tight
            (tagEvs f (scanBlockFrom g (blk.drop x) x).1 ++ evs2)) := by
  intro m
  induction m using Nat.strongRecOn with
  | _ m ih =>
    intro x hm hx tight htight
    subst hm
    have hnext : k * g.B + x ≤ (k + 1) * g.B :=
      Nat.le_trans (Nat.le_add_right _ (g.B - x)) (Nat.le_of_eq (next_block g.B k x hx))
    -- going to the next block without a frame event
    have toNext : ∀ evs2, Trace ((ahead LL ((k + 1) * g.B)).map (·.2)) false evs2 →
        Trace ((ahead LL (k * g.B + x)).map (·.2)) false evs2 :=
      fun evs2 h => trace_forward g LL hL hnext h
    rcases scanBlockFrom_cases g (blk.drop x) x with
      ⟨h1, he⟩ | ⟨h1, _, he⟩ | ⟨h1, _, _, he⟩ | ⟨t, h1, _, _, _, he⟩ | ⟨t, h1, hz, hc, hfit, he⟩
    · -- fewer than 7 bytes left
      rw [he]
      refine ⟨(fun c' h => by cases h), fun c' _ => ⟨tight, fun evs2 h2 => ?_⟩⟩
      simp only [tagEvs, List.nil_append]
      cases tight with
      | false => exact toNext evs2 h2
      | true =>
        rw [ahead_tight g LL _ (htight rfl), hdrPos_short g k x h1 hx]; exact h2
    · -- zero header
      rw [he]
      exact ⟨fun _ _ => Trace.nil, fun c' h => by cases h⟩
    · -- unknown type: corrupt, block given up
      rw [he]
      refine ⟨(fun c' h => by cases h), fun c' _ => ⟨false, fun evs2 h2 => ?_⟩⟩
      exact Trace.corrupt (toNext evs2 h2)
    · -- length overflow: corrupt, block given up
      rw [he]
      refine ⟨(fun c' h => by cases h), fun c' _ => ⟨false, fun evs2 h2 => ?_⟩⟩
      exact Trace.corrupt (toNext evs2 h2)
    · -- a frame is parsed; the scan goes on after it in the same block
      have hdd : ((blk.drop x).drop 7).drop
            (leNat ((((blk.drop x).take 7).drop 4).take 2)) =
          blk.drop
            (x + 7 + leNat ((((blk.drop x).take 7).drop 4).take 2)) := by
        rw [List.drop_drop, List.drop_drop, Nat.add_assoc]
      rw [hdd] at he
      generalize hlen : leNat ((((blk.drop x).take 7).drop 4).take 2) = len at he hfit
      have hpos : k * g.B + x + 7 + len = k * g.B + (x + 7 + len) := by simp only [Nat.add_assoc]
      have ihx := ih (g.B - (x + 7 + len)) (after_frame hfit).1 (x + 7 + len) rfl hfit
      by_cases hcrc : frameCrc t (((blk.drop x).drop 7).take len) =
          leNat (((blk.drop x).take 7).take 4)
      · -- accepted: a genuine frame at this very location
        rw [if_pos hcrc] at he
        have hacc : Accepts g S k x t (((blk.drop x).drop 7).take len) := by
          rw [Accepts, hblk, hlen]; exact ⟨h1, hz, hc, hfit, rfl, hcrc⟩
        have hmem := hN k x t _ hacc
        have hplen : (((blk.drop x).drop 7).take len).length = len := by
          rw [List.length_take, List.length_drop, List.length_drop, hfull]; exact (after_frame hfit).2
        obtain ⟨hh1, hh2⟩ := ahead_hit g LL hL _ hmem
        simp only [hplen, hpos] at hh1 hh2
        obtain ⟨ia, ib⟩ := ihx true (fun _ => hh2)
        rw [he]
        simp only [tagEvs_cons_frame]
        constructor
        · intro c' hc'
          rw [hh1]; exact Trace.frame (ia c' hc')
        · intro c' hc'
          obtain ⟨tight2, h2⟩ := ib c' hc'
          refine ⟨tight2, fun evs2 hev => ?_⟩
          rw [hh1]; exact Trace.frame (h2 evs2 hev)
      · -- checksum mismatch: corrupt, resynchronise after the frame
        rw [if_neg hcrc] at he
        obtain ⟨ia, ib⟩ := ihx false (fun h => by cases h)
        have hfw : k * g.B + x ≤ k * g.B + (x + 7 + len) :=
          Nat.add_le_add_left (Nat.le_add_right_of_le (Nat.le_add_right x 7)) _
        rw [he]
        simp only [tagEvs_cons_corrupt]
        constructor
        · intro c' hc'
          exact Trace.corrupt (trace_forward g LL hL hfw (ia c' hc'))
        · intro c' hc'
          obtain ⟨tight2, h2⟩ := ib c' hc'
          refine ⟨tight2, fun evs2 hev => ?_⟩
          exact Trace.corrupt (trace_forward g LL hL hfw (h2 evs2 hev))

include hL hN in
/-- the reader over the blocks of `S` from block `k` on, whatever file and index each block is
    given (`Torn.scanFrom`: a single file, or a sequence of files) -/
theorem trace_blocks (blk : Nat → Blk) (N : Nat) (hblk : ∀ k, (blk k).data = (S.drop (k * g.B)).take g.B)
    (hS : S.length = N * g.B) : ∀ (n k x : Nat), N - k = n + 1 → x ≤ g.B →
    ∀ tight : Bool, (tight = true → TightAt g LL (k * g.B + x)) →
      Trace ((ahead LL (k * g.B + x)).map (·.2)) tight (scanFrom g blk N k x).1 := by
  have hfull : ∀ k, k < N → (blk k).data.length = g.B := fun k hk => by
    rw [hblk, List.length_take, List.length_drop, hS]
    exact Nat.min_eq_left (Nat.le_sub_of_add_le (by rw [Nat.add_comm, ← Nat.succ_mul]; exact Nat.mul_le_mul_right _ hk))
  intro n
  induction n with
  | zero =>
    intro k x hk hx tight htight
    obtain ⟨ha, hb⟩ := trace_block g LL hL S hN (blk k).file k _ (hblk k).symm (hfull k (by omega)) _ x rfl hx tight htight
    rcases hs : scanBlockFrom g ((blk k).data.drop x) x with ⟨fevs, e⟩
    rw [hs] at ha hb
    have hlast : N - (k + 1) = 0 := by omega
    cases e with
    | zeroHeader c' =>
      rw [show scanFrom g blk N k x = _ from scanB_zeroHeader g (blk k) x _ fevs c' hs]
      exact ha c' rfl
    | needNext c' =>
      obtain ⟨tight2, h2⟩ := hb c' rfl
      have := h2 [] Trace.nil
      unfold scanFrom
      rw [hlast, List.range'_zero, List.map_nil, scanB_needNext_nil g (blk k) x fevs c' hs]
      simpa using this
  | succ n ih =>
    intro k x hk hx tight htight
    obtain ⟨ha, hb⟩ := trace_block g LL hL S hN (blk k).file k _ (hblk k).symm (hfull k (by omega)) _ x rfl hx tight htight
    have hnextgood : G.hdrPos g ((k + 1) * g.B + 0) = (k + 1) * g.B + 0 :=
      G.hdrPos_good g (k + 1) 0 (Nat.le_of_lt g.hB)
    have ihn := fun tight2 => ih (k + 1) 0 (by omega) (Nat.zero_le _) tight2 (fun _ => tightAt_good g LL _ hnextgood)
    rcases hs : scanBlockFrom g ((blk k).data.drop x) x with ⟨fevs, e⟩
    rw [hs] at ha hb
    cases e with
    | zeroHeader c' =>
      rw [show scanFrom g blk N k x = _ from scanB_zeroHeader g (blk k) x _ fevs c' hs]
      exact ha c' rfl
    | needNext c' =>
      obtain ⟨tight2, h2⟩ := hb c' rfl
      have h3 := ihn tight2
      simp only [Nat.add_zero] at h3
      rw [scanFrom_needNext g blk N k x c' fevs hs (by omega)]
      exact h2 _ h3

end

end MRL.Gen
