/-
Absolute positions of a frame layout. Positions are byte offsets in a stream cut into blocks (for
a disk: the tracked files back to back, origin = start of the first tracked file `F`): where the
header of the next frame goes (`hdrPos`: after the zero padding when fewer than 7 bytes remain in
the block), where a frame and a list of frames end (`nextPos`, `endPos`), and how these relate to
the writer's in-block cursors of `CodecLayout`. A TAPE is such a stream that holds, from some
position on, frames laid out one after the other (later also junk slots: the items of `LItems`) and
then zeros. A frame whose header is at position `h` of a disk is read with file tag
`F + h / fileBytes` (`Tagged`).
-/
import MRL.Proofs.CodecLayout

namespace MRL.G
open Codec Consts

theorem mod_add_lt {p d B : Nat} (h : p % B + d < B) : (p + d) % B = p % B + d := by
  rw [← Nat.mod_add_mod, Nat.mod_eq_of_lt h]

theorem mod_add_eq {p d B : Nat} (h : p % B + d = B) : (p + d) % B = 0 := by
  rw [← Nat.mod_add_mod, h, Nat.mod_self]

theorem div_add_lt {p d B : Nat} (hB : 0 < B) (h : p % B + d < B) : (p + d) / B = p / B := by
  have : p + d = (p % B + d) + B * (p / B) := by
    rw [Nat.add_right_comm, Nat.mod_add_div]
  rw [this, Nat.add_mul_div_left _ _ hB, Nat.div_eq_of_lt h, Nat.zero_add]

/-- position of the header of a frame written when the writer stands at `p`: the padding rule of `frameWrites`
    on absolute positions, `p + Torn.padLen g (p % g.B)` (`Torn.hdrPos_eq_pad`); `Log.nextLoc` applies it to
    `l.off` (`Log.off1`) -/
def hdrPos (g : Geom) (p : Nat) : Nat := if g.B - p % g.B < 7 then p + (g.B - p % g.B) else p

def nextPos (g : Geom) (p len : Nat) : Nat := hdrPos g p + 7 + len

def endPos (g : Geom) : Nat → List Frm → Nat
  | p, [] => p
  | p, fr :: rest => endPos g (nextPos g p fr.2.length) rest

/-- `g.hB` with `HEADER_LEN` written as the number, for `omega` -/
theorem seven_lt_B (g : Geom) : 7 < g.B := g.hB

theorem le_hdrPos (g : Geom) (p : Nat) : p ≤ hdrPos g p := by
  unfold hdrPos
  by_cases h : g.B - p % g.B < 7
  · rw [if_pos h]; exact Nat.le_add_right _ _
  · rw [if_neg h]; exact Nat.le_refl _

theorem hdrPos_le_nextPos (g : Geom) (p len : Nat) : hdrPos g p + 7 ≤ nextPos g p len := Nat.le_add_right _ _

theorem le_nextPos (g : Geom) (p len : Nat) : p ≤ nextPos g p len :=
  Nat.le_trans (le_hdrPos g p) (Nat.le_trans (Nat.le_add_right _ 7) (hdrPos_le_nextPos g p len))

theorem hdrPos_mod (g : Geom) (p : Nat) :
    hdrPos g p % g.B = if g.B - p % g.B < 7 then 0 else p % g.B := by
  have hB := seven_lt_B g
  have hm : p % g.B < g.B := Nat.mod_lt _ (by omega)
  unfold hdrPos
  by_cases h : g.B - p % g.B < 7
  · rw [if_pos h, if_pos h]; exact mod_add_eq (Nat.add_sub_of_le (Nat.le_of_lt hm))
  · rw [if_neg h, if_neg h]

theorem hdrPos_room (g : Geom) (p : Nat) : 7 ≤ g.B - hdrPos g p % g.B := by
  have hB := seven_lt_B g
  rw [hdrPos_mod]
  by_cases h : g.B - p % g.B < 7
  · rw [if_pos h]; exact Nat.le_of_lt hB
  · rw [if_neg h]; exact Nat.le_of_not_lt h

theorem hdrPos_shift (g : Geom) (p m : Nat) (hm : m % g.B = 0) : hdrPos g (p + m) = hdrPos g p + m := by
  have e : (p + m) % g.B = p % g.B := by rw [Nat.add_mod, hm, Nat.add_zero, Nat.mod_mod]
  unfold hdrPos
  rw [e]
  by_cases h : g.B - p % g.B < 7
  · rw [if_pos h, if_pos h, Nat.add_right_comm]
  · rw [if_neg h, if_neg h]

theorem fileBytes_pos (g : Geom) : 0 < g.fileBytes :=
  Nat.mul_pos (Torn.Bpos g) g.hK

theorem mul_fileBytes_mod (g : Geom) (k : Nat) : (k * g.fileBytes) % g.B = 0 := by
  unfold Geom.fileBytes
  rw [Nat.mul_comm g.B g.K, ← Nat.mul_assoc, Nat.mul_mod_left]

theorem block_le {B h m : Nat} (hB : 0 < B) (hm : m % B = 0) (hlt : h < m) : (h / B + 1) * B ≤ m := by
  have hd := Nat.div_add_mod m B
  rw [hm, Nat.add_zero] at hd
  have : h / B < m / B := by
    rw [Nat.div_lt_iff_lt_mul hB, Nat.mul_comm]; omega
  have := Nat.mul_le_mul_right B this
  rw [Nat.mul_comm (m / B) B, hd] at this
  exact this

theorem hdrPos_le_block (g : Geom) (p m : Nat) (hm : m % g.B = 0) (hlt : p < m) : hdrPos g p ≤ m := by
  have h1 := block_le (Torn.Bpos g) hm hlt
  have hd := Nat.div_add_mod p g.B
  rw [Nat.add_mul, Nat.one_mul, Nat.mul_comm] at h1
  unfold hdrPos
  by_cases h : g.B - p % g.B < 7
  · rw [if_pos h]; omega
  · rw [if_neg h]; exact Nat.le_of_lt hlt

theorem hdrPos_idem (g : Geom) (p : Nat) : hdrPos g (hdrPos g p) = hdrPos g p := by
  have := hdrPos_room g p
  have e : hdrPos g (hdrPos g p) = if g.B - hdrPos g p % g.B < 7
      then hdrPos g p + (g.B - hdrPos g p % g.B) else hdrPos g p := rfl
  rw [e, if_neg (by omega)]

theorem nextPos_hdrPos (g : Geom) (p len : Nat) : nextPos g (hdrPos g p) len = nextPos g p len := by
  unfold nextPos; rw [hdrPos_idem]

theorem endPos_hdrPos (g : Geom) (p : Nat) (fs : List Frm) (h : fs ≠ []) :
    endPos g (hdrPos g p) fs = endPos g p fs := by
  cases fs with
  | nil => exact absurd rfl h
  | cons fr fs => simp only [endPos, nextPos_hdrPos]

theorem endPos_append (g : Geom) (a b : List Frm) : ∀ p, endPos g p (a ++ b) = endPos g (endPos g p a) b := by
  induction a with
  | nil => intro p; rfl
  | cons fr a ih => intro p; simp only [List.cons_append, endPos, ih]

theorem le_endPos (g : Geom) (fs : List Frm) : ∀ p, p ≤ endPos g p fs := by
  induction fs with
  | nil => intro p; exact Nat.le_refl _
  | cons fr fs ih =>
    intro p
    exact Nat.le_trans (le_nextPos g p fr.2.length) (ih _)

theorem totalLen_frameWrites (g : Geom) (p : Nat) (t : FrameType) (pl : Bytes) :
    p + totalLen (frameWrites g (p % g.B) t pl) = nextPos g p pl.length := by
  unfold frameWrites nextPos hdrPos
  simp only [HEADER_LEN]
  split <;> simp [length_encodeFrame] <;> omega

theorem maxFrameLen_pos (g : Geom) (p len : Nat) (h : len ≤ maxFrameLen g (p % g.B)) :
    hdrPos g p % g.B + 7 + len ≤ g.B := by
  have hB := seven_lt_B g
  have hm : p % g.B < g.B := Nat.mod_lt _ (by omega)
  rw [hdrPos_mod]
  unfold maxFrameLen at h
  simp only [HEADER_LEN] at h
  by_cases h1 : g.B - p % g.B < 7
  · rw [if_neg (Nat.not_le.mpr h1)] at h; rw [if_pos h1]; omega
  · rw [if_pos (Nat.le_of_not_lt h1)] at h; rw [if_neg h1]; omega

theorem maxFrameLen_hdr (g : Geom) (p : Nat) : maxFrameLen g (p % g.B) = g.B - hdrPos g p % g.B - 7 := by
  rw [hdrPos_mod]
  unfold maxFrameLen
  simp only [HEADER_LEN]
  by_cases h : g.B - p % g.B < 7
  · rw [if_pos h, if_neg (Nat.not_le.mpr h), Nat.sub_zero]
  · rw [if_neg h, if_pos (Nat.le_of_not_lt h)]

theorem le_maxFrameLen (g : Geom) {c len : Nat} (h : c + 7 + len ≤ g.B) : len ≤ maxFrameLen g c := by
  unfold maxFrameLen
  simp only [HEADER_LEN]
  rw [if_pos (Nat.le_sub_of_add_le' (Nat.le_trans (Nat.le_add_right _ _) h)), Nat.sub_sub]
  exact Nat.le_sub_of_add_le' h

theorem frameEndCursor_pos (g : Geom) (p len : Nat) (h : len ≤ maxFrameLen g (p % g.B)) :
    frameEndCursor g (p % g.B) len = nextPos g p len % g.B := by
  have hfit := maxFrameLen_pos g p len h
  have hmod := hdrPos_mod g p
  unfold frameEndCursor adv nextPos
  simp only [HEADER_LEN]
  by_cases h1 : g.B - p % g.B < 7
  · simp only [h1, if_true] at hmod ⊢
    rw [hmod] at hfit
    by_cases h2 : 0 + (7 + len) = g.B
    · rw [if_pos h2, Nat.add_assoc]; exact (mod_add_eq (by rw [hmod]; exact h2)).symm
    · rw [if_neg h2, Nat.add_assoc, mod_add_lt (by rw [hmod]; omega), hmod]
  · simp only [h1, if_false] at hmod ⊢
    rw [hmod] at hfit
    by_cases h2 : p % g.B + (7 + len) = g.B
    · rw [if_pos h2, Nat.add_assoc]; exact (mod_add_eq (by rw [hmod]; exact h2)).symm
    · rw [if_neg h2, Nat.add_assoc, mod_add_lt (by rw [hmod]; omega), hmod]

theorem layoutBufs_pos_cons (g : Geom) (p : Nat) (fr : Frm) (fs : List Frm)
    (h : fr.2.length ≤ maxFrameLen g (p % g.B)) :
    layoutBufs g (p % g.B) (fr :: fs) =
      frameWrites g (p % g.B) fr.1 fr.2 ++ layoutBufs g (nextPos g p fr.2.length % g.B) fs := by
  simp only [layoutBufs, frameEndCursor_pos g p _ h]

theorem Fits_pos_cons (g : Geom) (p : Nat) (fr : Frm) (fs : List Frm) :
    Fits g (p % g.B) (fr :: fs) ↔
      fr.2.length ≤ maxFrameLen g (p % g.B) ∧ Fits g (nextPos g p fr.2.length % g.B) fs := by
  constructor
  · intro h; exact ⟨h.1, by rw [← frameEndCursor_pos g p _ h.1]; exact h.2⟩
  · intro h; exact ⟨h.1, by rw [frameEndCursor_pos g p _ h.1]; exact h.2⟩

theorem totalLen_layout_pos (g : Geom) (fs : List Frm) : ∀ p, Fits g (p % g.B) fs →
    p + totalLen (layoutBufs g (p % g.B) fs) = endPos g p fs := by
  induction fs with
  | nil => intro p _; simp [layoutBufs, endPos]
  | cons fr fs ih =>
    intro p hf
    rw [Fits_pos_cons] at hf
    rw [layoutBufs_pos_cons g p fr fs hf.1, totalLen_append, ← Nat.add_assoc, totalLen_frameWrites]
    exact ih _ hf.2

theorem layout0_length (g : Geom) (fs : List Frm) (h : Fits g 0 fs) :
    (layoutBufs g 0 fs).flatten.length = endPos g 0 fs := by
  have := totalLen_layout_pos g fs 0 (by rw [Nat.zero_mod]; exact h)
  rw [Nat.zero_mod, Nat.zero_add] at this
  rw [← totalLen_eq]; exact this

theorem endCursor_pos (g : Geom) (fs : List Frm) : ∀ p, Fits g (p % g.B) fs →
    endCursor g (p % g.B) fs = endPos g p fs % g.B := by
  induction fs with
  | nil => intro p _; rfl
  | cons fr fs ih =>
    intro p hf
    rw [Fits_pos_cons] at hf
    simp only [endCursor, endPos, frameEndCursor_pos g p _ hf.1]
    exact ih _ hf.2

theorem Fits_hdrPos (g : Geom) (p : Nat) (fs : List Frm) (hne : fs ≠ []) :
    Fits g (hdrPos g p % g.B) fs → Fits g (p % g.B) fs := by
  have hB := seven_lt_B g
  cases fs with
  | nil => exact absurd rfl hne
  | cons fr fs =>
    intro h
    rw [Fits_pos_cons] at h ⊢
    rw [nextPos_hdrPos] at h
    refine ⟨?_, h.2⟩
    have h1 := h.1
    by_cases hp : g.B - p % g.B < 7
    · rw [hdrPos_mod, if_pos hp] at h1
      unfold maxFrameLen at h1 ⊢
      simp only [HEADER_LEN] at h1 ⊢
      rw [if_neg (Nat.not_le.mpr hp)]
      rw [if_pos (show 7 ≤ g.B - 0 from Nat.le_of_lt hB)] at h1
      exact h1
    · rw [hdrPos_mod, if_neg hp] at h1; exact h1

theorem layout_hdrPos (g : Geom) (p : Nat) (fs : List Frm) (hne : fs ≠ []) :
    (layoutBufs g (p % g.B) fs).flatten =
      zeros (hdrPos g p - p) ++ (layoutBufs g (hdrPos g p % g.B) fs).flatten := by
  cases fs with
  | nil => exact absurd rfl hne
  | cons fr fs =>
    rw [hdrPos_mod]
    unfold hdrPos
    by_cases hp : g.B - p % g.B < 7
    · rw [if_pos hp, if_pos hp, layoutBufs_bad g _ fr fs hp, Nat.add_sub_cancel_left]; rfl
    · rw [if_neg hp, if_neg hp, Nat.sub_self]; rfl

theorem hdrPos_good (g : Geom) (k c : Nat) (h : 7 ≤ g.B - c) : hdrPos g (k * g.B + c) = k * g.B + c := by
  unfold hdrPos; rw [mod_of_pos g k c (by omega), if_neg (by omega)]

theorem hdrPos_pad (g : Geom) (k c : Nat) (hc : c ≤ g.B) (h : g.B - c < 7) :
    hdrPos g (k * g.B + c) = (k + 1) * g.B + 0 := by
  rcases Nat.lt_or_eq_of_le hc with hc | hc
  · unfold hdrPos
    rw [mod_of_pos g k c hc, if_pos h, Nat.add_mul, Nat.one_mul, Nat.add_zero, Nat.add_assoc,
      Nat.add_sub_cancel' (Nat.le_of_lt hc)]
  · subst hc
    rw [show k * g.B + g.B = (k + 1) * g.B + 0 by rw [Nat.add_mul, Nat.one_mul]; rfl]
    exact hdrPos_good g (k + 1) 0 (Nat.le_of_lt g.hB)

/-- where the reader stops when the frames end at `E` on a tape of `N` blocks: at the next header
    position if that is on the tape, else at `E` -/
def stopPos (g : Geom) (N E : Nat) : Nat :=
  if g.B - E % g.B < 7 ∧ hdrPos g E < N * g.B then hdrPos g E else E

theorem stopPos_of_lt (g : Geom) {N E : Nat} (h : hdrPos g E < N * g.B) : stopPos g N E = hdrPos g E := by
  unfold stopPos
  by_cases h7 : g.B - E % g.B < 7
  · rw [if_pos ⟨h7, h⟩]
  · rw [if_neg (fun h => h7 h.1)]; unfold hdrPos; rw [if_neg h7]

theorem hdrPos_le6 (g : Geom) (p : Nat) : hdrPos g p ≤ p + 6 := by
  unfold hdrPos; split <;> omega

/-- a frame with the file tag the reader sees for it -/
abbrev TFrm := Nat × Frm

def untag (afs : List TFrm) : List Frm := afs.map (·.2)

/-- the tags are the files of the header positions -/
def Tagged (g : Geom) (F : Nat) : Nat → List TFrm → Prop
  | _, [] => True
  | p, a :: rest => a.1 = F + hdrPos g p / g.fileBytes ∧ Tagged g F (nextPos g p a.2.2.length) rest

def tagFrom (g : Geom) (F : Nat) : Nat → List Frm → List TFrm
  | _, [] => []
  | p, fr :: rest => (F + hdrPos g p / g.fileBytes, fr) :: tagFrom g F (nextPos g p fr.2.length) rest

theorem untag_tagFrom (g : Geom) (F : Nat) (fs : List Frm) : ∀ p, untag (tagFrom g F p fs) = fs := by
  induction fs with
  | nil => intro p; rfl
  | cons fr fs ih => intro p; simp only [tagFrom, untag, List.map_cons] ; rw [← untag, ih]

theorem Tagged_tagFrom (g : Geom) (F : Nat) (fs : List Frm) : ∀ p, Tagged g F p (tagFrom g F p fs) := by
  induction fs with
  | nil => intro p; trivial
  | cons fr fs ih => intro p; exact ⟨rfl, ih _⟩

theorem tagFrom_append (g : Geom) (F : Nat) (a b : List Frm) : ∀ p,
    tagFrom g F p (a ++ b) = tagFrom g F p a ++ tagFrom g F (endPos g p a) b := by
  induction a with
  | nil => intro p; rfl
  | cons fr a ih => intro p; simp only [List.cons_append, tagFrom, endPos, ih]

theorem tagFrom_length (g : Geom) (F : Nat) (fs : List Frm) (p : Nat) : (tagFrom g F p fs).length = fs.length := by
  have := congrArg List.length (untag_tagFrom g F fs p)
  unfold untag at this
  rwa [List.length_map] at this

theorem tagFrom_ne_nil (g : Geom) (F p : Nat) {fs : List Frm} (hne : fs ≠ []) : tagFrom g F p fs ≠ [] := by
  obtain ⟨fr, fs', rfl⟩ := List.exists_cons_of_ne_nil hne
  exact List.cons_ne_nil _ _

theorem tagFrom_get (g : Geom) (F : Nat) : ∀ (fs : List Frm) (p i : Nat) (fr : Frm), fs[i]? = some fr →
    (tagFrom g F p fs)[i]? = some (F + hdrPos g (endPos g p (fs.take i)) / g.fileBytes, fr)
  | [], _, _, _, h => by cases h
  | _ :: _, _, 0, _, h => by cases h; rfl
  | f :: fs, p, i + 1, fr, h => tagFrom_get g F fs (nextPos g p f.2.length) i fr h

theorem untag_append (a b : List TFrm) : untag (a ++ b) = untag a ++ untag b := by simp [untag]

theorem Tagged_append (g : Geom) (F : Nat) (a b : List TFrm) : ∀ p,
    Tagged g F p (a ++ b) ↔ Tagged g F p a ∧ Tagged g F (endPos g p (untag a)) b := by
  induction a with
  | nil => intro p; simp [Tagged, untag, endPos]
  | cons x a ih =>
    intro p
    simp only [List.cons_append, Tagged, ih, untag, List.map_cons, endPos, and_assoc]

theorem Tagged_hdrPos (g : Geom) (F : Nat) (p : Nat) (afs : List TFrm) (hne : afs ≠ []) :
    Tagged g F (hdrPos g p) afs ↔ Tagged g F p afs := by
  cases afs with
  | nil => exact absurd rfl hne
  | cons a afs => simp only [Tagged, hdrPos_idem, nextPos_hdrPos]

/-! Under a cut at a file boundary positions shift by the bytes deleted, a multiple of the block size.
The cut itself is `L.layout_cutJ` (LCut.lean), on tapes of items. -/

theorem nextPos_shift (g : Geom) (p m len : Nat) (hm : m % g.B = 0) :
    nextPos g (p + m) len = nextPos g p len + m := by
  unfold nextPos; rw [hdrPos_shift g p m hm]; omega

theorem endPos_shift (g : Geom) (m : Nat) (hm : m % g.B = 0) (fs : List Frm) : ∀ p,
    endPos g (p + m) fs = endPos g p fs + m := by
  induction fs with
  | nil => intro p; rfl
  | cons fr fs ih => intro p; simp only [endPos, nextPos_shift g p m _ hm, ih]

theorem Tagged_shift (g : Geom) (F k : Nat) (fs : List TFrm) : ∀ p,
    Tagged g F (p + k * g.fileBytes) fs ↔ Tagged g (F + k) p fs := by
  have hm := mul_fileBytes_mod g k
  induction fs with
  | nil => intro p; exact Iff.rfl
  | cons a fs ih =>
    intro p
    simp only [Tagged, hdrPos_shift g p _ hm, nextPos_shift g p _ _ hm, ih,
      Nat.add_mul_div_right _ _ (fileBytes_pos g), Nat.add_assoc F, Nat.add_comm k]

theorem tag_pos (g : Geom) (F : Nat) (fs : List TFrm) : ∀ p, Tagged g F p fs → ∀ a ∈ fs,
    ∃ h, p ≤ h ∧ h + 7 ≤ endPos g p (untag fs) ∧ a.1 = F + h / g.fileBytes := by
  induction fs with
  | nil => intro p _ a ha; cases ha
  | cons x fs ih =>
    intro p ht a ha
    have hle := le_endPos g (untag fs) (nextPos g p x.2.2.length)
    rcases List.mem_cons.mp ha with rfl | ha
    · exact ⟨hdrPos g p, le_hdrPos g p, Nat.le_trans (hdrPos_le_nextPos g p _) hle, ht.1⟩
    · obtain ⟨h, h1, h2, h3⟩ := ih _ ht.2 a ha
      exact ⟨h, Nat.le_trans (le_nextPos g p _) h1, h2, h3⟩

theorem tags_mono (g : Geom) (F : Nat) (fs : List TFrm) : ∀ p, Tagged g F p fs →
    fs.Pairwise (fun a b => a.1 ≤ b.1) := by
  induction fs with
  | nil => intro p _; exact List.Pairwise.nil
  | cons x fs ih =>
    intro p ht
    refine List.Pairwise.cons ?_ (ih _ ht.2)
    intro b hb
    obtain ⟨h, h1, _, h3⟩ := tag_pos g F fs _ ht.2 b hb
    rw [ht.1, h3]
    have : hdrPos g p ≤ h := Nat.le_trans (Nat.le_trans (Nat.le_add_right _ 7) (hdrPos_le_nextPos g p _)) h1
    exact Nat.add_le_add_left (Nat.div_le_div_right this) F

end MRL.G

namespace MRL.Torn
open Consts G

theorem hdrPos_eq_pad (g : Geom) (P : Nat) : hdrPos g P = P + padLen g (P % g.B) := by
  unfold hdrPos padLen; simp only [HEADER_LEN]; split <;> rfl

theorem padLen_mod (g : Geom) (E : Nat) : padLen g (E % g.B) = hdrPos g E - E := by
  rw [hdrPos_eq_pad, Nat.add_sub_cancel_left]

end MRL.Torn
