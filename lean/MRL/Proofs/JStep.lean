/-
One call seen from the journal: the journal entries `stepJ` writes are well formed and ordered
(`Chunk`), each is one the API writes on the queues in memory (`Drop.OkEntry`), and replaying them on
those queues gives exactly the queues after `step` (the GC touches being no-ops). `H.step_full` says what
a call does to the log, the journal and the effects in one statement.
-/
import MRL.Proofs.JWriter
import MRL.Proofs.JCongr
import MRL.Proofs.StepGc

namespace MRL

/-- journal entries as the log writes them: an append carries consecutively numbered payloads -/
def EntryWF : Entry → Prop
  | .append _ pos recs => ∃ pls, pls ≠ [] ∧ recs = Log.numberFrom pos pls
  | _ => True

/-- a piece of journal written while the writer's current file went from `c` to `c'` -/
structure Chunk (c : Nat) (js : List JE) (c' : Nat) : Prop where
  le : c ≤ c'
  bounds : ∀ j ∈ js, c ≤ j.attr ∧ j.attr ≤ j.loc ∧ j.loc ≤ c'
  mono : js.Pairwise (fun a b => a.loc ≤ b.loc)
  wf : ∀ j ∈ js, EntryWF j.e

theorem Chunk.nil {c c' : Nat} (h : c ≤ c') : Chunk c [] c' := by
  refine ⟨h, ?_, List.Pairwise.nil, ?_⟩
  · intro j hj; cases hj
  · intro j hj; cases hj

theorem Chunk.append {c c1 c2 : Nat} {a b : List JE} (ha : Chunk c a c1) (hb : Chunk c1 b c2) :
    Chunk c (a ++ b) c2 := by
  refine ⟨Nat.le_trans ha.le hb.le, ?_, ?_, ?_⟩
  · intro j hj
    rcases List.mem_append.mp hj with h | h
    · obtain ⟨b1, b2, b3⟩ := ha.bounds j h; exact ⟨b1, b2, Nat.le_trans b3 hb.le⟩
    · obtain ⟨b1, b2, b3⟩ := hb.bounds j h; exact ⟨Nat.le_trans ha.le b1, b2, b3⟩
  · rw [List.pairwise_append]
    refine ⟨ha.mono, hb.mono, ?_⟩
    intro x hx y hy
    obtain ⟨b1, b2, _⟩ := hb.bounds y hy
    exact Nat.le_trans (ha.bounds x hx).2.2 (Nat.le_trans b1 b2)
  · intro j hj
    rcases List.mem_append.mp hj with h | h
    · exact ha.wf j h
    · exact hb.wf j h

namespace Log

theorem je_chunk (g : Geom) (l : Log) (e : Entry) (hwf : FilesWF l) (he : EntryWF e) :
    Chunk l.cur [l.je g e] (writeEntry g l e).1.cur := by
  have h1 := nextLoc_ge g l
  have h2 := writeEntry_cur_ge_nextLoc g l e hwf
  refine ⟨Nat.le_trans h1 h2, ?_, List.pairwise_singleton _ _, ?_⟩
  · intro j hj
    simp only [List.mem_singleton] at hj; subst hj
    exact ⟨Nat.le_refl _, h1, h2⟩
  · intro j hj
    simp only [List.mem_singleton] at hj; subst hj
    exact he

theorem touchesJ_chunk (g : Geom) (names : List Bytes) : ∀ l : Log, FilesWF l →
    Chunk l.cur (touchesJ g l names) (writeTouches g l names).1.cur := by
  induction names with
  | nil => intro l _; exact Chunk.nil (Nat.le_refl _)
  | cons n ns ih =>
    intro l hwf
    rw [touchesJ_cons, Step.writeTouches_cons]
    have h1 := je_chunk g l (.touch n (touchNext l n)) hwf trivial
    have h2 := ih _ (writeEntry_grow g l (.touch n (touchNext l n)) hwf).wf
    exact Chunk.append h1 h2

theorem touchesJ_entries (g : Geom) (names : List Bytes) : ∀ l : Log,
    (touchesJ g l names).map (fun j => j.e.queue) = names ∧
    ∀ j ∈ touchesJ g l names, ∃ n p, j.e = .touch n p := by
  induction names with
  | nil => intro l; exact ⟨rfl, fun _ h => by cases h⟩
  | cons n ns ih =>
    intro l
    rw [touchesJ_cons]
    obtain ⟨i1, i2⟩ := ih (writeEntry g l (.touch n (touchNext l n))).1
    refine ⟨by rw [List.map_cons, i1]; rfl, ?_⟩
    intro j hj
    rcases List.mem_cons.mp hj with rfl | hj
    · exact ⟨n, _, rfl⟩
    · exact i2 j hj

theorem mem_emptyNames {qs : MemQueues} (hn : (qs.map (·.1)).Nodup) (n : Bytes) :
    n ∈ qs.emptyNames ↔ ∃ q, qs.get? n = some q ∧ q.recs = [] := by
  unfold MemQueues.emptyNames
  simp only [List.mem_map, List.mem_filter]
  constructor
  · rintro ⟨kv, ⟨hm, he⟩, rfl⟩
    refine ⟨kv.2, AL.get?_of_mem_nodup hn hm, ?_⟩
    simpa [MemQueue.isEmpty] using he
  · rintro ⟨q, hg, he⟩
    refine ⟨(n, q), ⟨AL.get?_mem hg, ?_⟩, rfl⟩
    simp [MemQueue.isEmpty, he]

theorem emptyNames_nodup {qs : MemQueues} (hn : (qs.map (·.1)).Nodup) : qs.emptyNames.Nodup := by
  unfold MemQueues.emptyNames
  exact (List.filter_sublist.map _).nodup hn

theorem subset_of_nodup_length {α : Type} [DecidableEq α] {a : List α} (ha : a.Nodup) : ∀ b : List α,
    (∀ x ∈ a, x ∈ b) → b.length ≤ a.length → ∀ x ∈ b, x ∈ a := by
  induction a with
  | nil =>
    intro b _ hl x hx
    have : b = [] := List.eq_nil_of_length_eq_zero (Nat.le_zero.mp hl)
    rw [this] at hx; cases hx
  | cons y a ih =>
    intro b hs hl x hx
    rw [List.nodup_cons] at ha
    have hy : y ∈ b := hs y List.mem_cons_self
    have h1 : ∀ z ∈ a, z ∈ b.erase y := by
      intro z hz
      have hne : z ≠ y := fun e => ha.1 (e ▸ hz)
      exact (List.mem_erase_of_ne hne).mpr (hs z (List.mem_cons_of_mem _ hz))
    have h2 : (b.erase y).length ≤ a.length := by
      rw [List.length_erase_of_mem hy]
      exact Nat.sub_le_of_le_add hl
    by_cases hxy : x = y
    · subst hxy; exact List.mem_cons_self
    · exact List.mem_cons_of_mem _ (ih ha.2 _ h1 h2 x ((List.mem_erase_of_ne hxy).mpr hx))

theorem isPermOf_subset {a b : List Bytes} (h : isPermOf a b = true) {n : Bytes} (hn : n ∈ a) : n ∈ b := by
  unfold isPermOf at h
  simp only [Bool.and_eq_true, List.all_eq_true, beq_iff_eq] at h
  have : 0 < a.count n := List.count_pos_iff.mpr hn
  rw [h.2 n hn] at this
  exact List.count_pos_iff.mp this

theorem isPermOf_mem {a b : List Bytes} (hb : b.Nodup) (h : isPermOf a b = true) :
    ∀ x, x ∈ a ↔ x ∈ b := by
  have hab : ∀ x ∈ a, x ∈ b := fun _ hx => isPermOf_subset h hx
  unfold isPermOf at h
  simp only [Bool.and_eq_true, beq_iff_eq, List.all_eq_true] at h
  obtain ⟨hl, hc⟩ := h
  have hcb : ∀ x, b.count x ≤ 1 := List.nodup_iff_count.mp hb
  have ha : a.Nodup := by
    rw [List.nodup_iff_count]
    intro x
    by_cases hx : x ∈ a
    · rw [hc x hx]; exact hcb x
    · rw [List.count_eq_zero.mpr hx]; exact Nat.zero_le 1
  intro x
  exact ⟨hab x, subset_of_nodup_length ha b hab (Nat.le_of_eq hl.symm) x⟩

theorem mem_gcNames {l : Log} (hn : (l.queues.map (·.1)).Nodup) (order : List Bytes) (n : Bytes) :
    n ∈ Step.gcNames l order ↔ n ∈ l.queues.emptyNames := by
  unfold Step.gcNames
  by_cases hp : isPermOf order l.queues.emptyNames = true
  · rw [if_pos hp]; exact isPermOf_mem (emptyNames_nodup hn) hp n
  · rw [if_neg hp]

theorem runGc_shape (g : Geom) (l : Log) (order : List Bytes) (hn : (l.queues.map (·.1)).Nodup) :
    (gcJ g l order = [] ∧ (runGc g l order).1 = l) ∨
    (∃ names rem del,
      gcJ g l order = touchesJ g l names ∧
      (runGc g l order).1 = { (writeTouches g l names).1 with files := rem } ∧
      gcFiles ((writeTouches g l names).1.canDelete l.cur) (writeTouches g l names).1.files = (rem, del) ∧
      (∀ n, n ∈ names ↔ n ∈ l.queues.emptyNames)) := by
  rcases Step.runGc_view g l order with ⟨h1, h2, _⟩ | ⟨h1, h2, _⟩
  · exact .inl ⟨h2, by rw [h1]⟩
  · exact .inr ⟨Step.gcNames l order, _, _, h2, by rw [h1]; rfl, rfl, mem_gcNames hn order⟩

theorem ackPosition_noop {qs : MemQueues} {n : Bytes} {q : MemQueue} (hg : qs.get? n = some q)
    (he : q.recs = []) : qs.ackPosition n q.nextPosition = qs := by
  unfold MemQueues.ackPosition
  simp only [hg, MemQueue.isEmpty, he, List.isEmpty_nil, Bool.not_true, bne_self_eq_false,
    Bool.or_self, Bool.false_eq_true, if_false]

theorem touches_replay (g : Geom) (F : Nat) (names : List Bytes) : ∀ l : Log, FilesWF l →
    F ≤ l.cur → (l.queues.map (·.1)).Nodup → (∀ n ∈ names, n ∈ l.queues.emptyNames) →
    replayJ F l.queues (touchesJ g l names) = some l.queues := by
  induction names with
  | nil => intro l _ _ _ _; rfl
  | cons n ns ih =>
    intro l hwf hF hn hsub
    rw [touchesJ_cons]
    have hloc : ¬ (l.je g (.touch n (touchNext l n))).loc < F :=
      Nat.not_lt_of_le (Nat.le_trans hF (nextLoc_ge g l))
    obtain ⟨q, hg, he⟩ := (mem_emptyNames hn n).mp (hsub n List.mem_cons_self)
    have hnext : touchNext l n = q.nextPosition := by simp only [touchNext, hg]
    simp only [replayJ, hloc, if_false]
    have hre : replayEntry l.queues (max (l.je g (.touch n (touchNext l n))).attr F)
        (l.je g (.touch n (touchNext l n))).e = some l.queues := by
      simp only [je, replayEntry, hnext, ackPosition_noop hg he]
    rw [hre, Option.bind_some]
    have hgrow := writeEntry_grow g l (.touch n (touchNext l n)) hwf
    have := ih (writeEntry g l (.touch n (touchNext l n))).1 hgrow.wf
      (Nat.le_trans hF hgrow.cur_le) (by rw [hgrow.queues]; exact hn)
      (by rw [hgrow.queues]; exact fun m hm => hsub m (List.mem_cons_of_mem _ hm))
    rw [hgrow.queues] at this
    exact this

end Log

/-- the entry is one the API writes when the in-memory queues are `lq` -/
def Drop.OkEntry (lq : MemQueues) : Entry → Prop
  | .append q pos recs => (∃ z, lq.get? q = some z) ∧ ∃ pls, pls ≠ [] ∧ recs = Log.numberFrom pos pls
  | .truncate q _ => ∃ z, lq.get? q = some z
  | .touch q n => (lq.get? q = none ∧ n = 0) ∨ (∃ z, lq.get? q = some z ∧ z.recs = [] ∧ z.nextPosition = n)
  | .delete q _ => ∃ z, lq.get? q = some z

theorem Drop.OkEntry.wf {lq : MemQueues} {e : Entry} (h : Drop.OkEntry lq e) : EntryWF e := by
  cases e with
  | append q pos recs => exact h.2
  | _ => trivial

namespace Log

theorem act_log_replay (l : Log) {c : Call} {e : Entry} {qs' : MemQueues} {out : Nat → Outcome}
    (h : Step.act l c = .log e qs' out) :
    Drop.OkEntry l.queues e ∧ replayEntry l.queues l.cur e = some qs' := by
  have hd := Step.act_does l c
  rw [h] at hd
  cases hd with
  | create q hc =>
    rw [MemQueues.contains_isSome, Option.isSome_eq_false_iff, Option.isNone_iff_eq_none] at hc
    exact ⟨.inl ⟨hc, rfl⟩, by simp only [replayEntry, MemQueues.ackPosition, hc]; rfl⟩
  | delete q mq hg => exact ⟨⟨mq, hg⟩, rfl⟩
  | truncate q p mq hg => exact ⟨⟨mq, hg⟩, by simp only [replayEntry, hg]⟩
  | append q mq mq' pos? pls pos hg ha hall =>
    have hcont : l.queues.contains q = true := by rw [MemQueues.contains_isSome, hg]; rfl
    exact ⟨⟨⟨mq, hg⟩, pls, (Step.appendAt_eq_ok.mp ha).1, rfl⟩,
      by simp only [replayEntry, hcont, if_true, hg, hall, Option.map_some]⟩

/-- the GC pass leaves the queues alone, so whatever `replayEntry` keeps, `step` keeps -/
theorem step_queues_replay (g : Geom) (l : Log) (c : Call) (tick : Bool) (order : List Bytes) :
    (l.step g c tick order).1.queues = l.queues ∨
    ∃ e, replayEntry l.queues l.cur e = some (l.step g c tick order).1.queues := by
  cases ha : Step.act l c with
  | skip out => rw [Step.step_skip g l ha]; exact .inl rfl
  | sync a => rw [Step.step_eq, ha]; exact .inl rfl
  | log e qs' out =>
    exact .inr ⟨e, by rw [(Step.step_log g l ha tick order).1]; exact (act_log_replay l ha).2⟩

end Log

/-- The three shapes of a call: nothing logged; one entry; one entry, then a GC pass run from the log that
    already holds the new queues. `replayEntry l.queues l.cur e = some qs'` is the link to the journal: the new
    queues are the replay of the logged entry on the old ones, attributed to the current file.
    The `flush`/`fsync` effects that end a call are named syntactically (`IsSyncL`): for crash states
    "changes no image" would not be enough -/
theorem H.step_full (g : Geom) (l : Log) (c : Call) (tick : Bool) (order : List Bytes) :
    (l.stepJ g c order = [] ∧ (l.step g c tick order).1 = l ∧ H.IsSyncL (l.step g c tick order).2.2) ∨
    (∃ e qs' sy, Drop.OkEntry l.queues e ∧ replayEntry l.queues l.cur e = some qs' ∧ H.IsSyncL sy ∧
      ((l.stepJ g c order = [l.je g e] ∧
          (l.step g c tick order).1 = { (Log.writeEntry g l e).1 with queues := qs' } ∧
          (l.step g c tick order).2.2 = (Log.writeEntry g l e).2.1 ++ sy) ∨
       (l.stepJ g c order = l.je g e :: Log.gcJ g { (Log.writeEntry g l e).1 with queues := qs' } order ∧
          (l.step g c tick order).1 =
            (Log.runGc g { (Log.writeEntry g l e).1 with queues := qs' } order).1 ∧
          (l.step g c tick order).2.2 = (Log.writeEntry g l e).2.1 ++
            (Log.runGc g { (Log.writeEntry g l e).1 with queues := qs' } order).2.1 ++ sy))) := by
  rw [Step.step_eq, Step.stepJ_eq]
  cases h : Step.act l c with
  | skip out => exact .inl ⟨rfl, rfl, H.isSyncL_nil⟩
  | sync a => exact .inl ⟨rfl, rfl, H.isSyncL_persist l a⟩
  | log e qs' out =>
    obtain ⟨hok, hre⟩ := Log.act_log_replay l h
    cases Step.isGcCall c with
    | false =>
      exact .inr ⟨e, qs', Step.tailSync { (Log.writeEntry g l e).1 with queues := qs' } c tick, hok, hre,
        H.isSyncL_tailSync _ c tick, .inl ⟨rfl, rfl, List.append_assoc _ [] _⟩⟩
    | true => exact .inr ⟨e, qs', _, hok, hre, H.isSyncL_tailSync _ c tick, .inr ⟨rfl, rfl, rfl⟩⟩

namespace Step
variable (g : Geom) {P : Bytes × MemQueue → Prop}

theorem step_all (l : Log) (c : Call) (tick : Bool) (order : List Bytes) (h : ∀ kv ∈ l.queues, P kv)
    (hc : ∀ q, c = .create q → P (q, {}))
    (ht : ∀ q p mq, c = .truncate q p → l.queues.get? q = some mq → P (q, mq) →
      P (q, (MemQueue.truncateHead mq p).1))
    (ha : ∀ q pos? pls mq pos mq', c = .append q pos? pls → l.queues.get? q = some mq → P (q, mq) →
      appendAt mq pos? pls = .ok pos → Log.appendAll mq l.cur (Log.numberFrom pos pls) = some mq' → P (q, mq')) :
    ∀ kv ∈ (Log.step g l c tick order).1.queues, P kv := by
  cases hact : act l c with
  | skip out => rw [step_skip g l hact]; exact h
  | sync a => rw [step_eq, hact]; exact h
  | log e qs' out =>
    rw [(step_log g l hact tick order).1]
    have hd := act_does l c
    rw [hact] at hd
    cases hd with
    | create q _ => exact all_set h (hc q rfl)
    | delete q mq _ => exact all_remove h q
    | truncate q p mq hg => exact all_set h (ht q p mq rfl hg (all_get h hg))
    | append q mq mq' pos? pls pos hg hat hall =>
      exact all_set h (ha q pos? pls mq pos mq' rfl hg (all_get h hg) hat hall)

end Step

namespace Log

theorem emptyNames_keys {qs : MemQueues} {n : Bytes} (h : n ∈ qs.emptyNames) : ∃ kv ∈ qs, kv.1 = n := by
  unfold MemQueues.emptyNames at h
  obtain ⟨kv, hkv, rfl⟩ := List.mem_map.mp h
  exact ⟨kv, (List.mem_filter.mp hkv).1, rfl⟩

theorem touchesJ_mem (g : Geom) (names : List Bytes) : ∀ (l : Log), ∀ j ∈ touchesJ g l names,
    ∃ n ∈ names, j.e = .touch n (touchNext l n) := by
  induction names with
  | nil => intro l j hj; cases hj
  | cons n ns ih =>
    intro l j hj
    rw [touchesJ_cons] at hj
    rcases List.mem_cons.mp hj with rfl | hj
    · exact ⟨n, List.mem_cons_self, rfl⟩
    · obtain ⟨m, hm, he⟩ := ih _ j hj
      refine ⟨m, List.mem_cons_of_mem _ hm, ?_⟩
      rw [he]
      simp only [touchNext, Step.writeEntry_queues]

theorem gcJ_mem (g : Geom) (l : Log) (order : List Bytes) : ∀ j ∈ l.gcJ g order,
    ∃ kv ∈ l.queues, j.e = .touch kv.1 (touchNext l kv.1) := by
  intro j hj
  unfold gcJ at hj
  split at hj
  · split at hj
    · obtain ⟨n, hn, he⟩ := touchesJ_mem g _ l j hj
      have hm : ∃ kv ∈ l.queues, kv.1 = n := by
        split at hn
        · rename_i hperm; exact emptyNames_keys (isPermOf_subset hperm hn)
        · exact emptyNames_keys hn
      obtain ⟨kv, hkv, rfl⟩ := hm
      exact ⟨kv, hkv, he⟩
    · cases hj
  · cases hj

theorem stepJ_mem (g : Geom) (l : Log) (c : Call) (order : List Bytes) : ∀ j ∈ l.stepJ g c order,
    (∃ e qs' out, Step.act l c = .log e qs' out ∧ j.e = e) ∨
    ∃ kv ∈ (step g l c false order).1.queues, j.e = .touch kv.1 (touchNext (step g l c false order).1 kv.1) := by
  intro j hj
  rw [Step.stepJ_eq] at hj
  cases h : Step.act l c with
  | skip out => rw [h] at hj; cases hj
  | sync a => rw [h] at hj; cases hj
  | log e qs' out =>
    rw [h] at hj
    rcases List.mem_cons.mp hj with rfl | hj
    · exact .inl ⟨e, qs', out, rfl, rfl⟩
    · split at hj
      · obtain ⟨kv, hkv, he⟩ := gcJ_mem g _ order j hj
        refine .inr ?_
        simp only [touchNext, (Step.step_log g l h false order).1]
        exact ⟨kv, hkv, he⟩
      · cases hj

end Log
end MRL
