/-
Crash states of the writes on a tape (`TapeR`, GTape.lean): stopping the effects of
`writeBuf`/`writeBufs` at any byte (`w = false`) or at effect boundaries only (`w = true`) leaves
the tracked files holding the old bytes followed by a prefix of the new ones, what is left of the
residue, and zeros, possibly with the next file already created but still empty (`RTape`, `RTapeR`).
First the crash states of a list of `unlink`s (some of them are done) and what it is for bytes to be
cut at or after a position (`H.PrefixCut`).
-/
import MRL.Proofs.HBufCrash
import MRL.Proofs.GTape

namespace MRL.H
open Buf G

theorem cut_unlinks {w : Bool} (fs : List Nat) : ∀ {img X : Image}, L.CutW w img (fs.map Effect.unlink) X →
    ∃ k, k ≤ fs.length ∧ X = applyOsOps img ((fs.take k).map OsOp.unlink) := by
  induction fs with
  | nil => intro img X h; exact ⟨0, Nat.le_refl _, h.nil_inv⟩
  | cons f fs ih =>
    intro img X h
    rcases h.cons_inv with h1 | ⟨_, _, _, _, _, hw, _⟩ | h1
    · exact ⟨0, Nat.zero_le _, by rw [h1]; rfl⟩
    · cases hw
    · obtain ⟨k, hk, hX⟩ := ih h1
      refine ⟨k + 1, by simpa using hk, ?_⟩
      rw [hX]
      simp [applyOsOps, direct]

/-- the files `F, F+1, …` of `X` are full-size and hold `Pm` followed by zeros; the next file may
    exist, empty (`L.RTape` below without its two bounds: `RTape.ctape`) -/
def CTape (g : Geom) (F : Nat) (Pm : Bytes) (X : Image) : Prop :=
  ∃ cs : List Bytes, cs ≠ [] ∧ (∀ c ∈ cs, c.length = g.fileBytes) ∧ (∃ z, cs.flatten = Pm ++ zeros z) ∧
    (X = imgOf F cs ∨ X = imgOf F cs ++ [(F + cs.length, [])])

/-- `Pm` is `Pf` cut somewhere at or after the end of `P` -/
def PrefixCut (P Pf Pm : Bytes) : Prop := ∃ m, P.length ≤ m ∧ m ≤ Pf.length ∧ Pm = Pf.take m

theorem PrefixCut.extend {P Pf Pm : Bytes} (R : Bytes) (h : PrefixCut P Pf Pm) : PrefixCut P (Pf ++ R) Pm := by
  obtain ⟨m, h1, h2, h3⟩ := h
  exact ⟨m, h1, by rw [List.length_append]; exact Nat.le_trans h2 (Nat.le_add_right _ _),
    by rw [h3, List.take_append_of_le_length h2]⟩

theorem PrefixCut.shift {P Q Pf Pm : Bytes} (h : PrefixCut (P ++ Q) Pf Pm) : PrefixCut P Pf Pm := by
  obtain ⟨m, h1, h2, h3⟩ := h
  exact ⟨m, Nat.le_trans (by rw [List.length_append]; exact Nat.le_add_right _ _) h1, h2, h3⟩

theorem PrefixCut.take (P B : Bytes) (m : Nat) : PrefixCut P (P ++ B) (P ++ B.take m) :=
  ⟨P.length + min m B.length, Nat.le_add_right _ _,
    by rw [List.length_append]; exact Nat.add_le_add_left (Nat.min_le_right _ _) _,
    by rw [List.take_length_add_append, ← List.take_eq_take_min]⟩

theorem PrefixCut.length_le {P Pf Pm : Bytes} (h : PrefixCut P Pf Pm) : P.length ≤ Pm.length := by
  obtain ⟨m, h1, h2, h3⟩ := h
  rw [h3, List.length_take]
  exact Nat.le_min.mpr ⟨h1, Nat.le_trans h1 h2⟩

end MRL.H

namespace MRL.L
open Buf G H Codec Log

/-- the writer does not go back: `a` full files and `off` bytes were written, it now stands in file `F + b` -/
theorem files_mono (g : Geom) {F a b P off : Nat} (hP : P = a * g.fileBytes + off) (n : Nat)
    (hcur : F + b = F + (P + n) / g.fileBytes) : a ≤ b := by
  have : a ≤ (a * g.fileBytes + off + n) / g.fileBytes :=
    (Nat.le_div_iff_mul_le (fileBytes_pos g)).mpr (Nat.le_trans (Nat.le_add_right _ _) (Nat.le_add_right _ _))
  rw [hP] at hcur
  exact Nat.le_trans this (Nat.le_of_eq (Nat.add_left_cancel hcur).symm)

/-- the files `F, F+1, …` of `X` are full-size and hold `Pm` followed by zeros, `Pm` ends in the
    last of them (or at its very end); the next file may exist, empty. `lo`: a lower bound on the
    number of files, so that a crash tape is known not to be shorter than the tape before the write -/
def RTape (g : Geom) (F lo : Nat) (Pm : Bytes) (X : Image) : Prop :=
  ∃ (cs : List Bytes) (x : Bool), cs ≠ [] ∧ (∀ c ∈ cs, c.length = g.fileBytes) ∧
    (∃ z, cs.flatten = Pm ++ zeros z) ∧ X = imgOf F cs ++ xtra x (F + cs.length) ∧
    (cs.length - 1) * g.fileBytes ≤ Pm.length ∧ lo ≤ cs.length

theorem RTape.mono {g : Geom} {F lo lo' : Nat} {Pm : Bytes} {X : Image} (h : RTape g F lo Pm X) (hl : lo' ≤ lo) :
    RTape g F lo' Pm X := by
  obtain ⟨cs, x, h1, h2, h3, h4, h5, h6⟩ := h
  exact ⟨cs, x, h1, h2, h3, h4, h5, Nat.le_trans hl h6⟩

theorem RTape.ctape {g : Geom} {F lo : Nat} {Pm : Bytes} {X : Image} (h : RTape g F lo Pm X) : CTape g F Pm X := by
  obtain ⟨cs, x, h1, h2, h3, h4, _⟩ := h
  refine ⟨cs, h1, h2, h3, ?_⟩
  cases x
  · left; simpa [xtra] using h4
  · right; simpa [xtra] using h4

/-- files `F …` of `X`: `n` of them, full-size, holding `Pm`, the residue, zeros. In `RTape` / `RTapeR` the
    leading `R` marks a crash state of the writes; only the trailing `R`, as in `TapeR`, is the residue -/
def RTapeR (g : Geom) (F n : Nat) (Pm res : Bytes) (X : Image) : Prop :=
  ∃ (cs : List Bytes) (x : Bool), cs.length = n ∧ 0 < n ∧ (∀ c ∈ cs, c.length = g.fileBytes) ∧
    (∃ z, cs.flatten = Pm ++ res ++ zeros z) ∧ X = imgOf F cs ++ xtra x (F + n) ∧
    (n - 1) * g.fileBytes ≤ Pm.length

theorem RTapeR.of_rtape {g : Geom} {F lo : Nat} {Pm : Bytes} {X : Image} (h : RTape g F lo Pm X) :
    ∃ n, lo ≤ n ∧ RTapeR g F n Pm [] X := by
  obtain ⟨cs, x, h1, h2, ⟨z, h3⟩, h4, h5, h6⟩ := h
  exact ⟨cs.length, h6, cs, x, rfl, List.length_pos_iff.mpr h1, h2, ⟨z, by simpa only [List.append_nil] using h3⟩, h4, h5⟩

theorem RTapeR.to_rtape {g : Geom} {F n : Nat} {Pm : Bytes} {X : Image} (h : RTapeR g F n Pm [] X) :
    RTape g F n Pm X := by
  obtain ⟨cs, x, rfl, h2, h3, ⟨z, h4⟩, h5, h6⟩ := h
  exact ⟨cs, x, List.length_pos_iff.mp h2, h3, ⟨z, by rw [h4, List.append_nil]⟩, h5, h6, Nat.le_refl _⟩

theorem RTapeR.snoc (g : Geom) (F : Nat) {cs : List Bytes} (hfull : ∀ c ∈ cs, c.length = g.fileBytes) (x : Bool)
    (P res : Bytes) (z : Nat) (hlen : P.length + res.length + z = g.fileBytes) :
    RTapeR g F (cs.length + 1) (cs.flatten ++ P) res
      (imgOf F (cs ++ [P ++ (res ++ zeros z)]) ++ xtra x (F + (cs.length + 1))) := by
  refine ⟨cs ++ [P ++ (res ++ zeros z)], x, by rw [List.length_append]; rfl, Nat.succ_pos _,
    full_snoc hfull (by rw [List.length_append, List.length_append, length_zeros, ← Nat.add_assoc]; exact hlen),
    ⟨z, ?_⟩, rfl, ?_⟩
  · simp only [List.flatten_append, List.flatten_cons, List.flatten_nil, List.append_nil, List.append_assoc]
  · rw [Nat.add_sub_cancel, List.length_append, flatten_length_full _ _ hfull]; exact Nat.le_add_right _ _

theorem roll_tail (g : Geom) (F : Nat) (cs : List Bytes) (hne : cs ≠ []) (hfull : ∀ c ∈ cs, c.length = g.fileBytes)
    (buf : Bytes) (hbl : buf.length ≤ g.fileBytes) (e5 : Effect)
    (he5 : e5 = .setLen (F + cs.length) g.fileBytes ∨ e5 = .ensureLen (F + cs.length) g.fileBytes)
    {w : Bool} {X : Image} (hX : CutW w (imgOf F (cs ++ [[]])) [e5, .write (F + cs.length) 0 buf] X) :
    ∃ m, RTape g F cs.length (cs.flatten ++ buf.take m) X := by
  have hPl : cs.flatten.length = cs.length * g.fileBytes := flatten_length_full _ _ hfull
  obtain ⟨h5, hw'⟩ := roll_img g F cs e5 he5
  have hcl : ∀ c, (buf.take c).length ≤ g.fileBytes := fun c => Nat.le_trans (List.length_take_le' c buf) hbl
  have hw : ∀ c, applyOs (imgOf F (cs ++ [zeros g.fileBytes])) (.write (F + cs.length) 0 (buf.take c)) =
      imgOf F (cs ++ [buf.take c ++ zeros (g.fileBytes - (buf.take c).length)]) := fun c => hw' _
  have hres : ∀ c, RTape g F cs.length (cs.flatten ++ buf.take c)
      (imgOf F (cs ++ [buf.take c ++ zeros (g.fileBytes - (buf.take c).length)])) := by
    intro c
    have := (RTapeR.snoc g F hfull false (buf.take c) [] _
      (show _ + _ + (g.fileBytes - (buf.take c).length) = _ by
        rw [List.length_nil, Nat.add_zero, Nat.add_sub_cancel' (hcl c)])).to_rtape
    rw [show xtra false (F + (cs.length + 1)) = [] from rfl, List.append_nil] at this
    exact this.mono (Nat.le_succ _)
  rcases hX.cons_inv with h1 | ⟨_, _, _, _, _, hw1, _⟩ | hX
  · refine ⟨0, ⟨cs, true, hne, hfull, ⟨0, by simp only [List.take_zero, List.append_nil, zeros, List.replicate_zero]⟩, ?_, ?_, Nat.le_refl _⟩⟩
    · rw [h1, imgOf_snoc]; rfl
    · simp only [List.take_zero, List.append_nil, hPl]
      exact Nat.mul_le_mul_right _ (Nat.sub_le _ _)
  · rcases he5 with rfl | rfl <;> cases hw1
  rw [h5] at hX
  rcases hX.cons_inv with h1 | ⟨_, f, off, d, c, hw1, h1⟩ | hX
  · refine ⟨0, ?_⟩
    have := hres 0
    simp only [List.take_zero, List.length_nil, Nat.sub_zero, List.nil_append] at this
    rw [h1]; exact this
  · injection hw1 with e1 e2 e3
    subst e1 e2 e3
    rw [hw] at h1
    exact ⟨c, by rw [h1]; exact hres c⟩
  · have h1 := hX.nil_inv
    simp only [direct, applyOsOps, List.foldl_cons, List.foldl_nil] at h1
    have h2 := hw buf.length
    rw [List.take_length] at h2
    rw [h2] at h1
    refine ⟨buf.length, ?_⟩
    have := hres buf.length
    rw [h1]; simpa only [List.take_length] using this

theorem rtapeR_of_tapeR {g : Geom} {l : Log} {D : Image} {F : Nat} {init : List Bytes} {t : Bytes} {x : Bool}
    {res : Bytes} (h : TapeR g l D F init t x res) : RTapeR g F (init.length + 1) (init.flatten ++ t) res D := by
  rw [h.img, Nat.add_assoc]
  exact RTapeR.snoc g F h.full x t res _ (by rw [h.tlen, Nat.sub_sub, Nat.add_sub_cancel' h.resle])

theorem rtape_of_tapeX {g : Geom} {l : Log} {D : Image} {F : Nat} {init : List Bytes} {t : Bytes} {x : Bool}
    (h : TapeX g l D F init t x) : RTape g F (init.length + 1) (init.flatten ++ t) D :=
  (rtapeR_of_tapeR (TapeR.of_tapeX h)).to_rtape

/-- `k` bytes written at `off` over a residue of `rl` bytes: what is left of the residue, and of the zeros -/
theorem res_fit {fb off rl k : Nat} (h1 : off + rl ≤ fb) (h2 : off + k ≤ fb) :
    off + k + (rl - k) + (fb - off - rl - (k - rl)) = fb := by
  rcases Nat.le_total k rl with hk | hk
  · rw [Nat.sub_eq_zero_of_le hk, Nat.sub_zero, Nat.add_assoc off, Nat.add_sub_cancel' hk, Nat.sub_sub,
      Nat.add_sub_cancel' h1]
  · rw [Nat.sub_eq_zero_of_le hk, Nat.add_zero, Nat.sub_sub (fb - off) rl, Nat.add_sub_cancel' hk, Nat.sub_sub,
      Nat.add_sub_cancel' h2]

theorem write_cutR (g : Geom) {l : Log} {D : Image} {F : Nat} {init : List Bytes} {t : Bytes} {x : Bool}
    {res : Bytes} (h : TapeR g l D F init t x res) (buf : Bytes) (hfit : l.off + buf.length ≤ g.fileBytes)
    {w : Bool} {X : Image} (hX : CutW w D [.write l.cur l.off buf] X) :
    ∃ m, RTapeR g F (init.length + 1) (init.flatten ++ t ++ buf.take m) (res.drop (buf.take m).length) X := by
  have hpart : ∀ c, RTapeR g F (init.length + 1) (init.flatten ++ t ++ buf.take c) (res.drop (buf.take c).length)
      (applyOs D (.write l.cur l.off (buf.take c))) := by
    intro c
    rw [write_over_res g h (buf.take c), drop_res_zeros, List.append_assoc init.flatten, Nat.add_assoc]
    exact RTapeR.snoc g F h.full x (t ++ buf.take c) (res.drop (buf.take c).length) _
      (by rw [List.length_append, List.length_drop, h.tlen]
          exact res_fit h.resle (Nat.le_trans (Nat.add_le_add_left (List.length_take_le' c buf) _) hfit))
  rcases hX.cons_inv with h1 | ⟨_, f, off, d, c, hw1, h1⟩ | hX
  · exact ⟨0, by rw [h1]; simpa using rtapeR_of_tapeR h⟩
  · injection hw1 with e1 e2 e3
    subst e1 e2 e3
    exact ⟨c, by rw [h1]; exact hpart c⟩
  · have h1 : X = applyOs D (.write l.cur l.off buf) := hX.nil_inv
    rw [← List.take_length (l := buf)] at h1
    exact ⟨buf.length, by rw [h1]; exact hpart _⟩

theorem writeBuf_cutR (g : Geom) {l : Log} {D : Image} {F : Nat} {init : List Bytes} {t : Bytes} {x : Bool}
    {res : Bytes} (h : TapeR g l D F init t x res) (buf : Bytes) (hne : buf ≠ [])
    (hnc : l.off % g.B + buf.length ≤ g.B) {w : Bool} {X : Image} (hX : CutW w D (writeBuf g l buf).2 X) :
    ∃ m n, RTapeR g F n (init.flatten ++ t ++ buf.take m) (res.drop (buf.take m).length) X ∧
      (res.drop (buf.take m).length ≠ [] → n = init.length + 1) ∧
      init.length + 1 ≤ n := by
  rcases h.writeBuf_cases buf hne hnc with ⟨hle, hw⟩ |
    ⟨_, hres, hbl, _, _, _, hnum, hfullcs, e4, e5, hes, he4, hi4, he5⟩
  · rw [hw] at hX
    obtain ⟨m, hm⟩ := write_cutR g h buf hle hX
    exact ⟨m, init.length + 1, hm, fun _ => rfl, Nat.le_refl _⟩
  · subst hres
    have hcl : (init ++ [t]).length = init.length + 1 := List.length_append
    -- nothing of the buffer is there yet
    have hnone : ∀ Y, Y = D → ∃ m n, RTapeR g F n (init.flatten ++ t ++ buf.take m)
        (([] : Bytes).drop (buf.take m).length) Y ∧
        (([] : Bytes).drop (buf.take m).length ≠ [] → n = init.length + 1) ∧ init.length + 1 ≤ n := by
      intro Y hY
      exact ⟨0, init.length + 1, by rw [hY]; simpa using rtapeR_of_tapeR h, fun _ => rfl, Nat.le_refl _⟩
    rw [hes] at hX
    rcases hX.of_append _ with hX | hX
    · exact hnone X (cut_syncL (isSyncL_persist l .flushAndFsync) hX)
    replace hX : CutW w D [e4, e5, .write (l.cur + 1) 0 buf] X := hX
    rcases hX.cons_inv with h1 | ⟨_, f, o, d, _, hw1, _⟩ | hX
    · exact hnone X h1
    · exact absurd hw1 (he4 f o d)
    rw [hi4, hnum] at hX
    rw [hnum] at he5
    obtain ⟨m, hm⟩ := roll_tail g F (init ++ [t]) (by simp) hfullcs buf hbl e5 he5 hX
    obtain ⟨n, hln, hn⟩ := RTapeR.of_rtape hm
    rw [List.flatten_concat] at hn
    exact ⟨m, n, by simpa only [List.drop_nil] using hn, fun hd => absurd (List.drop_nil) hd, hcl ▸ hln⟩

theorem cut_head (P b : Bytes) (bs : List Bytes) (m : Nat) :
    PrefixCut P (P ++ (b :: bs).flatten) (P ++ b.take m) := by
  rw [List.flatten_cons, ← List.append_assoc]
  exact (PrefixCut.take P b m).extend bs.flatten

theorem cut_tail {P b : Bytes} {bs : List Bytes} {Pm : Bytes}
    (hp : PrefixCut (P ++ b) (P ++ b ++ bs.flatten) Pm) :
    PrefixCut P (P ++ (b :: bs).flatten) Pm := by
  rw [List.flatten_cons, ← List.append_assoc]
  exact hp.shift

theorem writeBufs_cutW (g : Geom) (bufs : List Bytes) : ∀ {l : Log} {D : Image} {F : Nat}
    {init : List Bytes} {t : Bytes} {x : Bool}, TapeX g l D F init t x → NoCross g (l.off % g.B) bufs →
    ∀ {w : Bool} {X : Image}, CutW w D (writeBufs g l bufs).2 X →
    ∃ Pm, RTape g F (init.length + 1) Pm X ∧ PrefixCut (init.flatten ++ t) (init.flatten ++ t ++ bufs.flatten) Pm := by
  induction bufs with
  | nil =>
    intro l D F init t x h _ w X hX
    have : X = D := hX.nil_inv
    rw [this]
    refine ⟨_, rtape_of_tapeX h, ⟨(init.flatten ++ t).length, Nat.le_refl _, by simp, ?_⟩⟩
    simp only [List.flatten_nil, List.append_nil, List.take_length]
  | cons b bs ih =>
    intro l D F init t x h hnc w X hX
    obtain ⟨h1, h2, h3⟩ := hnc
    have hne : b ≠ [] := List.ne_nil_of_length_pos h1
    rw [Step.writeBufs_cons] at hX
    rcases CutW.of_append _ hX with hX | hX
    · obtain ⟨m, n, hm, _, hln⟩ := writeBuf_cutR g (TapeR.of_tapeX h) b hne h2 hX
      rw [List.drop_nil] at hm
      exact ⟨_, hm.to_rtape.mono hln, cut_head (init.flatten ++ t) b bs m⟩
    · obtain ⟨i1, t1, x1, ht1, hp1, hcurA, hc1, _⟩ :=
        writeBuf_tapeR g (TapeR.of_tapeX h) b hne h2 (Nat.zero_le _)
      have hmonoI : init.length ≤ i1.length := files_mono g (TapeR.of_tapeX h).P_length 0 (by rw [← ht1.cur]; exact hcurA)
      rw [← hc1] at h3
      obtain ⟨Pm, hc, hp⟩ := ih ht1 h3 hX
      rw [hp1] at hp
      exact ⟨Pm, hc.mono (Nat.succ_le_succ hmonoI), cut_tail hp⟩

theorem writeBufs_cutR (g : Geom) (bufs : List Bytes) {l : Log} {D : Image} {F : Nat}
    {init : List Bytes} {t : Bytes} {x : Bool} {res : Bytes} (h : TapeR g l D F init t x res)
    (hnc : NoCross g (l.off % g.B) bufs) (hres : ∀ b bs, bufs = b :: bs → res.length ≤ b.length)
    {w : Bool} {X : Image} (hX : CutW w D (writeBufs g l bufs).2 X) :
    ∃ Pm n res', RTapeR g F n Pm res' X ∧
      PrefixCut (init.flatten ++ t) (init.flatten ++ t ++ bufs.flatten) Pm ∧
      res' = res.drop (Pm.length - (init.flatten ++ t).length) ∧
      (res' ≠ [] → n = init.length + 1) ∧ init.length + 1 ≤ n := by
  cases bufs with
  | nil =>
    have : X = D := hX.nil_inv
    rw [this]
    refine ⟨_, _, res, rtapeR_of_tapeR h, ⟨(init.flatten ++ t).length, Nat.le_refl _, by simp, ?_⟩, by simp,
      fun _ => rfl, Nat.le_refl _⟩
    simp only [List.flatten_nil, List.append_nil, List.take_length]
  | cons b bs =>
    obtain ⟨h1, h2, h3⟩ := hnc
    have hne : b ≠ [] := List.ne_nil_of_length_pos h1
    rw [Step.writeBufs_cons] at hX
    rcases CutW.of_append _ hX with hX | hX
    · obtain ⟨m, n, hm, hmn, hln⟩ := writeBuf_cutR g h b hne h2 hX
      exact ⟨_, n, _, hm, cut_head (init.flatten ++ t) b bs m,
        by rw [List.length_append (as := init.flatten ++ t), Nat.add_sub_cancel_left], hmn, hln⟩
    · obtain ⟨i1, t1, x1, ht1, hp1, hcurA, hc1, _⟩ := writeBuf_tapeR g h b hne h2 (hres b bs rfl)
      have hmonoI : init.length ≤ i1.length := files_mono g h.P_length 0 (by rw [← ht1.cur]; exact hcurA)
      rw [← hc1] at h3
      obtain ⟨Pm, hc, hp⟩ := writeBufs_cutW g bs ht1 h3 hX
      obtain ⟨n, hln, hn⟩ := RTapeR.of_rtape hc
      rw [hp1] at hp
      refine ⟨Pm, n, [], hn, cut_tail hp, ?_, fun hd => absurd rfl hd, Nat.le_trans (Nat.succ_le_succ hmonoI) hln⟩
      exact (List.drop_of_length_le (Nat.le_trans (hres b bs rfl)
        (Nat.le_sub_of_add_le' (by rw [← List.length_append]; exact hp.length_le)))).symm

end MRL.L
