/-
Crash states of the `BufWriter` model. `crashImage img ops k cut` (the first `k` OS operations, then
the first `cut` bytes of operation `k` if it is a write) is always a *cut state* of the effect
list: the image obtained by applying directly a prefix of the effects, the last one — if it is
a write — possibly cut at any byte. (The `BufWriter` only merges contiguous writes and keeps the
byte order; file-level operations are issued with an empty buffer.) The cut relation carries a flag
(`L.CutW w`: with `w = true` only between two effects, with `w = false` also inside a write) and every
lemma is stated for it; `H.CutState` is the case `w = false` (`L.cutState_iff`).
-/
import MRL.Proofs.StepBuf
import MRL.Proofs.StepLemmas

namespace MRL.H
open Buf

/-- images reachable by stopping the direct application of the effects `V` at any point -/
inductive CutState : Image → List Effect → Image → Prop
  | stop (img : Image) (V : List Effect) : CutState img V img
  | part (img : Image) (f off : Nat) (d : Bytes) (c : Nat) (V : List Effect) :
      CutState img (.write f off d :: V) (applyOs img (.write f off (d.take c)))
  | next (img : Image) (v : Effect) (V : List Effect) (X : Image) :
      CutState (applyOsOps img (direct v)) V X → CutState img (v :: V) X

end MRL.H

namespace MRL.L
open Buf H

/-- `CutState` with a flag: with `w = true` only between two effects, with `w = false` also inside a
    write -/
inductive CutW : Bool → Image → List Effect → Image → Prop
  | stop (w : Bool) (img : Image) (V : List Effect) : CutW w img V img
  | part (img : Image) (f off : Nat) (d : Bytes) (c : Nat) (V : List Effect) :
      CutW false img (.write f off d :: V) (applyOs img (.write f off (d.take c)))
  | next (w : Bool) (img : Image) (v : Effect) (V : List Effect) (X : Image) :
      CutW w (applyOsOps img (direct v)) V X → CutW w img (v :: V) X

theorem CutW.of_cutState {img : Image} {V : List Effect} {X : Image} (h : CutState img V X) :
    CutW false img V X := by
  induction h with
  | stop => exact .stop _ _ _
  | part _ f off d c _ => exact .part _ f off d c _
  | next _ _ _ _ _ ih => exact .next _ _ _ _ _ ih

theorem CutW.to_cutState {w : Bool} {img : Image} {V : List Effect} {X : Image} (h : CutW w img V X) :
    CutState img V X := by
  induction h with
  | stop => exact .stop _ _
  | part _ f off d c _ => exact .part _ _ _ _ c _
  | next _ _ _ _ _ _ ih => exact .next _ _ _ _ ih

theorem CutW.weaken {w : Bool} {img : Image} {V : List Effect} {X : Image} (h : CutW w img V X) :
    CutW false img V X :=
  .of_cutState h.to_cutState

theorem CutW.of_take (w : Bool) : ∀ (V : List Effect) (n : Nat) (img : Image),
    CutW w img V (applyOsOps img (directOps (V.take n))) := by
  intro V
  induction V with
  | nil => intro n img; rw [List.take_nil]; exact CutW.stop w img []
  | cons v V ih =>
    intro n img
    cases n with
    | zero => exact CutW.stop w img (v :: V)
    | succ n =>
      rw [List.take_succ_cons, directOps_cons, applyOsOps_append]
      exact .next _ _ _ _ _ (ih n _)

theorem CutW.to_take : ∀ {V : List Effect} {img X : Image}, CutW true img V X →
    ∃ n, n ≤ V.length ∧ X = applyOsOps img (directOps (V.take n)) := by
  intro V
  induction V with
  | nil => intro img X h; cases h; exact ⟨0, Nat.le_refl _, rfl⟩
  | cons v V ih =>
    intro img X h
    cases h with
    | stop => exact ⟨0, Nat.zero_le _, rfl⟩
    | next _ _ _ _ _ h1 =>
      obtain ⟨n, hn, hX⟩ := ih h1
      exact ⟨n + 1, Nat.succ_le_succ hn, by rw [List.take_succ_cons, directOps_cons, applyOsOps_append]; exact hX⟩

theorem CutW.cons_inv {w : Bool} {img : Image} {v : Effect} {V : List Effect} {X : Image}
    (h : CutW w img (v :: V) X) :
    X = img ∨ (w = false ∧ ∃ f off d c, v = .write f off d ∧ X = applyOs img (.write f off (d.take c))) ∨
      CutW w (applyOsOps img (direct v)) V X := by
  cases h with
  | stop => exact Or.inl rfl
  | part _ f off d c _ => exact Or.inr (Or.inl ⟨rfl, f, off, d, c, rfl, rfl⟩)
  | next _ _ _ _ _ h1 => exact Or.inr (Or.inr h1)

theorem CutW.nil_inv {w : Bool} {img X : Image} (h : CutW w img [] X) : X = img := by
  cases h; rfl

theorem CutW.of_append {w : Bool} {img : Image} (A : List Effect) {B : List Effect} {X : Image}
    (h : CutW w img (A ++ B) X) :
    CutW w img A X ∨ CutW w (applyOsOps img (directOps A)) B X := by
  induction A generalizing img with
  | nil => exact Or.inr h
  | cons a A ih =>
    cases h with
    | stop => left; exact .stop _ _ _
    | part _ f off d c _ => left; exact .part _ _ _ _ c _
    | next _ _ _ _ _ h1 =>
      rcases ih h1 with h2 | h2
      · left; exact .next _ _ _ _ _ h2
      · right; rw [directOps_cons, applyOsOps_append]; exact h2

theorem CutW.append_left {w : Bool} {img : Image} {A : List Effect} {X : Image} (B : List Effect)
    (h : CutW w img A X) : CutW w img (A ++ B) X := by
  induction h with
  | stop => exact .stop _ _ _
  | part _ f off d c _ => exact .part _ _ _ _ c _
  | next _ _ _ _ _ _ ih => exact .next _ _ _ _ _ ih

theorem CutW.append_right {w : Bool} {img : Image} (A : List Effect) {B : List Effect} {X : Image}
    (h : CutW w (applyOsOps img (directOps A)) B X) : CutW w img (A ++ B) X := by
  induction A generalizing img with
  | nil => exact h
  | cons a A ih =>
    refine .next _ _ _ _ _ (ih ?_)
    rw [directOps_cons, applyOsOps_append] at h
    exact h

theorem CutW.full (w : Bool) (A : List Effect) (img : Image) : CutW w img A (applyOsOps img (directOps A)) := by
  have := CutW.of_take w A A.length img
  rwa [List.take_length] at this

theorem CutW.merge {img : Image} {f o : Nat} {p d : Bytes} {V : List Effect} {X : Image}
    (h : CutW false img (.write f o (p ++ d) :: V) X) :
    CutW false img (.write f o p :: .write f (o + p.length) d :: V) X := by
  cases h with
  | stop => exact .stop _ _ _
  | part _ _ _ _ c _ =>
    by_cases hc : c ≤ p.length
    · rw [List.take_append_of_le_length hc]
      exact .part _ _ _ _ c _
    · have : (p ++ d).take c = p ++ d.take (c - p.length) := by
        rw [List.take_append, List.take_of_length_le (by omega)]
      rw [this, ← write_write]
      exact .next _ _ _ _ _ (by
        simp only [direct, applyOsOps, List.foldl_cons, List.foldl_nil]
        exact .part _ _ _ _ _ _)
  | next _ _ _ _ _ h1 =>
    refine .next _ _ _ _ _ (.next _ _ _ _ _ ?_)
    simp only [direct, applyOsOps, List.foldl_cons, List.foldl_nil] at h1 ⊢
    rw [write_write]; exact h1

theorem CutW.insert_noop (v : Effect) (hv : ∀ img, applyOsOps img (direct v) = img) :
    ∀ (A : List Effect) {img : Image} {V : List Effect} {X : Image},
    CutW false img (A ++ V) X → CutW false img (A ++ v :: V) X := by
  intro A
  induction A with
  | nil =>
    intro img V X h
    exact .next _ _ _ _ _ (by rw [hv]; exact h)
  | cons a A ih =>
    intro img V X h
    cases h with
    | stop => exact .stop _ _ _
    | part _ _ _ _ c _ => exact .part _ _ _ _ c _
    | next _ _ _ _ _ h1 => exact .next _ _ _ _ _ (ih h1)

theorem CutW.noop_back {v : Effect} (hv : ∀ img, applyOsOps img (direct v) = img)
    (hw : ∀ f off d, v ≠ .write f off d) (A : List Effect) {img : Image} {V : List Effect} {X : Image}
    (h : CutW false img (v :: (A ++ V)) X) : CutW false img (A ++ v :: V) X := by
  rcases h.cons_inv with h1 | ⟨_, f, off, d, _, hw1, _⟩ | h1
  · rw [h1]; exact .stop _ _ _
  · exact absurd hw1 (hw f off d)
  · rw [hv] at h1; exact CutW.insert_noop v hv A h1

theorem cutState_iff {img : Image} {V : List Effect} {X : Image} : CutState img V X ↔ CutW false img V X :=
  ⟨CutW.of_cutState, CutW.to_cutState⟩

end MRL.L

namespace MRL.H
open Buf L

theorem crashImage_nil (img : Image) (k cut : Nat) : crashImage img [] k cut = img := by
  simp only [crashImage, List.take_nil, applyOsOps, List.foldl_nil, List.getElem?_nil]

theorem crashImage_succ (img : Image) (o : OsOp) (ops : List OsOp) (k cut : Nat) :
    crashImage img (o :: ops) (k + 1) cut = crashImage (applyOs img o) ops k cut := by
  simp only [crashImage, List.take_succ_cons, applyOsOps, List.foldl_cons, List.getElem?_cons_succ]

theorem crashImage_append_lt (img : Image) (a b : List OsOp) (k cut : Nat) (h : k < a.length) :
    crashImage img (a ++ b) k cut = crashImage img a k cut := by
  simp only [crashImage, List.take_append_of_le_length (Nat.le_of_lt h), List.getElem?_append_left h]

theorem crashImage_append_ge (img : Image) (a b : List OsOp) (k cut : Nat) (h : a.length ≤ k) :
    crashImage img (a ++ b) k cut = crashImage (applyOsOps img a) b (k - a.length) cut := by
  simp only [crashImage, List.take_append, List.take_of_length_le h, List.getElem?_append_right h,
    applyOsOps_append]

theorem crashImage_before_unlink (img : Image) (a b : List OsOp) (f k cut : Nat)
    (h : OsOp.unlink f ∉ (a ++ .unlink f :: b).take k) :
    crashImage img (a ++ .unlink f :: b) k cut = crashImage img a k cut := by
  have hk : k ≤ a.length := Nat.le_of_not_lt fun hn => h (by
    rw [List.take_append, List.take_of_length_le (Nat.le_of_lt hn),
      ← Nat.sub_add_cancel (Nat.sub_pos_of_lt hn), List.take_succ_cons]
    exact List.mem_append_right _ List.mem_cons_self)
  rcases Nat.lt_or_eq_of_le hk with hlt | hke
  · exact crashImage_append_lt _ _ _ _ _ hlt
  · rw [crashImage_append_ge _ _ _ _ _ (Nat.le_of_eq hke.symm), hke, Nat.sub_self]
    simp [crashImage, applyOsOps]

theorem crashImage_zero_write (img : Image) (f off : Nat) (d : Bytes) (ops : List OsOp) (cut : Nat) :
    crashImage img (.write f off d :: ops) 0 cut = applyOs img (.write f off (d.take cut)) := by
  simp [crashImage, applyOsOps]

theorem CutState.append_right {img : Image} (A : List Effect) {B : List Effect} {X : Image}
    (h : CutState (applyOsOps img (directOps A)) B X) : CutState img (A ++ B) X :=
  cutState_iff.mpr (CutW.append_right A (cutState_iff.mp h))

theorem isSyncL_direct (v : Effect) (h : v = .flush ∨ (∃ f, v = .fsyncFile f) ∨ v = .fsyncDir)
    (img : Image) : applyOsOps img (direct v) = img := by
  rcases h with rfl | ⟨f, rfl⟩ | rfl <;> rfl

theorem cut_syncL {w : Bool} {sy : List Effect} (hs : IsSyncL sy) : ∀ {img X : Image}, CutW w img sy X → X = img := by
  induction sy with
  | nil => intro img X h; exact h.nil_inv
  | cons v sy ih =>
    intro img X h
    have hv := hs v List.mem_cons_self
    rcases h.cons_inv with h1 | ⟨_, f, off, d, c, hw, _⟩ | h1
    · exact h1
    · rcases hv with h2 | ⟨f', h2⟩ | h2 <;> rw [h2] at hw <;> cases hw
    · rw [isSyncL_direct v hv] at h1
      exact ih (fun v' hv' => hs v' (List.mem_cons_of_mem _ hv')) h1

theorem syncL_apply {sy : List Effect} (hs : IsSyncL sy) (img : Image) :
    applyOsOps img (directOps sy) = img := by
  induction sy with
  | nil => rfl
  | cons v sy ih =>
    rw [directOps_cons, applyOsOps_append, isSyncL_direct v (hs v List.mem_cons_self),
      ih (fun v' hv' => hs v' (List.mem_cons_of_mem _ hv'))]

theorem applyOsOps_one (img : Image) (o : OsOp) : applyOsOps img [o] = applyOs img o := rfl

theorem cut_directOps (V : List Effect) : ∀ (img : Image) (k cut : Nat),
    CutW false img V (crashImage img (directOps V) k cut) := by
  induction V with
  | nil => intro img k cut; rw [show directOps [] = [] from rfl, crashImage_nil]; exact .stop _ _ _
  | cons v V ih =>
    intro img k cut
    rw [directOps_cons]
    by_cases hk : k < (direct v).length
    · rw [crashImage_append_lt _ _ _ _ _ hk]
      cases v with
      | write f off d =>
        have : k = 0 := by simpa [direct] using hk
        subst this
        rw [show direct (.write f off d) = [.write f off d] from rfl, crashImage_zero_write]
        exact .part _ _ _ _ cut _
      | flush | listDir | openFile _ | readBlock _ => simp [direct] at hk
      | fsyncFile _ | fsyncDir | create _ | setLen _ _ | ensureLen _ _ | unlink _ =>
        -- a single operation that is not a write: nothing of it is done
        have : k = 0 := by simpa [direct] using hk
        subst this
        exact .stop _ _ _
    · rw [crashImage_append_ge _ _ _ _ _ (Nat.le_of_not_lt hk)]
      exact .next _ _ _ _ _ (ih _ _ _)

/-- One effect: crashes inside the operations it emits, and crashes later. In every case the
    operations emitted are the direct operations of some effects `V'` (the pending write, the new
    write, the effect itself), and `V'` followed by what is then pending is the old pending write
    followed by the effect — up to merging two contiguous writes or moving a no-op. -/
theorem bufStep_cut (cap : Nat) (b : BufSt) (st st1 : St) (e : Effect) (es : List Effect)
    (hinv : Inv cap b st) (hr : run1 st e = some st1) (img : Image) :
    (∀ k cut, CutW false img (pendW b ++ e :: es) (crashImage img (bufStep cap b e).2 k cut)) ∧
    (∀ X, CutW false (applyOsOps img (bufStep cap b e).2) (pendW (bufStep cap b e).1 ++ es) X →
      CutW false img (pendW b ++ e :: es) X) := by
  obtain ⟨V', hV, hto⟩ : ∃ V', (bufStep cap b e).2 = directOps V' ∧
      ∀ X, CutW false img (V' ++ (pendW (bufStep cap b e).1 ++ es)) X → CutW false img (pendW b ++ e :: es) X := by
    rcases (bufStep_shape cap b st st1 e hinv hr).2 with ⟨h, hh⟩ | ⟨h, hh⟩ | ⟨h, hh⟩ | ⟨h, hb, hs⟩
    · refine ⟨[], h, fun X hX => ?_⟩
      rcases hh with ⟨hd, hw, hP⟩ | ⟨f, o, d, rfl, hP, hP'⟩ | ⟨f, o, p, d, hP, rfl, hP'⟩
      · rw [hP] at hX
        exact CutW.insert_noop e (fun _ => by rw [hd]; rfl) (pendW b) hX
      · rw [hP]; rw [hP'] at hX; exact hX
      · rw [hP]; rw [hP'] at hX; exact CutW.merge hX
    · refine ⟨pendW b, by rw [h, directOps_pendW], fun X hX => ?_⟩
      rcases hh with hP' | ⟨rfl, hP'⟩ <;> rw [hP'] at hX
      · exact hX
      · exact CutW.insert_noop .flush (fun _ => rfl) (pendW b) hX
    · refine ⟨pendW b ++ [e], by rw [h, directOps_append, directOps_pendW]; simp [directOps], fun X hX => ?_⟩
      rw [hh] at hX
      simpa using hX
    · refine ⟨[e], by rw [h]; simp [directOps], fun X hX => ?_⟩
      rw [hb] at hX
      refine CutW.noop_back (fun _ => by rw [hs]; rfl) (fun f o d he => ?_) (pendW b) hX
      rw [he] at hs; cases hs
  rw [hV]
  exact ⟨fun k cut => hto _ ((cut_directOps V' img k cut).append_left _),
    fun X h => hto X (CutW.append_right V' h)⟩

theorem crash_cut (cap : Nat) (es : List Effect) : ∀ (b : BufSt) (st st' : St) (img : Image),
    Inv cap b st → run st es = some st' → ∀ k cut,
    CutW false img (pendW b ++ es) (crashImage img (toOsOps cap b es).2 k cut) := by
  induction es with
  | nil =>
    intro b st st' img _ _ k cut
    simp only [toOsOps, crashImage_nil]
    exact .stop _ _ _
  | cons e es ih =>
    intro b st st' img hinv hr k cut
    simp only [run] at hr
    cases h1 : run1 st e with
    | none => rw [h1] at hr; cases hr
    | some st1 =>
      rw [h1] at hr
      simp only [Option.bind_some] at hr
      have hinv1 := (bufStep_shape cap b st st1 e hinv h1).1
      obtain ⟨hA, hB⟩ := bufStep_cut cap b st st1 e es hinv h1 img
      rw [toOsOps_cons]
      simp only
      by_cases hk : k < (bufStep cap b e).2.length
      · rw [crashImage_append_lt _ _ _ _ _ hk]
        exact hA k cut
      · rw [crashImage_append_ge _ _ _ _ _ (Nat.le_of_not_lt hk)]
        exact hB _ (ih _ st1 st' _ hinv1 hr _ cut)

end MRL.H
