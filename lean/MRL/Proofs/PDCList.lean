/-
Effect lists with the LATE unlinks undone. `skipLate u es`: the effects `es` in which, of the unlinks
issued after the last `fsync(dir)`, only the first `u` are kept (`lateCount`: how many unlinks follow the last
`fsync(dir)`). `pendAfter`: are there unlinks not covered by an `fsync(dir)`. List lemmas only.
-/
import MRL.Proofs.PDBuf

namespace MRL.PDC
open PD

def isDS : Effect → Bool
  | .fsyncDir => true
  | _ => false

def hasDS (es : List Effect) : Bool := es.any isDS

def NoUnl (es : List Effect) : Prop := ∀ e ∈ es, isUnl e = false

/-- number of unlinks after the last `fsync(dir)`, the list read from its end -/
def lateR : List Effect → Nat
  | [] => 0
  | e :: r => if isDS e then 0 else if isUnl e then lateR r + 1 else lateR r

/-- `skipLate`, the list read from its end -/
def skipR (u : Nat) : List Effect → List Effect
  | [] => []
  | e :: r =>
    if isDS e then e :: r
    else if isUnl e then (if lateR r < u then e :: skipR u r else skipR u r)
    else e :: skipR u r

def lateCount (es : List Effect) : Nat := lateR es.reverse

/-- of the unlinks after the last `fsync(dir)` keep the first `u`. Defined through the reversed list, so that
    what one more effect does is an equation (`skipLate_snoc`); everything else follows from it by induction
    on the effects appended (`snoc_ind`). -/
def skipLate (u : Nat) (es : List Effect) : List Effect := (skipR u es.reverse).reverse

theorem lateCount_snoc (es : List Effect) (e : Effect) :
    lateCount (es ++ [e]) = if isDS e then 0 else if isUnl e then lateCount es + 1 else lateCount es := by
  simp only [lateCount, List.reverse_append, List.reverse_cons, List.reverse_nil, List.nil_append, List.cons_append,
    lateR]

theorem skipLate_snoc (u : Nat) (es : List Effect) (e : Effect) :
    skipLate u (es ++ [e]) =
      if isDS e then es ++ [e]
      else if isUnl e then skipLate u es ++ (if lateCount es < u then [e] else [])
      else skipLate u es ++ [e] := by
  show (skipR u (es ++ [e]).reverse).reverse = _
  rw [List.reverse_append]
  show (skipR u (e :: es.reverse)).reverse = _
  unfold skipLate lateCount
  simp only [skipR]
  by_cases hd : isDS e = true
  · rw [if_pos hd, if_pos hd, List.reverse_cons, List.reverse_reverse]
  · rw [if_neg hd, if_neg hd]
    by_cases hu : isUnl e = true
    · rw [if_pos hu, if_pos hu]
      by_cases hl : lateR es.reverse < u
      · rw [if_pos hl, if_pos hl, List.reverse_cons]
      · rw [if_neg hl, if_neg hl, List.append_nil]
    · rw [if_neg hu, if_neg hu, List.reverse_cons]

theorem skipLate_nil (u : Nat) : skipLate u [] = [] := rfl

theorem snoc_ind {α : Type} {P : List α → Prop} (nil : P []) (snoc : ∀ l a, P l → P (l ++ [a])) : ∀ l, P l := by
  intro l
  rw [← List.reverse_reverse l]
  induction l.reverse with
  | nil => exact nil
  | cons a r ih => rw [List.reverse_cons]; exact snoc _ _ ih

theorem hasDS_append (a b : List Effect) : hasDS (a ++ b) = (hasDS a || hasDS b) := by simp [hasDS]

theorem hasDS_snoc (b : List Effect) (e : Effect) : hasDS (b ++ [e]) = (hasDS b || isDS e) := by
  rw [hasDS_append]; simp [hasDS]

theorem noUnl_snoc {b : List Effect} {e : Effect} (h : NoUnl (b ++ [e])) : NoUnl b ∧ isUnl e = false :=
  ⟨fun x hx => h x (List.mem_append_left _ hx), h e (List.mem_append_right _ List.mem_cons_self)⟩

theorem skipLate_noUnl (u : Nat) : ∀ es : List Effect, NoUnl es → skipLate u es = es := by
  refine snoc_ind (fun _ => rfl) fun es e ih h => ?_
  obtain ⟨h1, h2⟩ := noUnl_snoc h
  rw [skipLate_snoc, h2, ih h1]
  simp

theorem lateCount_noUnl : ∀ es : List Effect, NoUnl es → lateCount es = 0 := by
  refine snoc_ind (fun _ => rfl) fun es e ih h => ?_
  obtain ⟨h1, h2⟩ := noUnl_snoc h
  rw [lateCount_snoc, h2, ih h1]
  simp

theorem skipLate_append_ds' (u : Nat) (a : List Effect) : ∀ b : List Effect, hasDS b = true →
    skipLate u (a ++ b) = a ++ skipLate u b ∧ lateCount (a ++ b) = lateCount b := by
  refine snoc_ind (fun h => nomatch h) fun b e ih h => ?_
  rw [← List.append_assoc, skipLate_snoc, skipLate_snoc, lateCount_snoc, lateCount_snoc]
  by_cases hd : isDS e = true
  · rw [if_pos hd, if_pos hd, if_pos hd, if_pos hd, List.append_assoc]
    exact ⟨rfl, rfl⟩
  · rw [hasDS_snoc, Bool.or_eq_true] at h
    obtain ⟨h1, h2⟩ := ih (h.resolve_right hd)
    rw [if_neg hd, if_neg hd, if_neg hd, if_neg hd, h1, h2]
    by_cases hu : isUnl e = true
    · rw [if_pos hu, if_pos hu, List.append_assoc]; exact ⟨rfl, rfl⟩
    · rw [if_neg hu, if_neg hu, List.append_assoc]; exact ⟨rfl, rfl⟩

theorem skipLate_append_ds (u : Nat) (b : List Effect) (hb : hasDS b = true) (a : List Effect) :
    skipLate u (a ++ b) = a ++ skipLate u b := (skipLate_append_ds' u a b hb).1

theorem skipLate_append_quiet (u : Nat) (b : List Effect) (hb : hasDS b = false) (hu : NoUnl b) (a : List Effect) :
    skipLate u (a ++ b) = skipLate u a ++ b := by
  refine snoc_ind (P := fun b => hasDS b = false → NoUnl b → skipLate u (a ++ b) = skipLate u a ++ b)
    (fun _ _ => by rw [List.append_nil, List.append_nil]) (fun b e ih hb hu => ?_) b hb hu
  obtain ⟨h1, h2⟩ := noUnl_snoc hu
  rw [hasDS_snoc, Bool.or_eq_false_iff] at hb
  rw [← List.append_assoc, skipLate_snoc, hb.2, h2, ih hb.1 h1]
  simp

theorem skipLate_noUnl_unlinks' (u : Nat) (a : List Effect) (ha : NoUnl a) : ∀ U : List Nat,
    skipLate u (a ++ U.map Effect.unlink) = a ++ (U.take u).map Effect.unlink ∧
      lateCount (a ++ U.map Effect.unlink) = U.length := by
  refine snoc_ind ?_ fun U w ih => ?_
  · rw [List.map_nil, List.append_nil, List.take_nil, List.map_nil, List.append_nil]
    exact ⟨skipLate_noUnl u a ha, lateCount_noUnl a ha⟩
  · obtain ⟨h1, h2⟩ := ih
    rw [List.map_append, ← List.append_assoc, List.map_cons, List.map_nil, skipLate_snoc, lateCount_snoc, h1, h2,
      List.take_append, List.map_append, List.length_append]
    simp only [isDS, isUnl, Bool.false_eq_true, if_false, if_true, List.append_assoc, List.length_cons,
      List.length_nil, and_true]
    congr 1
    by_cases hlt : U.length < u
    · obtain ⟨k, hk⟩ : ∃ k, u - U.length = k + 1 := ⟨u - U.length - 1, by omega⟩
      rw [if_pos hlt, hk]; simp
    · rw [if_neg hlt, show u - U.length = 0 by omega]; simp

theorem skipLate_noUnl_unlinks (u : Nat) (U : List Nat) (a : List Effect) (ha : NoUnl a) :
    skipLate u (a ++ U.map Effect.unlink) = a ++ (U.take u).map Effect.unlink :=
  (skipLate_noUnl_unlinks' u a ha U).1

/-- unlinks pending after the effects (`p`: before them) -/
def pendAfter (p : Bool) (es : List Effect) : Bool :=
  es.foldl (fun p e => if isDS e then false else if isUnl e then true else p) p

theorem pendAfter_append (p : Bool) (a b : List Effect) : pendAfter p (a ++ b) = pendAfter (pendAfter p a) b := by
  simp [pendAfter, List.foldl_append]

theorem pendAfter_quiet (p : Bool) : ∀ es : List Effect, hasDS es = false → NoUnl es → pendAfter p es = p := by
  intro es
  induction es with
  | nil => exact fun _ _ => rfl
  | cons e es ih =>
    intro h hu
    simp only [hasDS, List.any_cons, Bool.or_eq_false_iff] at h
    have he := hu e List.mem_cons_self
    simp only [pendAfter, List.foldl_cons, h.1, he, Bool.false_eq_true, if_false]
    exact ih h.2 (fun x hx => hu x (List.mem_cons_of_mem _ hx))

theorem pendAfter_end_ds (p : Bool) (es : List Effect) : pendAfter p (es ++ [Effect.fsyncDir]) = false := by
  simp [pendAfter, List.foldl_append, isDS]

theorem pendAfter_noUnl (es : List Effect) (hu : NoUnl es) : pendAfter false es = false := by
  induction es with
  | nil => rfl
  | cons e es ih =>
    have he := hu e List.mem_cons_self
    have : (if isDS e = true then false else if isUnl e = true then true else false) = false := by
      rw [he]; split <;> rfl
    simp only [pendAfter, List.foldl_cons, this]
    exact ih (fun x hx => hu x (List.mem_cons_of_mem _ hx))

theorem take_mid (a : List Effect) (U : List Nat) (s : List Effect) (k : Nat) (hk : k ≤ U.length) :
    (a ++ U.map Effect.unlink ++ s).take (a.length + k) = a ++ (U.take k).map Effect.unlink := by
  rw [List.append_assoc, List.take_length_add_append,
    List.take_append_of_le_length (by rw [List.length_map]; exact hk), List.map_take]

theorem pendAfter_true_noDS : ∀ es : List Effect, hasDS es = false → pendAfter true es = true
  | [], _ => rfl
  | e :: es, h => by
    simp only [hasDS, List.any_cons, Bool.or_eq_false_iff] at h
    simp only [pendAfter, List.foldl_cons, h.1, Bool.false_eq_true, if_false, ite_self]
    exact pendAfter_true_noDS es h.2

end MRL.PDC
