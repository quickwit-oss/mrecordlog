/-
The raw tape: the tracked files `F … cur` hold, back to back, the bytes `P` written so far
followed by zeros (`G.Tape`). What crashes leave is more general, and the theory is developed there
once: the next file may already exist, still empty (`L.TapeX`, `x = true`: a crash between `create`
and `set_len`; the roll-over then takes the `ensureLen` branch of `writeBuf`), and a residue of a torn
header may stand at the writer's position (`L.TapeR`), which the next frame overwrites; the clean
tape is the case `x = false`, no residue. One `writeBuf` of a non-empty buffer that does not cross a
block end appends the buffer to `P`, rolling over exactly when the current file is full.
-/
import MRL.Proofs.GDisk
import MRL.Proofs.GPos
import MRL.Proofs.JWriter
import MRL.Proofs.StepLemmas

namespace MRL.G

/-- files `F … F + init.length` of `D`: the full chunks `init`, then `t` followed by zeros;
    the writer stands right after `t` -/
structure Tape (g : Geom) (l : Log) (D : Image) (F : Nat) (init : List Bytes) (t : Bytes) : Prop where
  img : D = imgOf F (init ++ [t ++ zeros (g.fileBytes - l.off)])
  full : ∀ c ∈ init, c.length = g.fileBytes
  tlen : t.length = l.off
  off_le : l.off ≤ g.fileBytes
  files : l.files = List.range' F (init.length + 1)
  cur : l.cur = F + init.length

theorem fileBytes_mod (g : Geom) : g.fileBytes % g.B = 0 := Nat.mul_mod_right _ _

theorem B_le_fileBytes (g : Geom) : g.B ≤ g.fileBytes := by
  unfold Geom.fileBytes
  exact Nat.le_mul_of_pos_right _ g.hK

theorem fits_file (g : Geom) (off len : Nat) (h : off < g.fileBytes) (hc : off % g.B + len ≤ g.B) :
    off + len ≤ g.fileBytes := by
  have hq : off / g.B < g.K := by
    rw [Nat.div_lt_iff_lt_mul (Torn.Bpos g), Nat.mul_comm]; exact h
  have hd := Nat.div_add_mod off g.B
  have h1 : g.B * (off / g.B + 1) ≤ g.B * g.K := Nat.mul_le_mul_left _ hq
  rw [Nat.mul_add, Nat.mul_one] at h1
  unfold Geom.fileBytes
  omega

theorem adv_mod (g : Geom) (p len : Nat) (h : p % g.B + len ≤ g.B) :
    (p + len) % g.B = adv g (p % g.B) len := by
  unfold adv
  split
  · rename_i h1; exact mod_add_eq h1
  · rename_i h1; exact mod_add_lt (by omega)

theorem flatten_length_full (fb : Nat) : ∀ (cs : List Bytes), (∀ c ∈ cs, c.length = fb) →
    cs.flatten.length = cs.length * fb
  | [], _ => by simp
  | c :: cs, h => by
    simp only [List.flatten_cons, List.length_append, List.length_cons]
    rw [flatten_length_full fb cs (fun c' hc' => h c' (List.mem_cons_of_mem _ hc')),
      h c List.mem_cons_self, Nat.add_mul, Nat.one_mul, Nat.add_comm]

theorem flatten_drop_full (fb : Nat) : ∀ (cs : List Bytes) (k : Nat), (∀ c ∈ cs, c.length = fb) →
    k ≤ cs.length → cs.flatten.drop (k * fb) = (cs.drop k).flatten
  | cs, 0, _, _ => by simp
  | [], k + 1, _, h => by simp at h
  | c :: cs, k + 1, hf, h => by
    have hc : c.length = fb := hf c List.mem_cons_self
    rw [List.flatten_cons, Nat.add_mul, Nat.one_mul, Nat.add_comm, ← List.drop_drop,
      show fb = c.length from hc.symm, List.drop_left' rfl, List.drop_succ_cons, hc]
    exact flatten_drop_full fb cs k (fun c' hc' => hf c' (List.mem_cons_of_mem _ hc')) (by simpa using h)

theorem nextFile_range (F n : Nat) : nextFile (List.range' F (n + 1)) (F + n) = none := by
  unfold nextFile
  rw [List.find?_eq_none]
  intro x hx
  rw [List.mem_range'_1] at hx
  simp only [decide_eq_true_eq]
  omega

theorem range'_snoc (F n : Nat) : List.range' F n ++ [F + n] = List.range' F (n + 1) := by
  rw [List.range'_concat]; simp

end MRL.G

namespace MRL.L
open Buf G Codec Log

def xtra (x : Bool) (f : Nat) : Image := if x then [(f, [])] else []

theorem full_snoc {fb : Nat} {cs : List Bytes} (h : ∀ c ∈ cs, c.length = fb) {x : Bytes} (hx : x.length = fb) :
    ∀ c ∈ cs ++ [x], c.length = fb := by
  intro c hc
  rcases List.mem_append.mp hc with hc | hc
  · exact h c hc
  · simp only [List.mem_singleton] at hc; rw [hc, hx]

structure TapeX (g : Geom) (l : Log) (D : Image) (F : Nat) (init : List Bytes) (t : Bytes) (x : Bool) : Prop where
  img : D = imgOf F (init ++ [t ++ zeros (g.fileBytes - l.off)]) ++ xtra x (F + init.length + 1)
  full : ∀ c ∈ init, c.length = g.fileBytes
  tlen : t.length = l.off
  off_le : l.off ≤ g.fileBytes
  files : l.files = List.range' F (init.length + 1 + (if x then 1 else 0))
  cur : l.cur = F + init.length

theorem TapeX.of_tape {g : Geom} {l : Log} {D : Image} {F : Nat} {init : List Bytes} {t : Bytes}
    (h : Tape g l D F init t) : TapeX g l D F init t false :=
  ⟨h.img.trans (List.append_nil _).symm, h.full, h.tlen, h.off_le, h.files, h.cur⟩

theorem TapeX.to_tape {g : Geom} {l : Log} {D : Image} {F : Nat} {init : List Bytes} {t : Bytes}
    (h : TapeX g l D F init t false) : Tape g l D F init t :=
  ⟨h.img.trans (List.append_nil _), h.full, h.tlen, h.off_le, h.files, h.cur⟩

theorem nextFile_rangeX (F n : Nat) : nextFile (List.range' F (n + 1 + 1)) (F + n) = some (F + n + 1) := by
  have h1 := nextFile_range F n
  unfold nextFile at h1 ⊢
  rw [← range'_snoc F (n + 1), List.find?_append, h1, Option.none_or, List.find?_singleton,
    if_pos (decide_eq_true (show F + n < F + (n + 1) from Nat.lt_succ_self _))]
  rfl

theorem full_of_roll (g : Geom) {off n : Nat} (hle : off ≤ g.fileBytes) (hnc : off % g.B + n ≤ g.B)
    (hroll : off + n > g.fileBytes) : off = g.fileBytes :=
  Nat.le_antisymm hle (Nat.le_of_not_lt fun hlt => Nat.not_le_of_gt hroll (fits_file g off n hlt hnc))

theorem TapeX.at_end {g : Geom} {l : Log} {D : Image} {F : Nat} {init : List Bytes} {t : Bytes} {x : Bool}
    (h : TapeX g l D F init t x) (hf : l.off = g.fileBytes) :
    D = imgOf F (init ++ [t]) ++ xtra x (F + (init ++ [t]).length) ∧ l.cur + 1 = F + (init ++ [t]).length ∧
      ∀ c ∈ init ++ [t], c.length = g.fileBytes := by
  have hlen : (init ++ [t]).length = init.length + 1 := List.length_append
  refine ⟨?_, by rw [h.cur, hlen, Nat.add_assoc], full_snoc h.full (by rw [h.tlen, hf])⟩
  rw [h.img, hf, Nat.sub_self, hlen, Nat.add_assoc]
  exact congrArg (fun c => imgOf F (init ++ [c]) ++ _) (List.append_nil t)

theorem xtra_keys (x : Bool) (f f' : Nat) (hne : f ≠ f') : ∀ kv ∈ xtra x f, kv.1 ≠ f' := by
  intro kv hkv
  cases x
  · cases hkv
  · simp only [xtra, if_true, List.mem_singleton] at hkv
    rw [hkv]; exact hne

/-! A header write cut in the very last block leaves at most 6 junk bytes where the writer stands (the
reader stops in front of them: its `needNext` with no next block); the next frame overwrites them. -/

structure TapeR (g : Geom) (l : Log) (D : Image) (F : Nat) (init : List Bytes) (t : Bytes) (x : Bool)
    (res : Bytes) : Prop where
  img : D = imgOf F (init ++ [t ++ (res ++ zeros (g.fileBytes - l.off - res.length))]) ++
    xtra x (F + init.length + 1)
  full : ∀ c ∈ init, c.length = g.fileBytes
  tlen : t.length = l.off
  resle : l.off + res.length ≤ g.fileBytes
  files : l.files = List.range' F (init.length + 1 + (if x then 1 else 0))
  cur : l.cur = F + init.length

theorem TapeR.off_le {g : Geom} {l : Log} {D : Image} {F : Nat} {init : List Bytes} {t : Bytes} {x : Bool}
    {res : Bytes} (h : TapeR g l D F init t x res) : l.off ≤ g.fileBytes :=
  Nat.le_trans (Nat.le_add_right _ _) h.resle

theorem TapeR.of_tapeX {g : Geom} {l : Log} {D : Image} {F : Nat} {init : List Bytes} {t : Bytes} {x : Bool}
    (h : TapeX g l D F init t x) : TapeR g l D F init t x [] :=
  ⟨h.img, h.full, h.tlen, h.off_le, h.files, h.cur⟩

theorem TapeR.to_tapeX {g : Geom} {l : Log} {D : Image} {F : Nat} {init : List Bytes} {t : Bytes} {x : Bool}
    (h : TapeR g l D F init t x []) : TapeX g l D F init t x :=
  ⟨h.img, h.full, h.tlen, h.off_le, h.files, h.cur⟩

theorem TapeR.P_length {g : Geom} {l : Log} {D : Image} {F : Nat} {init : List Bytes} {t : Bytes} {x : Bool}
    {res : Bytes} (h : TapeR g l D F init t x res) :
    (init.flatten ++ t).length = init.length * g.fileBytes + l.off := by
  rw [List.length_append, flatten_length_full _ _ h.full, h.tlen]

theorem TapeR.congr {g : Geom} {l l' : Log} {D : Image} {F : Nat} {init : List Bytes} {t : Bytes} {x : Bool}
    {res : Bytes} (h : TapeR g l D F init t x res) (hf : l'.files = l.files) (hc : l'.cur = l.cur)
    (ho : l'.off = l.off) : TapeR g l' D F init t x res :=
  ⟨by rw [ho]; exact h.img, h.full, by rw [ho]; exact h.tlen, by rw [ho]; exact h.resle,
    by rw [hf]; exact h.files, by rw [hc]; exact h.cur⟩

theorem TapeR.head {g : Geom} {l : Log} {D : Image} {F : Nat} {init : List Bytes} {t : Bytes} {x : Bool}
    {res : Bytes} (h : TapeR g l D F init t x res) : l.files.headD 0 = F := by
  rw [h.files, Nat.add_right_comm, List.range'_succ]; rfl

theorem _root_.MRL.G.Tape.tapeR {g : Geom} {l : Log} {D : Image} {F : Nat} {init : List Bytes} {t : Bytes}
    (h : Tape g l D F init t) : TapeR g l D F init t false [] := TapeR.of_tapeX (TapeX.of_tape h)

theorem TapeX.congr {g : Geom} {l l' : Log} {D : Image} {F : Nat} {init : List Bytes} {t : Bytes} {x : Bool}
    (h : TapeX g l D F init t x) (hf : l'.files = l.files) (hc : l'.cur = l.cur) (ho : l'.off = l.off) :
    TapeX g l' D F init t x := ((TapeR.of_tapeX h).congr hf hc ho).to_tapeX

theorem TapeR.rollTarget {g : Geom} {l : Log} {D : Image} {F : Nat} {init : List Bytes} {t : Bytes} {x : Bool}
    {res : Bytes} (h : TapeR g l D F init t x res) : l.rollTarget = l.cur + 1 := by
  have hn : nextFile l.files l.cur = none ∨ nextFile l.files l.cur = some (l.cur + 1) := by
    rw [h.files, h.cur]
    cases x
    · exact .inl (nextFile_range F init.length)
    · exact .inr (nextFile_rangeX F init.length)
  unfold Log.rollTarget
  rcases hn with hn | hn <;> rw [hn]

theorem overwrite_mid (t Y b : Bytes) : overwrite (t ++ Y) t.length b = t ++ b ++ Y.drop b.length := by
  unfold overwrite
  have h1 : ¬ (t ++ Y).length < t.length := by simp only [List.length_append, Nat.not_lt, Nat.le_add_right]
  simp only [h1, if_false]
  rw [List.take_left' rfl, ← List.drop_drop, List.drop_left' rfl]

theorem drop_res_zeros (res : Bytes) (r m : Nat) :
    (res ++ zeros r).drop m = res.drop m ++ zeros (r - (m - res.length)) := by
  rw [List.drop_append, drop_zeros]

theorem write_over_res (g : Geom) {l : Log} {D : Image} {F : Nat} {init : List Bytes} {t : Bytes} {x : Bool}
    {res : Bytes} (h : TapeR g l D F init t x res) (b : Bytes) :
    applyOs D (.write l.cur l.off b) =
      imgOf F (init ++ [t ++ b ++ (res ++ zeros (g.fileBytes - l.off - res.length)).drop b.length]) ++
        xtra x (F + init.length + 1) := by
  simp only [applyOs]
  rw [h.img, mapFile_append, mapFile_notin (xtra x _) _ _ (xtra_keys x _ _ (by rw [h.cur]; exact Nat.succ_ne_self _)), h.cur,
    mapFile_last, ← h.tlen, overwrite_mid]

theorem tapeR_chunks {g : Geom} {l : Log} {D : Image} {F : Nat} {init : List Bytes} {t : Bytes} {x : Bool}
    {res : Bytes} (h : TapeR g l D F init t x res) :
    ∀ c ∈ init ++ [t ++ (res ++ zeros (g.fileBytes - l.off - res.length))], c.length = g.fileBytes := by
  apply full_snoc h.full
  rw [List.length_append, List.length_append, length_zeros, h.tlen, ← Nat.add_assoc, Nat.sub_sub,
    Nat.add_sub_cancel' h.resle]

theorem write_wipes (g : Geom) {l : Log} {D : Image} {F : Nat} {init : List Bytes} {t : Bytes} {x : Bool}
    {res : Bytes} (h : TapeR g l D F init t x res) (b : Bytes) (hres : res.length ≤ b.length) :
    applyOs D (.write l.cur l.off b) =
      imgOf F (init ++ [t ++ b ++ zeros (g.fileBytes - l.off - b.length)]) ++ xtra x (F + init.length + 1) := by
  rw [write_over_res g h b, drop_res_zeros, List.drop_of_length_le hres, List.nil_append,
    Nat.sub_sub (g.fileBytes - l.off), Nat.add_sub_cancel' hres]

/-- every tracked file is full-size: the `ensureLen` of the first one, which `open` issues, changes nothing -/
theorem TapeR.ensureLen_head {g : Geom} {l : Log} {D : Image} {F : Nat} {init : List Bytes} {t : Bytes} {x : Bool}
    {res : Bytes} (h : TapeR g l D F init t x res) : applyOs D (.ensureLen F g.fileBytes) = D := by
  apply ensureLen_full
  intro kv hkv hk
  rw [h.img] at hkv
  rcases List.mem_append.mp hkv with hkv | hkv
  · rw [tapeR_chunks h _ (imgOf_values _ _ kv hkv)]; exact Nat.lt_irrefl _
  · exact absurd hk (xtra_keys x _ F (by omega) kv hkv)

theorem roll_img (g : Geom) (F : Nat) (cs : List Bytes) (e5 : Effect)
    (he5 : e5 = .setLen (F + cs.length) g.fileBytes ∨ e5 = .ensureLen (F + cs.length) g.fileBytes) :
    applyOsOps (imgOf F (cs ++ [[]])) (direct e5) = imgOf F (cs ++ [zeros g.fileBytes]) ∧
    ∀ b : Bytes,
      applyOs (imgOf F (cs ++ [zeros g.fileBytes])) (.write (F + cs.length) 0 b) =
        imgOf F (cs ++ [b ++ zeros (g.fileBytes - b.length)]) := by
  refine ⟨?_, fun b => ?_⟩
  · rcases he5 with rfl | rfl
    · simp only [direct, applyOsOps, List.foldl_cons, List.foldl_nil, applyOs]
      rw [mapFile_last, setLenBytes_nil]
    · simp only [direct, applyOsOps, List.foldl_cons, List.foldl_nil, applyOs]
      rw [mapFile_last]
      simp [fileBytes_pos g, setLenBytes_nil]
  · have hov := overwrite_mid [] (zeros g.fileBytes) b
    simp only [List.nil_append, List.length_nil, drop_zeros] at hov
    simp only [applyOs]
    rw [mapFile_last, hov]

/-- In the roll-over case `e4` is `create`, or `openFile` when the next file is there, empty: all that
    is kept of it is that it is no write and leaves the next file empty on the image. -/
theorem TapeR.writeBuf_cases {g : Geom} {l : Log} {D : Image} {F : Nat} {init : List Bytes} {t : Bytes}
    {x : Bool} {res : Bytes} (h : TapeR g l D F init t x res) (buf : Bytes) (hne : buf ≠ [])
    (hnc : l.off % g.B + buf.length ≤ g.B) :
    (l.off + buf.length ≤ g.fileBytes ∧
      writeBuf g l buf = ({ l with off := l.off + buf.length }, [.write l.cur l.off buf])) ∨
    (l.off = g.fileBytes ∧ res = [] ∧ buf.length ≤ g.fileBytes ∧
      (writeBuf g l buf).1.files = List.range' F (init.length + 2) ∧
      (writeBuf g l buf).1.cur = l.cur + 1 ∧ (writeBuf g l buf).1.off = buf.length ∧
      l.cur + 1 = F + (init ++ [t]).length ∧ (∀ c ∈ init ++ [t], c.length = g.fileBytes) ∧
      ∃ e4 e5, (writeBuf g l buf).2 =
          [.flush, .fsyncFile l.cur, .fsyncDir] ++ [e4, e5, .write (l.cur + 1) 0 buf] ∧
        (∀ f o d, e4 ≠ .write f o d) ∧ applyOsOps D (direct e4) = imgOf F (init ++ [t] ++ [[]]) ∧
        (e5 = .setLen (l.cur + 1) g.fileBytes ∨ e5 = .ensureLen (l.cur + 1) g.fileBytes)) := by
  by_cases hroll : l.off + buf.length > g.fileBytes
  · right
    have hfull := full_of_roll g h.off_le hnc hroll
    have hres : res = [] := List.eq_nil_of_length_eq_zero (by have := h.resle; omega)
    subst hres
    obtain ⟨hD, hnum, hfullcs⟩ := h.to_tapeX.at_end hfull
    refine ⟨hfull, rfl, Nat.le_trans (Nat.le_trans (Nat.le_add_left _ _) hnc) (B_le_fileBytes g), ?_⟩
    cases x with
    | false =>
      have hnf : nextFile l.files l.cur = none := by
        rw [h.files, h.cur]; exact nextFile_range F init.length
      rw [Step.writeBuf_roll_none g l buf hne hroll hnf]
      refine ⟨?_, rfl, rfl, hnum, hfullcs, _, _, rfl, (fun _ _ _ e => by cases e), ?_, Or.inl rfl⟩
      · show l.files ++ [l.cur + 1] = _
        rw [h.files, h.cur]; exact range'_snoc F (init.length + 1)
      · simp only [direct, applyOsOps, List.foldl_cons, List.foldl_nil, applyOs]
        rw [hD, show xtra false _ = [] from rfl, List.append_nil, hnum, insertFile_end]
    | true =>
      have hnf : nextFile l.files l.cur = some (l.cur + 1) := by
        rw [h.files, h.cur]; exact nextFile_rangeX F init.length
      rw [Step.writeBuf_roll_some g l buf hne hroll _ hnf]
      refine ⟨h.files, rfl, rfl, hnum, hfullcs, _, _, rfl, (fun _ _ _ e => by cases e), ?_, Or.inr rfl⟩
      show D = _
      rw [hD, imgOf_snoc (cs := init ++ [t])]; rfl
  · exact .inl ⟨Nat.le_of_not_gt hroll, Step.writeBuf_noroll g l buf hne hroll⟩

theorem writeBuf_tapeR (g : Geom) {l : Log} {D : Image} {F : Nat} {init : List Bytes} {t : Bytes} {x : Bool}
    {res : Bytes} (h : TapeR g l D F init t x res) (buf : Bytes) (hne : buf ≠ [])
    (hnc : l.off % g.B + buf.length ≤ g.B) (hres : res.length ≤ buf.length) :
    ∃ init' t' x', TapeX g (writeBuf g l buf).1 (applyOsOps D (directOps (writeBuf g l buf).2)) F init' t' x' ∧
      init'.flatten ++ t' = init.flatten ++ t ++ buf ∧
      (writeBuf g l buf).1.cur = F + (init.flatten ++ t).length / g.fileBytes ∧
      (writeBuf g l buf).1.off % g.B = adv g (l.off % g.B) buf.length ∧ (x = false → x' = false) := by
  have hlen : 0 < buf.length := List.length_pos_iff.mpr hne
  rcases h.writeBuf_cases buf hne hnc with ⟨hle, hw⟩ |
    ⟨hfull, _, hbl, hfiles, hcur, hoff, hnum, hfullcs, e4, e5, hes, _, hi4, he5⟩
  · rw [hw]
    refine ⟨init, t ++ buf, x, ⟨?_, h.full, by rw [List.length_append, h.tlen], hle, h.files, h.cur⟩,
      (List.append_assoc _ _ _).symm, ?_, adv_mod g l.off _ hnc, id⟩
    · show applyOs D (.write l.cur l.off buf) = _
      rw [write_wipes g h buf hres, Nat.sub_sub]
    · show l.cur = _
      rw [h.P_length, h.cur, div_of_pos _ _ _ (Nat.lt_of_lt_of_le (Nat.lt_add_of_pos_right hlen) hle)]
  · rw [hnum] at he5
    obtain ⟨h5, hwr⟩ := roll_img g F (init ++ [t]) e5 he5
    refine ⟨init ++ [t], buf, false, ⟨?_, hfullcs, hoff.symm, hoff ▸ hbl, ?_, hcur.trans hnum⟩,
      by rw [List.flatten_concat], ?_, ?_, fun _ => rfl⟩
    · have hs : applyOsOps D (directOps [.flush, .fsyncFile l.cur, .fsyncDir]) = D := rfl
      rw [hes, directOps_append, applyOsOps_append, hs, hoff, directOps_cons, directOps_cons, applyOsOps_append,
        applyOsOps_append, hi4, h5, hnum]
      exact (hwr buf).trans (List.append_nil _).symm
    · rw [hfiles, List.length_append]; rfl
    · rw [hcur, h.P_length, hfull, h.cur, ← Nat.succ_mul, Nat.mul_div_cancel _ (fileBytes_pos g)]; rfl
    · rw [hoff, ← adv_mod g l.off _ hnc, hfull, Nat.add_mod, fileBytes_mod, Nat.zero_add, Nat.mod_mod]

theorem writeBufs_cur_cons (g : Geom) (l : Log) (b : Bytes) (bs : List Bytes) {F : Nat} {P P1 : Bytes}
    (hp1 : P1 = P ++ b) (hcur1 : (writeBuf g l b).1.cur = F + P.length / g.fileBytes)
    (hcur2 : bs ≠ [] → (writeBufs g (writeBuf g l b).1 bs).1.cur =
      F + (P1.length + totalLen bs.dropLast) / g.fileBytes) :
    (writeBufs g l (b :: bs)).1.cur = F + (P.length + totalLen (b :: bs).dropLast) / g.fileBytes := by
  rw [Step.writeBufs_cons]
  cases bs with
  | nil =>
    simp only [writeBufs, List.dropLast_singleton, totalLen_nil, Nat.add_zero]
    exact hcur1
  | cons b2 bs2 =>
    simp only
    rw [hcur2 (List.cons_ne_nil _ _), hp1, List.dropLast_cons_cons, totalLen_cons, List.length_append, Nat.add_assoc]

theorem writeBufs_tapeX (g : Geom) (bufs : List Bytes) : ∀ {l : Log} {D : Image} {F : Nat}
    {init : List Bytes} {t : Bytes} {x : Bool}, TapeX g l D F init t x → NoCross g (l.off % g.B) bufs →
    ∃ init' t' x', TapeX g (writeBufs g l bufs).1 (applyOsOps D (directOps (writeBufs g l bufs).2)) F init' t' x' ∧
      init'.flatten ++ t' = init.flatten ++ t ++ bufs.flatten ∧
      (bufs ≠ [] → (writeBufs g l bufs).1.cur =
        F + ((init.flatten ++ t).length + totalLen bufs.dropLast) / g.fileBytes) ∧ (x = false → x' = false) := by
  induction bufs with
  | nil =>
    intro l D F init t x h _
    exact ⟨init, t, x, h, (List.append_nil _).symm, fun h => absurd rfl h, id⟩
  | cons b bs ih =>
    intro l D F init t x h hnc
    obtain ⟨h1, h2, h3⟩ := hnc
    obtain ⟨i1, t1, x1, ht1, hp1, hcur1, hc1, hx1⟩ :=
      writeBuf_tapeR g (TapeR.of_tapeX h) b (List.ne_nil_of_length_pos h1) h2 (Nat.zero_le _)
    rw [← hc1] at h3
    obtain ⟨i2, t2, x2, ht2, hp2, hcur2, hx2⟩ := ih ht1 h3
    refine ⟨i2, t2, x2, ?_, ?_, fun _ => writeBufs_cur_cons g l b bs hp1 hcur1 hcur2, fun hx => hx2 (hx1 hx)⟩
    · rw [Step.writeBufs_cons]
      simp only [directOps_append, applyOsOps_append]
      exact ht2
    · rw [hp2, hp1]; simp only [List.append_assoc, List.flatten_cons]

theorem writeBufs_tapeR (g : Geom) (bufs : List Bytes) {l : Log} {D : Image} {F : Nat}
    {init : List Bytes} {t : Bytes} {x : Bool} {res : Bytes} (h : TapeR g l D F init t x res)
    (hnc : NoCross g (l.off % g.B) bufs) (hres : ∀ b bs, bufs = b :: bs → res.length ≤ b.length) :
    ∃ init' t' x' res', TapeR g (writeBufs g l bufs).1 (applyOsOps D (directOps (writeBufs g l bufs).2)) F
        init' t' x' res' ∧
      init'.flatten ++ t' = init.flatten ++ t ++ bufs.flatten ∧
      (bufs ≠ [] → res' = []) ∧
      (bufs ≠ [] → (writeBufs g l bufs).1.cur =
        F + ((init.flatten ++ t).length + totalLen bufs.dropLast) / g.fileBytes) ∧ (x = false → x' = false) := by
  cases bufs with
  | nil =>
    exact ⟨init, t, x, res, h, (List.append_nil _).symm,
      fun h => absurd rfl h, fun h => absurd rfl h, id⟩
  | cons b bs =>
    obtain ⟨h1, h2, h3⟩ := hnc
    have hne : b ≠ [] := List.ne_nil_of_length_pos h1
    obtain ⟨i1, t1, x1, ht1, hp1, hcur1, hc1, hx1⟩ := writeBuf_tapeR g h b hne h2 (hres b bs rfl)
    rw [← hc1] at h3
    obtain ⟨i2, t2, x2, ht2, hp2, hcur2, hx2⟩ := writeBufs_tapeX g bs ht1 h3
    refine ⟨i2, t2, x2, [], ?_, ?_, fun _ => rfl, ?_, fun hx => hx2 (hx1 hx)⟩
    · rw [Step.writeBufs_cons]
      simp only [directOps_append, applyOsOps_append]
      exact TapeR.of_tapeX ht2
    · rw [hp2, hp1]; simp only [List.append_assoc, List.flatten_cons]
    · exact fun _ => writeBufs_cur_cons g l b bs hp1 hcur1 hcur2


/-- the file of the next entry's first header, from the length of the tape -/
theorem nextLoc_tagR (g : Geom) {l : Log} {D : Image} {F : Nat} {init : List Bytes} {t : Bytes} {x : Bool}
    {res : Bytes} (h : TapeR g l D F init t x res) :
    l.nextLoc g = F + hdrPos g (init.length * g.fileBytes + l.off) / g.fileBytes := by
  have hfb := fileBytes_pos g
  have hroll := h.rollTarget
  -- the padded offset stays inside the file: the file ends at a block end
  have hle : hdrPos g l.off ≤ g.fileBytes := by
    rcases Nat.lt_or_ge l.off g.fileBytes with hlt | hge
    · exact hdrPos_le_block g _ _ (fileBytes_mod g) hlt
    · have hB := seven_lt_B g
      rw [Nat.le_antisymm h.off_le hge]; unfold hdrPos
      rw [fileBytes_mod, if_neg (by omega)]; exact Nat.le_refl _
  rw [nextLoc_eq, hroll, h.cur, show off1 g l = hdrPos g l.off from rfl, Nat.add_comm (init.length * _),
    hdrPos_shift g _ _ (mul_fileBytes_mod g _), Nat.add_mul_div_right _ _ hfb]
  by_cases he : hdrPos g l.off ≥ g.fileBytes
  · rw [if_pos he, Nat.le_antisymm hle he, Nat.div_self hfb, Nat.add_comm 1, Nat.add_assoc]
  · rw [if_neg he, Nat.div_eq_of_lt (Nat.lt_of_not_le he), Nat.zero_add]

end MRL.L
