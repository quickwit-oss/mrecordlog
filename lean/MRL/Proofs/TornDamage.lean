/-
Damage confined to the checksum and payload bytes of one frame (C09), the parts that do not
involve the reader: reassembly when that frame is reported corrupt loses exactly the entry it
belongs to; the damaged stream is the tape of the frames with one junk slot of the size of the
damaged frame.
-/
import MRL.Proofs.TornRead

namespace MRL.Torn
open Codec G L

theorem asm_skip_tail (f : Nat) (gs : List Frm) (st : AsmSt) (evs : List RdEv)
    (h : ∀ a ∈ gs, a.1.isFirst = false) (hw : st.within = false) :
    assemble st (tagF f gs ++ evs) = assemble st evs := by
  refine assemble_skip_all st hw _ evs fun ev hev => ?_
  obtain ⟨fr, hfr, rfl⟩ := List.mem_map.mp hev
  exact ⟨f, fr.1, fr.2, rfl, h fr hfr⟩

theorem asm_damaged (f : Nat) (esa : List Bytes) (G gp1 gs' rest : List Frm) (x : Frm) (esr : List Bytes)
    (hG : EntriesFrames esa G) (hE : EntryFrames true (gp1 ++ x :: gs')) (hR : EntriesFrames esr rest) :
    entriesOf (assemble (st0 f) (tagF f (G ++ gp1) ++ RdEv.corrupt f :: tagF f (gs' ++ rest))) =
      (esa ++ esr).map (RecEv.entry f) := by
  rw [tagF_append, List.append_assoc]
  obtain ⟨st1, hs1, he1⟩ := asm_groups f hG (st0 f) (tagF f gp1 ++ RdEv.corrupt f :: tagF f (gs' ++ rest)) rfl
  rw [he1]
  obtain ⟨st2, hs2, he2⟩ := asm_partial f gp1 true (x :: gs') st1 (RdEv.corrupt f :: tagF f (gs' ++ rest))
    (by simp) hE (Or.inl rfl) hs1
  rw [he2]
  have hc : assemble st2 (RdEv.corrupt f :: tagF f (gs' ++ rest)) =
      RecEv.corrupt :: assemble { within := false, buf := st2.buf, attr := f } (tagF f (gs' ++ rest)) := rfl
  rw [hc, tagF_append]
  rw [asm_skip_tail f gs' _ _ (entryFrames_after gp1 true x gs' hE) rfl]
  obtain ⟨st3, _, he3⟩ := asm_groups f hR { within := false, buf := st2.buf, attr := f } [] rfl
  rw [List.append_nil] at he3
  rw [he3]
  rw [entriesOf_append, entriesOf_cons_corrupt, entriesOf_append, entriesOf_entries, entriesOf_entries, List.map_append]
  simp [assemble, entriesOf]

theorem Fits_len_congr (g : Geom) (fs1 : List Frm) (t : FrameType) (p p' : Bytes) (fs2 : List Frm)
    (hp : p'.length = p.length) (c : Nat) (h : Fits g c (fs1 ++ (t, p) :: fs2)) :
    Fits g c (fs1 ++ (t, p') :: fs2) := by
  rw [Fits_append] at h ⊢
  refine ⟨h.1, ?_⟩
  have h2 := h.2
  simp only [Fits] at h2 ⊢
  rw [hp]; exact h2

theorem rawLayout_damaged (g : Geom) (c : Nat) (fs1 : List Frm) (p : Bytes) (fs2 : List Frm)
    (x : Raw) (hp : x.2.2.length = p.length) :
    rawLayout g c (fs1.map good ++ x :: fs2.map good) =
      layoutBufs g c fs1 ++ (rawWrites g (endCursor g c fs1) x ++
        layoutBufs g (frameEndCursor g (endCursor g c fs1) p.length) fs2) := by
  rw [rawLayout_append, endCursorRaw_good, rawLayout_good]
  simp only [rawLayout, hp, rawLayout_good]

theorem layout_split (g : Geom) (c : Nat) (fs1 : List Frm) (t : FrameType) (p : Bytes) (fs2 : List Frm) :
    layoutBufs g c (fs1 ++ (t, p) :: fs2) =
      layoutBufs g c fs1 ++ (frameWrites g (endCursor g c fs1) t p ++
        layoutBufs g (frameEndCursor g (endCursor g c fs1) p.length) fs2) := by
  rw [layoutBufs_append]; rfl

theorem damaged_tape (g : Geom) (c file : Nat) (hc : c < g.B) (fs1 : List Frm) (t : FrameType) (p : Bytes)
    (fs2 : List Frm) (crc' p' : Bytes) (h4 : crc'.length = 4) (hp : p'.length = p.length)
    (hdet : frameCrc t p' ≠ leNat crc') (hF : Fits g c (fs1 ++ (t, p) :: fs2)) :
    ∃ A : List AItm,
      (rawLayout g c (fs1.map good ++ (crc', t, p') :: fs2.map good)).flatten = flatJ g c A ∧
      Fits g c (frs A) ∧ (∀ a ∈ tfs A, a.1 = file) ∧ (∀ L, JOK g L c A) ∧
      evsJ A = tagF file fs1 ++ RdEv.corrupt file :: tagF file fs2 ∧
      endPos g c (frs A) = c + totalLen (layoutBufs g c (fs1 ++ (t, p) :: fs2)) := by
  have hfrs : frs (plain (tagC file fs1) ++ ((file, (t, p')), some (Raw.bytes (crc', t, p'))) :: plain (tagC file fs2)) =
      fs1 ++ (t, p') :: fs2 := by
    rw [frs_append, frs_tagC, frs_cons, frs_tagC]
  have hF' := Fits_len_congr g fs1 t p p' fs2 hp c hF
  refine ⟨plain (tagC file fs1) ++ ((file, (t, p')), some (Raw.bytes (crc', t, p'))) :: plain (tagC file fs2),
    ?_, by rw [hfrs]; exact hF', ?_, ?_, ?_, ?_⟩
  · rw [rawLayout_append, endCursorRaw_good, rawLayout_good, flatJ_append, flatJ_plain, untag_tagC, frs_tagC]
    simp only [rawLayout, List.flatten_append, rawWrites_flatten, rawLayout_good, flatJ, flatJ_plain, untag_tagC,
      slot, Option.getD_some, List.append_assoc]
  · intro a ha
    rw [tfs_append, tfs_cons, tfs_plain, tfs_plain] at ha
    rcases List.mem_append.mp ha with h | h
    · exact tagC_tag h
    · rcases List.mem_cons.mp h with rfl | h
      · rfl
      · exact tagC_tag h
  · intro L
    rw [JOK_append]
    exact ⟨JOK_plain g L _ c, fun r hr => Or.inl ⟨crc', h4, (Option.some.inj hr).symm, by simp [Raw.ev, hdet]⟩,
      JOK_plain g L _ _⟩
  · rw [evsJ_append, evsJ_tagC, evsJ_cons, evsJ_tagC]; rfl
  · have e1 := totalLen_layout_pos g _ c (by rw [Nat.mod_eq_of_lt hc]; exact hF)
    rw [Nat.mod_eq_of_lt hc] at e1
    rw [hfrs, e1]
    simp only [endPos_append, endPos, hp]

end MRL.Torn
