/-
Entry (de)serialisation (C07): `Entry.decode` on what `encodeRaw` and `encodeRecs` produce, tag
by tag; `C07.decode_encode` puts the cases together.
-/
import MRL.Proofs.CodecBytes
import MRL.Model.Entry

namespace MRL.Codec
open Consts Entry

theorem drop1 (a : UInt8) (l : Bytes) : (a :: l).drop 1 = l := rfl

theorem decodeRecs_nil : decodeRecs [] = some [] := by
  rw [decodeRecs]; simp

theorem decodeRecs_cons (p : Nat) (pl rest : Bytes) (hp : p < 2 ^ 64) (hl : pl.length < 2 ^ 32) :
    decodeRecs (leBytes p 8 ++ (leBytes pl.length 4 ++ (pl ++ rest))) =
      (decodeRecs rest).map fun rs => (p, pl) :: rs := by
  rw [decodeRecs]
  have h8 := length_leBytes p 8
  have h4 := length_leBytes pl.length 4
  have hne : (leBytes p 8 ++ (leBytes pl.length 4 ++ (pl ++ rest))).isEmpty = false := by
    cases h : leBytes p 8 with
    | nil => rw [h] at h8; simp at h8
    | cons a b => rfl
  have hlen : ¬ ((leBytes p 8 ++ (leBytes pl.length 4 ++ (pl ++ rest))).length < REC_HEADER_LEN) := by
    rw [Nat.not_lt, List.length_append, List.length_append, h8, h4, ← Nat.add_assoc]
    exact Nat.le_add_right (8 + 4) _
  have hdrop : (leBytes p 8 ++ (leBytes pl.length 4 ++ (pl ++ rest))).drop REC_HEADER_LEN = pl ++ rest := by
    have : REC_HEADER_LEN = 8 + 4 := rfl
    rw [this, ← List.drop_drop, List.drop_left' h8, List.drop_left' h4]
  have hl2 : ¬ ((pl ++ rest).length < pl.length) := by
    rw [Nat.not_lt, List.length_append]; exact Nat.le_add_right _ _
  simp only [hne, hlen, hdrop, hl2, Bool.false_eq_true, if_false, List.take_left' h8, List.drop_left' h8, List.take_left' h4,
    leNat_leBytes8 _ hp, leNat_leBytes4 _ hl, List.take_left' rfl, List.drop_left' rfl]

theorem decodeRecs_encodeRecs (recs : List (Nat × Bytes))
    (h : ∀ r ∈ recs, r.1 < 2 ^ 64 ∧ r.2.length < 2 ^ 32) :
    decodeRecs (encodeRecs recs) = some recs := by
  induction recs with
  | nil => exact decodeRecs_nil
  | cons r rs ih =>
    obtain ⟨p, pl⟩ := r
    have h1 := h (p, pl) (by simp)
    have ih' := ih (fun r hr => h r (by simp [hr]))
    simp only [encodeRecs, List.append_assoc]
    rw [decodeRecs_cons p pl _ h1.1 h1.2, ih']
    rfl

theorem decode_encodeRaw (tag pos : Nat) (q body : Bytes)
    (ht : tag = TAG_TRUNCATE ∨ tag = TAG_TOUCH ∨ tag = TAG_DELETE ∨ tag = TAG_APPEND)
    (hpos : pos < 2 ^ 64) (hq : q.length < 65536) (hu : utf8Valid q = true) :
    Entry.decode (encodeRaw tag pos q body) =
      if tag = TAG_APPEND then (decodeRecs body).map fun recs => Entry.append q pos recs
      else if tag = TAG_TRUNCATE then some (Entry.truncate q pos)
      else if tag = TAG_TOUCH then some (Entry.touch q pos)
      else some (Entry.delete q pos) := by
  have h8 := length_leBytes pos 8
  have h2 := length_leBytes q.length 2
  have htag : ((encodeRaw tag pos q body).getD 0 0).toNat = tag := by
    rcases ht with h | h | h | h <;> subst h <;> rfl
  have hshape : encodeRaw tag pos q body =
      tag.toUInt8 :: (leBytes pos 8 ++ (leBytes q.length 2 ++ (q ++ body))) := by
    simp [encodeRaw, List.append_assoc]
  have h1 : ((encodeRaw tag pos q body).drop 1).take 8 = leBytes pos 8 := by
    rw [hshape, drop1, List.take_left' h8]
  have h9 : ((encodeRaw tag pos q body).drop 9).take 2 = leBytes q.length 2 := by
    have : 9 = 1 + 8 := rfl
    rw [hshape, this, ← List.drop_drop, drop1, List.drop_left' h8,
      List.take_left' h2]
  have h11 : (encodeRaw tag pos q body).drop ENTRY_HEADER_LEN = q ++ body := by
    have : ENTRY_HEADER_LEN = 1 + (8 + 2) := rfl
    rw [hshape, this, ← List.drop_drop, drop1, ← List.drop_drop,
      List.drop_left' h8,
      List.drop_left' h2]
  have hlen : ¬ ((encodeRaw tag pos q body).length < ENTRY_HEADER_LEN) := by
    simp only [hshape, ENTRY_HEADER_LEN, List.length_cons, List.length_append, h8, h2]; omega
  have htags : ¬ (tag ≠ TAG_TRUNCATE ∧ tag ≠ TAG_TOUCH ∧ tag ≠ TAG_DELETE ∧ tag ≠ TAG_APPEND) :=
    fun ⟨a, b, c, d⟩ => ht.elim a fun ht => ht.elim b fun ht => ht.elim c d
  have hl2 : ¬ ((q ++ body).length < q.length) := by
    rw [Nat.not_lt, List.length_append]; exact Nat.le_add_right _ _
  unfold Entry.decode
  simp only [hl2, hlen, if_false, htag, h1, h9, h11, htags, leNat_leBytes8 _ hpos, leNat_leBytes2 _ hq,
    List.take_left' rfl, List.drop_left' rfl, hu]
  simp

end MRL.Codec
