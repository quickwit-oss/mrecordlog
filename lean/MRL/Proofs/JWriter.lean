/-
The rolling writer as seen by the journal: tracked files stay strictly ascending and contain the
current file, files are only added at the end, the current file number only grows, and after an
entry has been written the writer stands at or beyond the file where the entry started
(`nextLoc`).
-/
import MRL.Proofs.StepLemmas

namespace MRL
namespace Log

structure FilesWF (l : Log) : Prop where
  sorted : l.files.Pairwise (· < ·)
  cur_mem : l.cur ∈ l.files

theorem rollTarget_gt (l : Log) : l.cur < l.rollTarget := by
  unfold rollTarget
  split
  · rename_i nf h; exact (nextFile_some h).2
  · omega

/-- offset of the next frame header (after the padding, if any) -/
def off1 (g : Geom) (l : Log) : Nat :=
  if g.B - l.off % g.B < Consts.HEADER_LEN then l.off + (g.B - l.off % g.B) else l.off

theorem nextLoc_eq (g : Geom) (l : Log) :
    l.nextLoc g = if off1 g l ≥ g.fileBytes then l.rollTarget else l.cur := rfl

theorem nextLoc_ge (g : Geom) (l : Log) : l.cur ≤ l.nextLoc g := by
  rw [nextLoc_eq]
  split
  · exact Nat.le_of_lt (rollTarget_gt l)
  · exact Nat.le_refl _

structure Grow (l l' : Log) : Prop where
  wf : FilesWF l'
  cur_le : l.cur ≤ l'.cur
  ext : ∃ e, l'.files = l.files ++ e
  queues : l'.queues = l.queues

theorem Grow.refl {l : Log} (h : FilesWF l) : Grow l l := ⟨h, Nat.le_refl _, ⟨[], by simp⟩, rfl⟩

theorem Grow.trans {a b c : Log} (h1 : Grow a b) (h2 : Grow b c) : Grow a c := by
  obtain ⟨e1, he1⟩ := h1.ext
  obtain ⟨e2, he2⟩ := h2.ext
  exact ⟨h2.wf, Nat.le_trans h1.cur_le h2.cur_le, ⟨e1 ++ e2, by rw [he2, he1, List.append_assoc]⟩,
    by rw [h2.queues, h1.queues]⟩

theorem writeBuf_roll_cur (g : Geom) (l : Log) (buf : Bytes) (hne : buf ≠ [])
    (h : l.off + buf.length > g.fileBytes) : (writeBuf g l buf).1.cur = l.rollTarget := by
  have he : buf.isEmpty = false := by cases buf <;> simp_all
  unfold writeBuf rollTarget
  simp only [he, Bool.false_eq_true, if_false, h, if_true]
  cases nextFile l.files l.cur <;> rfl

theorem FilesWF.rollNew {l : Log} (h : FilesWF l) (hn : nextFile l.files l.cur = none) (o : Nat) :
    FilesWF { l with files := l.files ++ [l.cur + 1], cur := l.cur + 1, off := o } :=
  ⟨List.pairwise_append.mpr ⟨h.sorted, List.pairwise_singleton _ _, fun a ha b hb => by
      rw [List.mem_singleton.mp hb]; exact Nat.lt_succ_of_le (nextFile_none hn a ha)⟩,
    List.mem_append_right _ (List.mem_singleton.mpr rfl)⟩

theorem along_grow (g : Geom) : Step.Along g fun l _ _ l' => FilesWF l → Grow l l' :=
  .of_shapes (fun _ h => Grow.refl h) (fun h1 h2 h => (h1 h).trans (h2 (h1 h).wf))
    (fun _ _ _ _ h => ⟨⟨h.sorted, h.cur_mem⟩, Nat.le_refl _, ⟨[], (List.append_nil _).symm⟩, rfl⟩)
    (fun _ _ _ _ hn h =>
      ⟨⟨h.sorted, (nextFile_some hn).1⟩, Nat.le_of_lt (nextFile_some hn).2, ⟨[], (List.append_nil _).symm⟩, rfl⟩)
    (fun l _ _ hn h => ⟨h.rollNew hn _, Nat.le_succ _, ⟨[l.cur + 1], rfl⟩, rfl⟩)

theorem writeBuf_grow (g : Geom) (l : Log) (buf : Bytes) (h : FilesWF l) : Grow l (writeBuf g l buf).1 :=
  (along_grow g).buf l buf h

theorem writeBufs_append (g : Geom) (a b : List Bytes) : ∀ l : Log,
    (writeBufs g l (a ++ b)).1 = (writeBufs g (writeBufs g l a).1 b).1 := by
  induction a with
  | nil => intro l; rfl
  | cons x xs ih => intro l; rw [List.cons_append, Step.writeBufs_cons, Step.writeBufs_cons]; exact ih _

theorem writeBufs_grow (g : Geom) (bufs : List Bytes) (l : Log) (h : FilesWF l) :
    Grow l (writeBufs g l bufs).1 :=
  (along_grow g).writeBufs bufs l h

theorem writeEntry_grow (g : Geom) (l : Log) (e : Entry) (h : FilesWF l) :
    Grow l (writeEntry g l e).1 :=
  (along_grow g).writeEntry l e h

theorem writeEntryBufs_head (g : Geom) (c : Nat) (b : Bool) (payload : Bytes) (hc : c < g.B) :
    ∃ t p rest, writeEntryBufs g c b payload hc = frameWrites g c t p ++ rest := by
  rw [writeEntryBufs]
  split
  · exact ⟨_, _, [], (List.append_nil _).symm⟩
  · exact ⟨_, _, _, rfl⟩

theorem rollTarget_congr {l l' : Log} (hf : l'.files = l.files) (hc : l'.cur = l.cur) :
    l'.rollTarget = l.rollTarget := by
  unfold rollTarget; rw [hf, hc]

/-- when `nextLoc` is the roll target (`off1 ≥ fileBytes`), the first buffer written, padding or first
    frame, is the one that overflows the file and rolls; the rest only moves the writer forward -/
theorem writeEntry_cur_ge_nextLoc (g : Geom) (l : Log) (e : Entry) (h : FilesWF l) :
    l.nextLoc g ≤ (writeEntry g l e).1.cur := by
  have hmono := (writeEntry_grow g l e h).cur_le
  rw [nextLoc_eq]
  by_cases hoff : off1 g l ≥ g.fileBytes
  case neg => simp only [hoff, if_false]; exact hmono
  simp only [hoff, if_true]
  unfold off1 at hoff
  rw [Step.writeEntry_eq]
  show l.rollTarget ≤ (writeBufs g l (Step.entryBufs g l e)).1.cur
  unfold Step.entryBufs
  have hc : l.off % g.B < g.B := Nat.mod_lt _ (Torn.Bpos g)
  obtain ⟨t, p, rest, hbufs⟩ := writeEntryBufs_head g (l.off % g.B) true e.encode hc
  unfold MRL.writeEntry
  rw [hbufs, writeBufs_append]
  suffices hs : l.rollTarget ≤ (writeBufs g l (frameWrites g (l.off % g.B) t p)).1.cur ∧
      FilesWF (writeBufs g l (frameWrites g (l.off % g.B) t p)).1 from
    Nat.le_trans hs.1 (writeBufs_grow g rest _ hs.2).cur_le
  refine ⟨?_, (writeBufs_grow g _ l h).wf⟩
  have hfr := Step.encodeFrame_ne_nil t p
  have hfl : 0 < (encodeFrame t p).length := List.length_pos_iff.mpr hfr
  unfold frameWrites
  split
  · rename_i hpad
    simp only [hpad, if_true] at hoff
    have hzl : (zeros (g.B - l.off % g.B)).length = g.B - l.off % g.B := by simp [zeros]
    have hz : zeros (g.B - l.off % g.B) ≠ [] := fun hz =>
      Nat.sub_ne_zero_of_lt hc (by rw [← hzl, hz]; rfl)
    rw [← hzl] at hoff
    simp only [Step.writeBufs_cons, Step.writeBufs_nil]
    by_cases hr : l.off + (zeros (g.B - l.off % g.B)).length > g.fileBytes
    · rw [← writeBuf_roll_cur g l _ hz hr]
      exact (writeBuf_grow g _ (encodeFrame t p) (writeBuf_grow g l _ h).wf).cur_le
    · rw [Step.writeBuf_noroll g l _ hz hr]
      have hroll : ({ l with off := l.off + (zeros (g.B - l.off % g.B)).length } : Log).off +
          (encodeFrame t p).length > g.fileBytes := Nat.lt_of_le_of_lt hoff (Nat.lt_add_of_pos_right hfl)
      rw [writeBuf_roll_cur g _ _ hfr hroll]
      exact Nat.le_of_eq (rollTarget_congr rfl rfl).symm
  · rename_i hpad
    simp only [hpad, if_false] at hoff
    simp only [Step.writeBufs_cons, Step.writeBufs_nil]
    rw [writeBuf_roll_cur g l _ hfr (Nat.lt_of_le_of_lt hoff (Nat.lt_add_of_pos_right hfl))]
    exact Nat.le_refl _

/-- the position written by the GC for queue `name`: `Step.touchEntry l name` is
    `.touch name (touchNext l name)`, by `rfl` -/
def touchNext (l : Log) (name : Bytes) : Nat :=
  match l.queues.get? name with
  | some q => q.nextPosition
  | none => 0

theorem touchesJ_cons (g : Geom) (l : Log) (name : Bytes) (rest : List Bytes) :
    touchesJ g l (name :: rest) =
      l.je g (.touch name (touchNext l name)) ::
        touchesJ g (writeEntry g l (.touch name (touchNext l name))).1 rest := rfl

theorem touchesJ_take (g : Geom) (names : List Bytes) : ∀ (l : Log) (i : Nat),
    (touchesJ g l names).take i = touchesJ g l (names.take i) := by
  induction names with
  | nil => intro l i; simp [touchesJ]
  | cons n ns ih =>
    intro l i
    cases i with
    | zero => simp [touchesJ]
    | succ i => rw [touchesJ_cons, List.take_succ_cons, List.take_succ_cons, touchesJ_cons, ih]

theorem writeTouches_grow (g : Geom) (names : List Bytes) (l : Log) (h : FilesWF l) :
    Grow l (writeTouches g l names).1 :=
  (along_grow g).writeTouches names l h

theorem gcFiles_spec (canDel : Nat → Bool) : ∀ (fs r d : List Nat), gcFiles canDel fs = (r, d) →
    fs = d ++ r ∧ (∀ f ∈ d, canDel f = true) ∧
    ∀ f r', r = f :: r' → canDel f = false ∨ r' = [] := by
  intro fs r d h
  have h1 := Step.gcFiles_split canDel fs
  have h2 := Step.gcFiles_deleted canDel fs
  have h4 := Step.gcFiles_head canDel fs
  rw [h] at h1 h2 h4
  refine ⟨h1.symm, h2, fun f r' hr => ?_⟩
  subst hr
  exact (h4 f rfl).symm.imp_right fun h => (List.cons.inj h).2

end Log
end MRL
