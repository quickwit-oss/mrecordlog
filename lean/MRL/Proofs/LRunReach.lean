/-
The hidden journal of every crash-reachable state: every `C02W.ReachXW g cap l img b W` state (= every
`C02U.ReachX` state) has a journal `J` with `CInvX g l J (flushDisk img b)`, all entries serialisable and
in `W`, that replays as the API wrote it (`LR.RunOK J l.queues`). Both facts are carried by the crash
analysis (`L.Carry`): at a restart or crash-recovery the new journal is the retained part of the old one
(plus, at a crash, a prefix of what the interrupted call appended), re-attributed.
-/
import MRL.Proofs.LRunOK
import MRL.Proofs.LProvReach

namespace MRL.LR
open Log C05 C01J H L LP Buf Codec Drop C02W

/-- `L.XInvRes` with the provenance predicate and the replay discipline of the journal read back -/
def XInvResR (g : Geom) (P : Entry → Prop) (qsBefore qsAfter : MemQueues) (X : Image) : Prop :=
  ∀ policy, ∃ (J' : List JE) (lp : Log) (io F' : Nat),
    recoverPre g X policy none = .ok (lp, [.ensureLen F' g.fileBytes], io) ∧ lp.files.headD 0 = F' ∧
    CInvX g lp J' X ∧ ((∀ j ∈ J', WFP P j.e) ∧ RunOK J' lp.queues) ∧ lp.policy = policy ∧
    (AbsEq lp.queues qsBefore ∨ AbsEq lp.queues qsAfter)

theorem XInvResR.toX {g : Geom} {P : Entry → Prop} {qB qA : MemQueues} {X : Image} (h : XInvResR g P qB qA X) :
    XInvRes g qB qA X :=
  XInvResQ.mono (Q := fun J q => (∀ j ∈ J, WFP P j.e) ∧ RunOK J q) h fun _ _ hw j hj => (hw.1 j hj).1

theorem carry (P : Entry → Prop) : Carry (WFP P) (fun J q => (∀ j ∈ J, WFP P j.e) ∧ RunOK J q) where
  wf h j hj := (h.1 j hj).1
  retain F h hmono hrel he :=
    ⟨(LP.carry P).retain F h.1 hmono hrel he, (h.2.retained F hmono hrel).congr he⟩
  append h hq hr hn := ⟨(LP.carry P).append h.1 hq hr hn, h.2.append hq hr⟩

theorem _root_.MRL.L.XRInvQ.weaken {g : Geom} {cap : Nat} {P P' : Entry → Prop} {l : Log} {img : Image} {b : BufSt}
    (h : XRInvQ g cap (fun J q => (∀ j ∈ J, WFP P j.e) ∧ RunOK J q) l img b) (hP : ∀ e, P e → P' e) :
    XRInvQ g cap (fun J q => (∀ j ∈ J, WFP P' j.e) ∧ RunOK J q) l img b :=
  h.mono fun _ _ hq => ⟨fun j hj => ⟨(hq.1 j hj).1, hP _ (hq.1 j hj).2⟩, hq.2⟩

theorem reachXR_inv (g : Geom) (hB : g.B ≤ 65542) (cap : Nat) {l : Log} {img : Image} {b : BufSt}
    {W : List Entry} (h : ReachXW g cap l img b W) :
    XRInvQ g cap (fun J q => (∀ j ∈ J, WFP (fun e => e ∈ W) j.e) ∧ RunOK J q) l img b := by
  induction h with
  | base hr hwf =>
    have := C01R.reach_rinv g hB cap hr hwf
    obtain ⟨Lf, hrun, heq, hwf'⟩ := Drop.reachD_run g hB cap hr hwf
    exact ⟨⟨_, CInvX.of_cinv this.c, fun j hj => ⟨hwf j hj, mem_ents hj⟩,
      ⟨[], Lf, QsWF.nil, hrun, hwf', AbsEq.of_qsEquiv heq⟩⟩, this.buf⟩
  | step c tick order _ hwf ih =>
    exact (carry _).inv_step g cap (ih.weaken fun e he => List.mem_append_left _ he) c tick order
      fun j hj => ⟨hwf j hj, List.mem_append_right _ (mem_ents hj)⟩
  | @reopen l img b W policy order lp e0 io r _ hpre hrec hgw ih =>
    have cW := carry fun e => e ∈ W ++ ents (lp.gcJ g order)
    exact (cW.inv_of_xinvres g cap (cW.stop g cap hB (ih.weaken fun e he => List.mem_append_left _ he) .clean)
      policy order lp e0 io r hpre hrec fun j hj => ⟨hgw j hj, List.mem_append_right _ (mem_ents hj)⟩).1
  | @crash l img b W c tick order k cut X policy' order' lp e0 io r _ hb hwf htorn hXeq hpre hrec hgw ih =>
    subst hXeq
    have cW := carry fun e => e ∈ W ++ ents (l.stepJ g c order) ++ ents (lp.gcJ g order')
    have hres := cW.stop g cap hB (ih.weaken fun e he => List.mem_append_left _ (List.mem_append_left _ he))
      (.call c tick order k cut hb
        (fun j hj => ⟨hwf j hj, List.mem_append_left _ (List.mem_append_right _ (mem_ents hj))⟩) htorn)
    exact (cW.inv_of_xinvres g cap hres policy' order' lp e0 io r hpre hrec
      fun j hj => ⟨hgw j hj, List.mem_append_right _ (mem_ents hj)⟩).1
  | @crash2 l img b W policy order lp0 e00 io0 r0 k cut X policy' order' lp e0 io r _ hpre0 hrec0 hgw0 htorn hXeq
      hpre hrec hgw ih =>
    subst hXeq
    have cW := carry fun e => e ∈ W ++ ents (lp0.gcJ g order) ++ ents (lp.gcJ g order')
    have hres := cW.stop g cap hB (ih.weaken fun e he => List.mem_append_left _ (List.mem_append_left _ he))
      (.opened policy order lp0 e00 io0 r0 k cut hpre0 hrec0
        (fun j hj => ⟨hgw0 j hj, List.mem_append_left _ (List.mem_append_right _ (mem_ents hj))⟩) htorn)
    exact (cW.inv_of_xinvres g cap hres policy' order' lp e0 io r hpre hrec
      fun j hj => ⟨hgw j hj, List.mem_append_right _ (mem_ents hj)⟩).1

theorem reachXR_journal (g : Geom) (hB : g.B ≤ 65542) (cap : Nat) {l : Log} {img : Image} {b : BufSt}
    {W : List Entry} (h : ReachXW g cap l img b W) :
    ∃ J, L.CInvX g l J (flushDisk img b) ∧ (∀ j ∈ J, C07.WF j.e) ∧ (∀ j ∈ J, j.e ∈ W) ∧ RunOK J l.queues := by
  obtain ⟨⟨J, hc, hw, hR⟩, _⟩ := reachXR_inv g hB cap h
  exact ⟨J, hc, fun j hj => (hw j hj).1, fun j hj => (hw j hj).2, hR⟩

end MRL.LR

namespace MRL.C02W

theorem reachXW_journal (g : Geom) (hB : g.B ≤ 65542) (cap : Nat) {l : Log} {img : Image} {b : BufSt}
    {W : List Entry} (h : ReachXW g cap l img b W) :
    ∃ J, L.CInvX g l J (flushDisk img b) ∧ (∀ j ∈ J, C07.WF j.e) ∧ ∀ j ∈ J, j.e ∈ W := by
  obtain ⟨J, hc, hw, hW, _⟩ := LR.reachXR_journal g hB cap h
  exact ⟨J, hc, hw, hW⟩

end MRL.C02W
