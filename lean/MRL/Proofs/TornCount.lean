/-
The entries before a position (C02, C09). The frames of a list of entries (`framesOf`) fall into one
group per entry; a prefix of the frames is the frames of the first `j` entries and a proper prefix of
the next group; the frame after it belongs to entry `j`. In bytes: `wholeCount … k`, the number of
entries written entirely within the first `k` bytes, is `j` when the cut falls inside that frame or
its padding.
-/
import MRL.Proofs.TornScan

namespace MRL.Torn
open Codec

/-- number of entries whose bytes lie entirely within the first `k` bytes the writer produced -/
def wholeCount (g : Geom) : (c : Nat) → (hc : c < g.B) → List Bytes → Nat → Nat
  | _, _, [], _ => 0
  | c, hc, e :: es, k =>
    if totalLen (writeEntry g c e hc) ≤ k then
      1 + wholeCount g (C07.cursorAfter g c (totalLen (writeEntry g c e hc))) (C07.cursorAfter_lt g _ _) es
            (k - totalLen (writeEntry g c e hc))
    else 0

/-- bytes of the first `m` entries -/
def prefixLen (g : Geom) (c : Nat) (hc : c < g.B) (es : List Bytes) (m : Nat) : Nat :=
  totalLen (C07.writeEntriesBufs g c hc (es.take m))

theorem prefixLen_zero (g : Geom) (c : Nat) (hc : c < g.B) (es : List Bytes) : prefixLen g c hc es 0 = 0 := by
  simp [prefixLen, C07.writeEntriesBufs]

theorem prefixLen_succ (g : Geom) (c : Nat) (hc : c < g.B) (e : Bytes) (es : List Bytes) (m : Nat) :
    prefixLen g c hc (e :: es) (m + 1) = totalLen (writeEntry g c e hc) +
      prefixLen g (C07.cursorAfter g c (totalLen (writeEntry g c e hc))) (C07.cursorAfter_lt g _ _) es m := by
  simp [prefixLen, C07.writeEntriesBufs, totalLen_append]

theorem wholeCount_eq (g : Geom) (es : List Bytes) : ∀ (c : Nat) (hc : c < g.B) (k m : Nat),
    m ≤ es.length → prefixLen g c hc es m ≤ k → (m < es.length → k < prefixLen g c hc es (m + 1)) →
    wholeCount g c hc es k = m := by
  induction es with
  | nil => intro c hc k m hm _ _; simp at hm; subst hm; rfl
  | cons e es ih =>
    intro c hc k m hm h1 h2
    cases m with
    | zero =>
      have := h2 (by simp)
      rw [prefixLen_succ, prefixLen_zero, Nat.add_zero] at this
      simp only [wholeCount]
      rw [if_neg (Nat.not_le.mpr this)]
    | succ m =>
      rw [prefixLen_succ] at h1
      have hTk := Nat.le_trans (Nat.le_add_right _ _) h1
      simp only [wholeCount]
      rw [if_pos hTk]
      have := ih (C07.cursorAfter g c (totalLen (writeEntry g c e hc))) (C07.cursorAfter_lt g c _)
        (k - totalLen (writeEntry g c e hc)) m
        (by simpa using hm) (Nat.le_sub_of_add_le' h1)
        (fun hlt => by
          have := h2 (by simpa using hlt)
          rw [prefixLen_succ] at this
          exact Nat.sub_lt_left_of_lt_add hTk this)
      rw [this, Nat.add_comm]

theorem framesOf_take_succ (g : Geom) (es : List Bytes) : ∀ (c : Nat) (hc : c < g.B) (j : Nat), j < es.length →
    ∃ grp, framesOf g c hc (es.take (j + 1)) = framesOf g c hc (es.take j) ++ grp ∧ EntryFrames true grp := by
  induction es with
  | nil => intro c hc j hj; simp at hj
  | cons e es ih =>
    intro c hc j hj
    cases j with
    | zero =>
      refine ⟨entryFrames g c e hc, ?_, (entryFrames_spec g c e hc).2.1⟩
      simp [framesOf]
    | succ j =>
      obtain ⟨grp, h1, h2⟩ := ih _ (C07.cursorAfter_lt g c (totalLen (writeEntry g c e hc))) j (by simpa using hj)
      refine ⟨grp, ?_, h2⟩
      simp only [List.take_succ_cons, framesOf]
      rw [h1, List.append_assoc]

theorem prefix_groups (g : Geom) (es : List Bytes) : ∀ (c : Nat) (hc : c < g.B) (fsR rest : List Frm),
    framesOf g c hc es = fsR ++ rest →
    ∃ j gp, fsR = framesOf g c hc (es.take j) ++ gp ∧
      (gp = [] ∨ (j < es.length ∧ ∃ gs, gs ≠ [] ∧ EntryFrames true (gp ++ gs) ∧
        framesOf g c hc (es.take (j + 1)) = framesOf g c hc (es.take j) ++ (gp ++ gs))) := by
  induction es with
  | nil =>
    intro c hc fsR rest h
    simp only [framesOf] at h
    have : fsR = [] := by
      cases fsR with
      | nil => rfl
      | cons a b => simp at h
    exact ⟨0, [], by simp [this, framesOf], Or.inl rfl⟩
  | cons e es ih =>
    intro c hc fsR rest h
    simp only [framesOf] at h
    rcases List.append_eq_append_iff.mp h with ⟨a', h1, h2⟩ | ⟨c', h1, h2⟩
    · -- fsR = entry frames ++ a'
      obtain ⟨j, gp, hR, hcase⟩ := ih _ (C07.cursorAfter_lt g c (totalLen (writeEntry g c e hc))) a' rest h2
      refine ⟨j + 1, gp, ?_, ?_⟩
      · rw [h1, hR]; simp only [List.take_succ_cons, framesOf, List.append_assoc]
      · rcases hcase with h | ⟨hlt, gs, hgs, hE, hF⟩
        · exact Or.inl h
        · refine Or.inr ⟨by simpa using hlt, gs, hgs, hE, ?_⟩
          simp only [List.take_succ_cons, framesOf]
          rw [hF, List.append_assoc]
    · -- fsR is a prefix of the entry's frames
      by_cases hc' : c' = []
      · subst hc'
        simp only [List.append_nil] at h1
        refine ⟨1, [], ?_, Or.inl rfl⟩
        simp [framesOf, h1]
      · refine ⟨0, fsR, by simp [framesOf], Or.inr ⟨by simp, c', hc', ?_, ?_⟩⟩
        · rw [← h1]; exact (entryFrames_spec g c e hc).2.1
        · simp [framesOf, h1]

theorem layout_length_append (g : Geom) (c : Nat) (a b : List Frm) :
    (layoutBufs g c (a ++ b)).flatten.length =
      (layoutBufs g c a).flatten.length + (layoutBufs g (endCursor g c a) b).flatten.length := by
  rw [layoutBufs_append]; simp

theorem layout_length_single (g : Geom) (c : Nat) (t : FrameType) (p : Bytes) :
    (layoutBufs g c [(t, p)]).flatten.length = padLen g c + 7 + p.length := by
  rw [layout_cons_flatten]; simp [layoutBufs, length_encodeFrame]; omega

theorem layout_length_prefix (g : Geom) (es : List Bytes) (c : Nat) (hc : c < g.B) (j : Nat) :
    (layoutBufs g c (framesOf g c hc (es.take j))).flatten.length = prefixLen g c hc es j := by
  unfold prefixLen
  rw [(framesOf_spec g (es.take j) c hc).1, totalLen_eq]

theorem framesOf_split (g : Geom) (es : List Bytes) : ∀ (c : Nat) (hc : c < g.B) (j : Nat),
    ∃ rest, framesOf g c hc es = framesOf g c hc (es.take j) ++ rest ∧ EntriesFrames (es.drop j) rest := by
  induction es with
  | nil => intro c hc j; rw [List.take_nil, List.drop_nil]; exact ⟨[], rfl, .nil⟩
  | cons e es ih =>
    intro c hc j
    cases j with
    | zero => exact ⟨framesOf g c hc (e :: es), rfl, (framesOf_spec g (e :: es) c hc).2.1⟩
    | succ j =>
      obtain ⟨rest, h, hE⟩ := ih _ (C07.cursorAfter_lt g c (totalLen (writeEntry g c e hc))) j
      refine ⟨rest, ?_, hE⟩
      simp only [List.take_succ_cons, framesOf]
      rw [List.append_assoc, ← h]

theorem next_frame (g : Geom) (es : List Bytes) (c : Nat) (hc : c < g.B) (fs1 : List Frm) (t : FrameType)
    (p : Bytes) (fs2 : List Frm) (h : framesOf g c hc es = fs1 ++ (t, p) :: fs2) :
    ∃ j1 gp1 gs', j1 < es.length ∧ fs1 = framesOf g c hc (es.take j1) ++ gp1 ∧
      EntryFrames true (gp1 ++ (t, p) :: gs') ∧
      framesOf g c hc (es.take (j1 + 1)) = framesOf g c hc (es.take j1) ++ (gp1 ++ (t, p) :: gs') := by
  obtain ⟨j, gp, hR, hcase⟩ := prefix_groups g es c hc fs1 ((t, p) :: fs2) h
  rcases hcase with hgp | ⟨hlt, gs, hgs, hE, hF⟩
  · subst hgp
    simp only [List.append_nil] at hR
    have hlt : j < es.length := by
      rcases Nat.lt_or_ge j es.length with h1 | h1
      · exact h1
      · exfalso
        rw [List.take_of_length_le h1] at hR
        rw [← hR] at h
        exact List.cons_ne_nil _ _ (List.self_eq_append_right.mp h)
    obtain ⟨grp, hs, hEg⟩ := framesOf_take_succ g es c hc j hlt
    obtain ⟨rest, hp, -⟩ := framesOf_split g es c hc (j + 1)
    rw [hs, h, hR, List.append_assoc] at hp
    have hp' := List.append_cancel_left hp
    cases grp with
    | nil => exact hEg.elim
    | cons a gs' =>
      simp only [List.cons_append, List.cons.injEq] at hp'
      obtain ⟨ha, _⟩ := hp'
      subst ha
      exact ⟨j, [], gs', hlt, by rw [List.append_nil]; exact hR, hEg, hs⟩
  · obtain ⟨rest, hp, -⟩ := framesOf_split g es c hc (j + 1)
    rw [hF, h, hR, List.append_assoc, List.append_assoc, List.append_assoc] at hp
    have hp' := List.append_cancel_left (List.append_cancel_left hp)
    cases gs with
    | nil => exact absurd rfl hgs
    | cons a gs' =>
      simp only [List.cons_append, List.cons.injEq] at hp'
      obtain ⟨ha, _⟩ := hp'
      subst ha
      exact ⟨j, gp, gs', hlt, hR, hE, hF⟩

theorem count_cut (g : Geom) (es : List Bytes) (c : Nat) (hc : c < g.B) (fs1 : List Frm) (t : FrameType)
    (p : Bytes) (j1 : Nat) (gp1 gs' : List Frm) (k : Nat) (hj : j1 < es.length)
    (h1 : fs1 = framesOf g c hc (es.take j1) ++ gp1)
    (h2 : framesOf g c hc (es.take (j1 + 1)) = framesOf g c hc (es.take j1) ++ (gp1 ++ (t, p) :: gs'))
    (hlo : (layoutBufs g c fs1).flatten.length ≤ k)
    (hhi : k < (layoutBufs g c (fs1 ++ [(t, p)])).flatten.length) :
    wholeCount g c hc es k = j1 := by
  apply wholeCount_eq g es c hc k j1 (Nat.le_of_lt hj)
  · rw [h1, layout_length_append] at hlo
    rw [← layout_length_prefix]; exact Nat.le_trans (Nat.le_add_right _ _) hlo
  · intro _
    rw [← layout_length_prefix, h2]
    have : framesOf g c hc (es.take j1) ++ (gp1 ++ (t, p) :: gs') = (fs1 ++ [(t, p)]) ++ gs' := by
      rw [h1, List.append_assoc, List.append_assoc, List.singleton_append]
    rw [this, layout_length_append]; exact Nat.lt_of_lt_of_le hhi (Nat.le_add_right _ _)

end MRL.Torn
