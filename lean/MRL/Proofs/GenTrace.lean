/-
C08 (genuineness), the reassembly half. The genuine frames of a tape, in layout order, are some
non-first frames (the tail of an entry whose head was in a deleted file), then groups (`Chunks`): LIVE
ones, the frames of an entry, and DEAD ones, a non-empty proper prefix of the frames of an entry that
was never finished (an orphan First, Middle* run without Last; only crash-reachable tapes have them).
An event list in which every frame event is one of these frames, in order, two frame events with no
corrupt event between them being adjacent on the tape (`Trace`), is reassembled into a
SUB-SEQUENCE of the entries of the live groups: `assemble` ignores non-first frames outside an
entry, and abandons the entry begun on a dead group at the next First/Full frame (which resets the
buffer) or corrupt event.
-/
import MRL.Proofs.TornScan

namespace MRL.Gen
open Codec

/-- `Trace R tight evs`: the events `evs`, whatever files they are tagged with, against the frames
    `R` of the layout that lie ahead. A frame event is the head of `R`. `tight = true` right after a
    frame event: the next frame event, if no corrupt event comes first, is then the next frame of
    `R`; otherwise (`tight = false`: at the start, or after a corrupt event) frames of `R` may be
    skipped. -/
inductive Trace : List Frm → Bool → List RdEv → Prop
  | nil {R : List Frm} {tight : Bool} : Trace R tight []
  | corrupt {f : Nat} {R : List Frm} {tight : Bool} {evs : List RdEv} :
      Trace R false evs → Trace R tight (RdEv.corrupt f :: evs)
  | frame {f : Nat} {R' : List Frm} {tight : Bool} {evs : List RdEv} {t : FrameType} {p : Bytes} :
      Trace R' true evs → Trace ((t, p) :: R') tight (RdEv.frame f t p :: evs)
  | skip {R' sk : List Frm} {evs : List RdEv} :
      Trace R' false evs → Trace (sk ++ R') false evs

def bytesOf (l : List RecEv) : List Bytes :=
  l.filterMap fun ev => match ev with | .entry _ b => some b | .corrupt => none

theorem bytesOf_cons_entry (a : Nat) (b : Bytes) (l : List RecEv) :
    bytesOf (RecEv.entry a b :: l) = b :: bytesOf l := rfl
theorem bytesOf_cons_corrupt (l : List RecEv) : bytesOf (RecEv.corrupt :: l) = bytesOf l := rfl

inductive Chunks : List Bytes → List Frm → Prop
  | nil : Chunks [] []
  | live {e : Bytes} {es : List Bytes} {fs G : List Frm} :
      EntryFrames true fs → payloadOf fs = e → Chunks es G → Chunks (e :: es) (fs ++ G)
  | dead {es : List Bytes} {fs G : List Frm} :
      fs ≠ [] → (∃ rest, rest ≠ [] ∧ EntryFrames true (fs ++ rest)) → Chunks es G → Chunks es (fs ++ G)

theorem Chunks.of_entries {es : List Bytes} {fs : List Frm} (h : EntriesFrames es fs) : Chunks es fs := by
  induction h with
  | nil => exact Chunks.nil
  | cons h1 h2 _ ih => exact Chunks.live h1 h2 ih

def Shape (R : List Frm) (esR : List Bytes) : Prop :=
  ∃ junk GR, R = junk ++ GR ∧ (∀ a ∈ junk, a.1.isFirst = false) ∧ Chunks esR GR

/-- the rest of a dead group: Middle frames, never a Last -/
def DeadRest (gt : List Frm) : Prop := gt = [] ∨ ∃ rest, rest ≠ [] ∧ EntryFrames false (gt ++ rest)

theorem head_of_group {b : Bool} {t : FrameType} {p : Bytes} {l : List Frm} (h : EntryFrames b ((t, p) :: l)) :
    t.isFirst = b ∧ t.isLast = l.isEmpty ∧ (l ≠ [] → EntryFrames false l) := by
  obtain ⟨ht, htl⟩ := h
  simp only at ht
  subst ht
  exact ⟨by cases b <;> cases l.isEmpty <;> rfl, by cases b <;> cases l.isEmpty <;> rfl, htl⟩

theorem DeadRest.nonfirst {gt : List Frm} (h : DeadRest gt) : ∀ a ∈ gt, a.1.isFirst = false := by
  rcases h with h | ⟨rest, _, hE⟩
  · intro a ha; rw [h] at ha; cases ha
  · exact fun a ha => entryFrames_false_nonfirst _ hE a (List.mem_append_left _ ha)

theorem Shape.drop_one {a : Frm} {R : List Frm} {esR : List Bytes} (h : Shape (a :: R) esR) :
    ∃ esR', Shape R esR' ∧ List.Sublist esR' esR := by
  obtain ⟨junk, GR, hR, hj, hG⟩ := h
  cases junk with
  | cons b junk1 =>
    simp only [List.cons_append, List.cons.injEq] at hR
    obtain ⟨rfl, rfl⟩ := hR
    exact ⟨esR, ⟨junk1, GR, rfl, fun x hx => hj x (List.mem_cons_of_mem _ hx), hG⟩, List.Sublist.refl _⟩
  | nil =>
    simp only [List.nil_append] at hR
    cases hG with
    | nil => cases hR
    | @live e es fs G h1 h2 h3 =>
      cases fs with
      | nil => exact h1.elim
      | cons b gs =>
        simp only [List.cons_append, List.cons.injEq] at hR
        obtain ⟨rfl, rfl⟩ := hR
        exact ⟨es, ⟨gs, G, rfl, entryFrames_after [] _ _ _ h1, h3⟩, List.sublist_cons_self _ _⟩
    | @dead es fs G hne h1 h3 =>
      cases fs with
      | nil => exact absurd rfl hne
      | cons b gs =>
        simp only [List.cons_append, List.cons.injEq] at hR
        obtain ⟨rfl, rfl⟩ := hR
        obtain ⟨rest, _, hE⟩ := h1
        exact ⟨esR, ⟨gs, G, rfl, fun x hx => entryFrames_after [] _ _ _ hE x (List.mem_append_left _ hx), h3⟩,
          List.Sublist.refl _⟩

theorem Shape.drop {sk R : List Frm} : ∀ {esR : List Bytes}, Shape (sk ++ R) esR →
    ∃ esR', Shape R esR' ∧ List.Sublist esR' esR := by
  induction sk with
  | nil => intro esR h; exact ⟨esR, h, List.Sublist.refl _⟩
  | cons a sk ih =>
    intro esR h
    obtain ⟨es1, h1, s1⟩ := Shape.drop_one h
    obtain ⟨es2, h2, s2⟩ := ih h1
    exact ⟨es2, h2, s2.trans s1⟩

/-- Three situations of the assembler against the frames `R` ahead:
    outside an entry; inside the entry of a live group, `gt` being the rest of the group; inside
    the entry begun on a dead group, `gt` being the rest of that group. Inside an entry the last
    event was a frame event, so the trace is tight: a skipped frame would otherwise be missing from
    the buffer of an entry that is still delivered. -/
theorem asm_trace {R : List Frm} {tight : Bool} {evs : List RdEv} (h : Trace R tight evs) :
    ∀ st : AsmSt,
      (st.within = false → ∀ esR, Shape R esR →
        List.Sublist (bytesOf (assemble st evs)) esR) ∧
      (st.within = true → tight = true → ∀ (e : Bytes) (gt GR : List Frm) (esR : List Bytes),
        R = gt ++ GR → EntryFrames false gt → st.buf ++ payloadOf gt = e → Chunks esR GR →
        List.Sublist (bytesOf (assemble st evs)) (e :: esR)) ∧
      (st.within = true → tight = true → ∀ (gt GR : List Frm) (esR : List Bytes),
        R = gt ++ GR → DeadRest gt → Chunks esR GR →
        List.Sublist (bytesOf (assemble st evs)) esR) := by
  induction h with
  | nil =>
    intro st
    exact ⟨fun _ _ _ => List.nil_sublist _, fun _ _ _ _ _ _ _ _ _ _ => List.nil_sublist _,
      fun _ _ _ _ _ _ _ _ => List.nil_sublist _⟩
  | @corrupt f R tight evs _ ih =>
    -- a corrupt event gives the entry up: what is left of its group is non-first frames
    intro st
    have hstep : assemble st (RdEv.corrupt f :: evs) =
        RecEv.corrupt :: assemble { within := false, buf := st.buf, attr := f } evs := rfl
    rw [hstep, bytesOf_cons_corrupt]
    obtain ⟨ihA, _, _⟩ := ih { within := false, buf := st.buf, attr := f }
    refine ⟨fun _ esR hS => ihA rfl esR hS, fun _ _ e gt GR esR hR hE _ hG => ?_,
      fun _ _ gt GR esR hR hD hG => ihA rfl esR ⟨gt, GR, hR, hD.nonfirst, hG⟩⟩
    exact (ihA rfl esR ⟨gt, GR, hR, entryFrames_false_nonfirst gt hE, hG⟩).trans (List.sublist_cons_self _ _)
  | @frame f R' tight evs t p _ ih =>
    intro st
    -- the frame is the first frame of a group (whatever `within`: a First/Full frame resets)
    have firstCase : ∀ (st : AsmSt), ∀ esR, Chunks esR ((t, p) :: R') →
        List.Sublist (bytesOf (assemble st (RdEv.frame f t p :: evs))) esR := by
      intro st esR hG
      generalize hGR : (t, p) :: R' = GR at hG
      cases hG with
      | nil => cases hGR
      | @live e es fs G h1 h2 h3 =>
        cases fs with
        | nil => exact h1.elim
        | cons b gs =>
          simp only [List.cons_append, List.cons.injEq] at hGR
          obtain ⟨rfl, rfl⟩ := hGR
          obtain ⟨hfirst, hlast, htl⟩ := head_of_group h1
          have hw2 : (st.within || t.isFirst) = true := by rw [hfirst]; exact Bool.or_true _
          cases gs with
          | nil =>
            -- a Full frame: its entry is delivered
            rw [assemble_last st f t p evs hlast hw2, hfirst, bytesOf_cons_entry]
            have hp : p = e := by rwa [payloadOf_cons, payloadOf_nil, List.append_nil] at h2
            simp only [if_true, List.nil_append, hp]
            exact List.Sublist.cons_cons _ ((ih _).1 rfl es ⟨[], G, rfl, (fun _ h => by cases h), h3⟩)
          | cons b2 gs2 =>
            -- a First frame: inside the entry from now on
            rw [assemble_more st f t p evs hlast hw2, hfirst]
            simp only [if_true, List.nil_append]
            exact (ih { within := true, buf := p, attr := st.attr }).2.1 rfl rfl e (b2 :: gs2) G es rfl
              (htl (List.cons_ne_nil _ _)) (by rwa [payloadOf_cons] at h2) h3
      | @dead es fs G hne h1 h3 =>
        cases fs with
        | nil => exact absurd rfl hne
        | cons b gs =>
          simp only [List.cons_append, List.cons.injEq] at hGR
          obtain ⟨rfl, rfl⟩ := hGR
          obtain ⟨rest, hrest, hE⟩ := h1
          have hne2 : gs ++ rest ≠ [] := by simp [hrest]
          obtain ⟨hfirst, hlast, htl⟩ := head_of_group (l := gs ++ rest) hE
          have hw2 : (st.within || t.isFirst) = true := by rw [hfirst]; exact Bool.or_true _
          rw [List.isEmpty_eq_false_iff.mpr hne2] at hlast
          rw [assemble_more st f t p evs hlast hw2]
          exact (ih { within := true, buf := (if t.isFirst then [] else st.buf) ++ p, attr := st.attr }).2.2
            rfl rfl gs G esR rfl (Or.inr ⟨rest, hrest, htl hne2⟩) h3
    refine ⟨?_, ?_, ?_⟩
    · intro hw esR hS
      obtain ⟨junk, GR, hR, hj, hG⟩ := hS
      cases junk with
      | cons b junk1 =>
        simp only [List.cons_append, List.cons.injEq] at hR
        obtain ⟨rfl, rfl⟩ := hR
        rw [assemble_skip st f t p evs hw (hj (t, p) List.mem_cons_self)]
        exact (ih st).1 hw esR ⟨junk1, GR, rfl, fun x hx => hj x (List.mem_cons_of_mem _ hx), hG⟩
      | nil =>
        simp only [List.nil_append] at hR
        rw [← hR] at hG
        exact firstCase st esR hG
    · -- inside a live entry: the frame is the next one of the group
      intro hw _ e gt GR esR hR hE hbuf hG
      cases gt with
      | nil => exact hE.elim
      | cons b gt1 =>
        simp only [List.cons_append, List.cons.injEq] at hR
        obtain ⟨rfl, rfl⟩ := hR
        obtain ⟨hfirst, hlast, htl⟩ := head_of_group hE
        have hw2 : (st.within || t.isFirst) = true := by rw [hw]; rfl
        cases gt1 with
        | nil =>
          rw [assemble_last st f t p evs hlast hw2, hfirst, bytesOf_cons_entry]
          have hp : st.buf ++ p = e := by rwa [payloadOf_cons, payloadOf_nil, List.append_nil] at hbuf
          simp only [Bool.false_eq_true, if_false, hp]
          exact List.Sublist.cons_cons _ ((ih _).1 rfl esR ⟨[], GR, rfl, (fun _ h => by cases h), hG⟩)
        | cons b2 gt2 =>
          rw [assemble_more st f t p evs hlast hw2, hfirst]
          simp only [Bool.false_eq_true, if_false]
          exact (ih { within := true, buf := st.buf ++ p, attr := st.attr }).2.1 rfl rfl e (b2 :: gt2) GR esR rfl
            (htl (List.cons_ne_nil _ _)) (by rwa [payloadOf_cons, ← List.append_assoc] at hbuf) hG
    · -- inside a dead entry
      intro hw _ gt GR esR hR hD hG
      cases gt with
      | nil =>
        -- the dead run is over: the frame starts the next group
        simp only [List.nil_append] at hR
        rw [← hR] at hG
        exact firstCase st esR hG
      | cons b gt1 =>
        simp only [List.cons_append, List.cons.injEq] at hR
        obtain ⟨rfl, rfl⟩ := hR
        rcases hD with hD | ⟨rest, hrest, hE⟩
        · cases hD
        · have hne2 : gt1 ++ rest ≠ [] := by simp [hrest]
          obtain ⟨_, hlast, htl⟩ := head_of_group (l := gt1 ++ rest) hE
          have hw2 : (st.within || t.isFirst) = true := by rw [hw]; rfl
          rw [List.isEmpty_eq_false_iff.mpr hne2] at hlast
          rw [assemble_more st f t p evs hlast hw2]
          exact (ih { within := true, buf := (if t.isFirst then [] else st.buf) ++ p, attr := st.attr }).2.2
            rfl rfl gt1 GR esR rfl (Or.inr ⟨rest, hrest, htl hne2⟩) hG
  | @skip R' sk evs _ ih =>
    intro st
    refine ⟨fun hw esR hS => ?_, (fun _ ht => by cases ht), (fun _ ht => by cases ht)⟩
    obtain ⟨esR', hS', hsub⟩ := Shape.drop hS
    exact ((ih st).1 hw esR' hS').trans hsub

theorem asm_trace_init (a : Nat) (es : List Bytes) (fs : List Frm) (hG : EntriesFrames es fs) (tight : Bool)
    (evs : List RdEv) (h : Trace fs tight evs) :
    List.Sublist (bytesOf (assemble { within := false, buf := [], attr := a } evs)) es :=
  (asm_trace h _).1 rfl es ⟨[], fs, rfl, (fun _ h => by cases h), Chunks.of_entries hG⟩

end MRL.Gen
