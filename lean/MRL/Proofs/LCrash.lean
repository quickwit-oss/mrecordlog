/-
`recover` (`open` and its GC pass) on a disk satisfying the relaxed invariant, and the states reached
with crashes. A (log, OS image, `BufWriter` state) triple whose flushed disk satisfies the relaxed
invariant for a journal carrying `Q` (`XRInvQ`) keeps it under a call (`Carry.inv_step`). A process
running on it leaves for the next `open` one of three images (`Stop`): the flushed disk, a crash image of
a call cut at any byte, a crash image of `open`'s own effects cut at any byte. On each of them `open`
succeeds with the relaxed invariant (`Carry.stop`), so the state it returns satisfies `XRInvQ` again
(`Carry.inv_of_xinvres`). The inductions over the crash-reachability relations `C02U.ReachX`,
`C02W.ReachXW` and `C07F.ReachXF` apply these three lemmas.
-/
import MRL.Proofs.LDecomp

namespace MRL.L
open Codec Consts G H Torn Log Buf C05 C01J

theorem ensureLen_head (g : Geom) {l : Log} {J : List JE} {D : Image} (h : CInvX g l J D) :
    applyOsOps D (directOps [Effect.ensureLen (l.files.headD 0) g.fileBytes]) = D := by
  obtain ⟨init, t, x, res, ais, lead, gs, hx⟩ := h.disk
  exact hx.tape.ensureLen_head

theorem Carry.recover_ok {N : Entry → Prop} {Q : List JE → MemQueues → Prop} (cq : Carry N Q) (g : Geom)
    (hB : g.B ≤ 65542) {l : Log} {J : List JE} {D : Image} (h : CInvX g l J D)
    (hQ : Q J l.queues) (policy : Policy) (order : List Bytes) :
    ∃ (J' : List JE) (lp : Log) (io : Nat) (r : Recovered),
      recoverPre g D policy none = .ok (lp, [.ensureLen (lp.files.headD 0) g.fileBytes], io) ∧
      recover g D policy order none = .ok r ∧ r.log = (runGc g lp order).1 ∧
      r.effects = [.ensureLen (lp.files.headD 0) g.fileBytes] ++ (runGc g lp order).2.1 ∧
      CInvX g lp J' D ∧ Q J' lp.queues ∧ AbsEq lp.queues l.queues ∧ lp.policy = policy := by
  obtain ⟨J', lp, io, hrec, hc, hw, hab, hpol, hhead⟩ := cq.open_ok g hB h hQ policy
  rw [← hhead] at hrec
  refine ⟨J', lp, io, (⟨(runGc g lp order).1,
      [.ensureLen (lp.files.headD 0) g.fileBytes] ++ (runGc g lp order).2.1,
      io + Rec.countOpen (runGc g lp order).2.1⟩ : Recovered), hrec, ?_, rfl, rfl, hc, hw, hab, hpol⟩
  rw [Rec.recover_none, hrec]

theorem recover_okX (g : Geom) (hB : g.B ≤ 65542) {l : Log} {J : List JE} {D : Image} (h : CInvX g l J D)
    (hwf : ∀ j ∈ J, C07.WF j.e) (policy : Policy) (order : List Bytes) :
    ∃ (J' : List JE) (lp : Log) (io : Nat) (r : Recovered),
      recoverPre g D policy none = .ok (lp, [.ensureLen (lp.files.headD 0) g.fileBytes], io) ∧
      recover g D policy order none = .ok r ∧ r.log = (runGc g lp order).1 ∧
      r.effects = [.ensureLen (lp.files.headD 0) g.fileBytes] ++ (runGc g lp order).2.1 ∧
      CInvX g lp J' D ∧ (∀ j ∈ J', C07.WF j.e) ∧ AbsEq lp.queues l.queues ∧ lp.policy = policy :=
  Carry.wfOnly.recover_ok g hB h hwf policy order

/-- the relaxed invariant on the flushed disk, for a journal carrying `Q` -/
structure XRInvQ (g : Geom) (cap : Nat) (Q : List JE → MemQueues → Prop) (l : Log) (img : Image) (b : BufSt) :
    Prop where
  inv : ∃ J, CInvX g l J (G.flushDisk img b) ∧ Q J l.queues
  buf : BufOK cap l b

theorem XRInvQ.mono {g : Geom} {cap : Nat} {Q Q' : List JE → MemQueues → Prop} {l : Log} {img : Image} {b : BufSt}
    (h : XRInvQ g cap Q l img b) (hQ : ∀ J q, Q J q → Q' J q) : XRInvQ g cap Q' l img b := by
  obtain ⟨⟨J, hc, hq⟩, hb⟩ := h
  exact ⟨⟨J, hc, hQ _ _ hq⟩, hb⟩

/-- The image a process running on `(l, img, b)` leaves for the next `open`: it stops cleanly, in the middle
    of a call, or in the middle of an `open`. `lA` is the log the interrupted call would have produced (`l`
    itself in the other two cases); `N` is what is asked of the journal entries in flight. -/
inductive Stop (g : Geom) (cap : Nat) (N : Entry → Prop) (l : Log) (img : Image) (b : BufSt) : Log → Image → Prop
  | clean : Stop g cap N l img b l (G.flushDisk img b)
  | call (c : Call) (tick : Bool) (order : List Bytes) (k cut : Nat) :
      b.pend = [] → (∀ j ∈ l.stepJ g c order, N j.e) → TornEffs (l.step g c tick order).2.2 →
      Stop g cap N l img b (l.step g c tick order).1
        (crashImage img (toOsOps cap b (l.step g c tick order).2.2).2 k cut)
  | opened (policy : Policy) (order : List Bytes) (lp0 : Log) (e00 : List Effect) (io0 : Nat) (r0 : Recovered)
      (k cut : Nat) :
      recoverPre g (G.flushDisk img b) policy none = .ok (lp0, e00, io0) →
      recover g (G.flushDisk img b) policy order none = .ok r0 →
      (∀ j ∈ lp0.gcJ g order, N j.e) → TornEffs r0.effects →
      Stop g cap N l img b l (crashImage (G.flushDisk img b) (toOsOps cap {} r0.effects).2 k cut)

section
variable {N : Entry → Prop} {Q : List JE → MemQueues → Prop} (cq : Carry N Q) (g : Geom) (cap : Nat)
include cq

theorem Carry.inv_step {l : Log} {img : Image} {b : BufSt} (h : XRInvQ g cap Q l img b) (c : Call) (tick : Bool)
    (order : List Bytes) (hn : ∀ j ∈ l.stepJ g c order, N j.e) :
    XRInvQ g cap Q (l.step g c tick order).1 (applyOsOps img (toOsOps cap b (l.step g c tick order).2.2).2)
      (toOsOps cap b (l.step g c tick order).2.2).1 := by
  obtain ⟨⟨J, hc, hq⟩, hb⟩ := h
  have hI := hc.jinv.h.inv
  obtain ⟨hfl, hbuf⟩ := hb.step g img c tick order
  refine ⟨⟨J ++ l.stepJ g c order, ?_, cq.append hq (QsWF.of_inv hI) (Drop.run_step g l hI c tick order) hn⟩, hbuf⟩
  rw [hfl]
  exact cinvx_step g hc c tick order

theorem Carry.inv_recover {X : Image} {lp : Log} {J' : List JE} (hc : CInvX g lp J' X) (hw : Q J' lp.queues)
    (policy : Policy) (order : List Bytes) (io : Nat) (r : Recovered)
    (hpre : recoverPre g X policy none = .ok (lp, [.ensureLen (lp.files.headD 0) g.fileBytes], io))
    (hrec : recover g X policy order none = .ok r) (hgw : ∀ j ∈ lp.gcJ g order, N j.e) :
    XRInvQ g cap Q r.log (applyOsOps X (toOsOps cap {} r.effects).2) (toOsOps cap {} r.effects).1 := by
  rw [Rec.recover_none, hpre] at hrec
  simp only [Except.ok.injEq] at hrec
  subst hrec
  simp only
  have hI := hc.jinv.h.inv
  obtain ⟨hfl, hbuf⟩ := BufOK.recover g cap lp order (lp.files.headD 0) X
  refine ⟨⟨J' ++ lp.gcJ g order, ?_, ?_⟩, hbuf⟩
  · rw [hfl, directOps_append, applyOsOps_append, ensureLen_head g hc]
    exact cinvx_gc g hc order
  · rw [Step.runGc_queues]
    exact cq.append hw (QsWF.of_inv hI) (Drop.run_gc g lp order hI.1) hgw

theorem Carry.inv_of_xinvres {qB qA : MemQueues} {X : Image} (hres : XInvResQ g Q qB qA X)
    (policy : Policy) (order : List Bytes) (lp : Log) (e0 : List Effect) (io : Nat) (r : Recovered)
    (hpre : recoverPre g X policy none = .ok (lp, e0, io))
    (hrec : recover g X policy order none = .ok r) (hgw : ∀ j ∈ lp.gcJ g order, N j.e) :
    XRInvQ g cap Q r.log (applyOsOps X (toOsOps cap {} r.effects).2) (toOsOps cap {} r.effects).1 ∧
      (AbsEq r.log.queues qB ∨ AbsEq r.log.queues qA) := by
  obtain ⟨J', lp1, io1, F', h1, h2, h3, h4, _, h6⟩ := hres policy
  rw [hpre] at h1
  simp only [Except.ok.injEq, Prod.mk.injEq] at h1
  obtain ⟨rfl, rfl, rfl⟩ := h1
  rw [← h2] at hpre
  refine ⟨cq.inv_recover g cap h3 h4 policy order io r hpre hrec hgw, ?_⟩
  have hq : r.log.queues = lp.queues := by
    rw [Rec.recover_none, hpre] at hrec
    simp only [Except.ok.injEq] at hrec
    subst hrec
    exact Step.runGc_queues g lp order
  rw [hq]; exact h6

variable (hB : g.B ≤ 65542)
include hB

/-- the crash states of `open` on a relaxed disk, cut at any byte: `ensureLen` changes nothing
    (`ensureLen_head`), the rest is a GC pass on the recovered log (`gc_cut`) -/
theorem Carry.recover_boundary {l : Log} {J : List JE} {D : Image}
    (h : CInvX g l J D) (hQ : Q J l.queues) (policy : Policy) (order : List Bytes) (lp0 : Log)
    (e00 : List Effect) (io0 : Nat) (r0 : Recovered)
    (hpre0 : recoverPre g D policy none = .ok (lp0, e00, io0))
    (hrec0 : recover g D policy order none = .ok r0)
    (hgw0 : ∀ j ∈ lp0.gcJ g order, N j.e) (htorn : TornEffs r0.effects) :
    (∃ st', Buf.run none r0.effects = some st') ∧
    (∀ (w : Bool) X, CutW w D r0.effects X → XInvResQ g Q l.queues l.queues X) := by
  obtain ⟨J0, lp, io, r, hpre, hrec, hlog, heff, hc0, hw0, hab, _⟩ := cq.recover_ok g hB h hQ policy order
  rw [hpre0] at hpre
  simp only [Except.ok.injEq, Prod.mk.injEq] at hpre
  obtain ⟨rfl, _, _⟩ := hpre
  rw [hrec0] at hrec
  simp only [Except.ok.injEq] at hrec
  subst hrec
  refine ⟨by rw [heff]; exact (recover_run g lp0 order _).imp fun _ h => h.1, ?_⟩
  intro w X hX
  rw [heff] at hX htorn
  have htorn2 : TornEffs (runGc g lp0 order).2.1 :=
    htorn.mono (fun v hv => List.mem_append_right _ hv)
  have hens := ensureLen_head g hc0
  refine XInvResQ.of_same ?_ (.inl hab)
  rcases CutW.of_append _ hX with hX | hX
  · -- inside `[ensureLen …]`: the disk itself
    have hXD : X = D := by
      rcases hX.cons_inv with h1 | ⟨_, _, _, _, _, hw1, _⟩ | h1
      · exact h1
      · cases hw1
      · have := h1.nil_inv
        rw [this]
        simpa [directOps] using hens
    rw [hXD]
    exact cq.gc_cut g hB hc0 order hw0 hgw0 htorn2 w D (CutW.stop _ _ _)
  · rw [hens] at hX
    exact cq.gc_cut g hB hc0 order hw0 hgw0 htorn2 w X hX

/-- **`open` on whatever a process leaves behind** succeeds with the abstract state of `l` or of `lA`, and the
    recovered log satisfies the relaxed invariant again. A call is cut inside its effects (`call_cut`), an
    `open` inside its own (`recover_boundary`); the `BufWriter` is empty at both starts, so a crash image of
    the OS operations is a cut of the effects (`crash_cut`). -/
theorem Carry.stop {l lA : Log} {img X : Image} {b : BufSt} (h : XRInvQ g cap Q l img b)
    (hs : Stop g cap N l img b lA X) : XInvResQ g Q l.queues lA.queues X := by
  obtain ⟨⟨J, hc, hq⟩, st, hinv, hclean⟩ := h
  cases hs with
  | clean => exact cq.xinvres g hB hc hq
  | call c tick order k cut hb hn htorn =>
    rw [G.flushDisk_of_empty img b hb] at hc
    obtain ⟨st', hrun, _⟩ := C14.step_Disc g l c tick order st hclean
    have hcut := crash_cut cap _ b st st' img hinv hrun k cut
    rw [pendW_nil b hb, List.nil_append] at hcut
    exact cq.call_cut g hB hc c tick order hq hn htorn false _ hcut
  | opened policy order lp0 e00 io0 r0 k cut hpre0 hrec0 hgw0 htorn =>
    obtain ⟨⟨st', hrun⟩, hcut⟩ := cq.recover_boundary g hB hc hq policy order lp0 e00 io0 r0 hpre0 hrec0 hgw0 htorn
    have hX := crash_cut cap _ {} none st' (G.flushDisk img b) (Buf.inv_empty cap none) hrun k cut
    rw [show pendW ({} : BufSt) = [] from rfl, List.nil_append] at hX
    exact hcut false _ hX

end

end MRL.L
