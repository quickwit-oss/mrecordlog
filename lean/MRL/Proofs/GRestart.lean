/-
Putting the layers together: the combined invariant `CInv` of a (log, journal, flushed disk)
triple, its preservation by one entry write, by a GC pass and by a call, and the `open` lemma
`open_ok`: on such a disk `recoverPre` (the read phase of `open`, before its GC pass) succeeds and
returns a log that satisfies the invariant again, with queues equal to the in-memory ones, file
handles included. `recover_ok` adds the GC pass, `recover_cinv` the invariant of what it leaves.
-/
import MRL.Proofs.GReadLog
import MRL.Proofs.GJournalX
import MRL.Proofs.JStep
import MRL.Proofs.HBufCrash
import MRL.Proofs.RecReplay
import MRL.Proofs.StepDisc

namespace MRL.G
open Log C05 C01J

/-- **a call, seen from the flushed disk**: the flushed disk after the call is the flushed disk before it with
    the effects applied directly, and the buffer stays compatible with the log -/
theorem BufOK.step (g : Geom) {cap : Nat} {l : Log} {b : BufSt} (h : BufOK cap l b) (img : Image) (c : Call)
    (tick : Bool) (order : List Bytes) :
    flushDisk (applyOsOps img (toOsOps cap b (l.step g c tick order).2.2).2) (toOsOps cap b (l.step g c tick order).2.2).1 =
      applyOsOps (flushDisk img b) (Buf.directOps (l.step g c tick order).2.2) ∧
    BufOK cap (l.step g c tick order).1 (toOsOps cap b (l.step g c tick order).2.2).1 := by
  obtain ⟨st, hinv, hclean⟩ := h
  -- `C14.step_Disc` (StepDisc): the effects of a call obey the `BufWriter` discipline `Buf.run`; every statement
  -- about flushed disks and crash images of calls goes through it
  obtain ⟨st', hrun, hclean'⟩ := C14.step_Disc g l c tick order st hclean
  obtain ⟨hfl, hinv'⟩ := flushDisk_toOsOps cap img b _ st st' hinv hrun
  exact ⟨hfl, st', hinv', hclean'⟩

theorem recover_run (g : Geom) (lp : Log) (order : List Bytes) (F : Nat) :
    ∃ st', Buf.run none ([Effect.ensureLen F g.fileBytes] ++ (runGc g lp order).2.1) = some st' ∧
      (st' = none ∨ st' = some ((runGc g lp order).1.cur, (runGc g lp order).1.off)) := by
  obtain ⟨st', hrun, hclean'⟩ := C14.runGc_Disc g lp order none (Or.inl rfl)
  refine ⟨st', ?_, hclean'⟩
  simp only [List.cons_append, List.nil_append, Buf.run, Buf.run1, if_true, Option.bind_some]
  exact hrun

/-- `BufOK.step` for the effects of `recover`, from the empty buffer -/
theorem BufOK.recover (g : Geom) (cap : Nat) (lp : Log) (order : List Bytes) (F : Nat) (D : Image) :
    flushDisk (applyOsOps D (toOsOps cap {} ([Effect.ensureLen F g.fileBytes] ++ (runGc g lp order).2.1)).2)
        (toOsOps cap {} ([Effect.ensureLen F g.fileBytes] ++ (runGc g lp order).2.1)).1 =
      applyOsOps D (Buf.directOps ([Effect.ensureLen F g.fileBytes] ++ (runGc g lp order).2.1)) ∧
    BufOK cap (runGc g lp order).1 (toOsOps cap {} ([Effect.ensureLen F g.fileBytes] ++ (runGc g lp order).2.1)).1 := by
  obtain ⟨st', hrun, hclean'⟩ := recover_run g lp order F
  obtain ⟨hfl, hinv'⟩ := flushDisk_toOsOps cap D {} ([Effect.ensureLen F g.fileBytes] ++ (runGc g lp order).2.1) none st'
    (Buf.inv_empty cap none) hrun
  exact ⟨hfl, st', hinv', hclean'⟩

/-- Invariant of (log, journal, flushed disk). `jinv`: replaying the journal from the first
    tracked file gives the queues in memory, and the journal is ordered and well formed;
    `mono2`, `first`: the two facts that make the reader's attributions the journal's (see
    `Mono2`, `FirstOK`); `disk`: the tracked files hold the frames of the retained entries. -/
structure CInv (g : Geom) (l : Log) (J : List JE) (D : Image) : Prop where
  jinv : JInv l J
  mono2 : Mono2 J
  first : FirstOK (l.files.headD 0) J l.cur
  disk : DInvF g l D J (l.files.headD 0)

theorem cinv_write (g : Geom) {l : Log} {J : List JE} {D : Image} (h : CInv g l J D) (e : Entry)
    (qs' : MemQueues) (hewf : EntryWF e) (hre : replayEntry l.queues l.cur e = some qs') :
    CInv g ({ (Log.writeEntry g l e).1 with queues := qs' } : Log) (J ++ [l.je g e])
      (applyOsOps D (Buf.directOps (Log.writeEntry g l e).2.1)) := by
  have hgrow := writeEntry_grow g l e h.jinv.h.files
  have hhead : ({ (Log.writeEntry g l e).1 with queues := qs' } : Log).files.headD 0 = l.files.headD 0 := by
    have := hgrow.head h.jinv.h.files; exact this
  have hc1 := je_chunk g l e h.jinv.h.files hewf
  refine ⟨jinv_write g h.jinv e qs' hewf hre, ?_, ?_, ?_⟩
  · exact mono2_extend h.mono2 h.jinv.chunk hc1 (List.pairwise_singleton _ _)
  · rw [hhead]
    apply firstOK_extend h.first
    · intro hn; cases hn
    · intro j1 hj1
      simp only [List.head?_cons, Option.some.injEq] at hj1
      subst hj1
      exact ⟨rfl, nextLoc_ge g l⟩
  · rw [hhead]
    exact (entry_dinv g h.disk e).congr rfl rfl rfl

theorem cinv_gc (g : Geom) {l : Log} {J : List JE} {D : Image} (h : CInv g l J D) (order : List Bytes) :
    CInv g (runGc g l order).1 (J ++ gcJ g l order)
      (applyOsOps D (Buf.directOps (runGc g l order).2.1)) := by
  have hJ' := jinv_gc g order h.jinv
  have hc2 := gcJ_chunk g l order h.jinv.h
  refine ⟨hJ', mono2_extend h.mono2 h.jinv.chunk hc2 (mono2_gcJ g l order h.jinv.h),
    firstOK_gc g order h.jinv h.first, ?_⟩
  obtain ⟨F', hd⟩ := rungc_dinv g h.disk order hJ'.chunk.mono
  rw [hd.head]; exact hd

theorem cinv_step (g : Geom) {l : Log} {J : List JE} {D : Image} (h : CInv g l J D) (c : Call)
    (tick : Bool) (order : List Bytes) :
    CInv g (l.step g c tick order).1 (J ++ l.stepJ g c order)
      (applyOsOps D (Buf.directOps (l.step g c tick order).2.2)) := by
  rcases H.step_full g l c tick order with
    ⟨hj, hl, hsy⟩ | ⟨e, qs', sy, hok, hre, hsy, (⟨hj, hl, heff⟩ | ⟨hj, hl, heff⟩)⟩
  · rw [hj, hl, List.append_nil, H.syncL_apply hsy]; exact h
  · rw [hj, hl, heff, Buf.directOps_append, Buf.applyOsOps_append, H.syncL_apply hsy]
    exact cinv_write g h e qs' hok.wf hre
  · rw [hj, hl, heff, Buf.directOps_append, Buf.directOps_append, Buf.applyOsOps_append,
      Buf.applyOsOps_append, H.syncL_apply hsy, List.append_cons]
    exact cinv_gc g (cinv_write g h e qs' hok.wf hre) order

/-- The `open` lemma. `g.B ≤ 65542` = 65535 + HEADER_LEN: frame lengths fit their u16 field. -/
theorem open_ok (g : Geom) (hB : g.B ≤ 65542) {l : Log} {J : List JE} {D : Image} (h : CInv g l J D)
    (hwf : ∀ j ∈ J, C07.WF j.e) (policy : Policy) :
    ∃ lp io, recoverPre g D policy none = .ok (lp, [.ensureLen (l.files.headD 0) g.fileBytes], io) ∧
      CInv g lp J D ∧ QsEquiv lp.queues l.queues ∧ lp.files = l.files ∧ lp.policy = policy ∧ lp.cur = l.cur := by
  obtain ⟨hH, chunk, qs, hrep, heq, hqwf⟩ := h.jinv
  have hfirst := hfirst_of h.mono2 chunk h.first
  obtain ⟨lp, io, hrec, hfiles, hcur, hqs, hpol, hdisk⟩ := read_disk g hB h.disk policy qs hrep hwf hfirst
  have hInvlp : Inv lp := by
    obtain ⟨b0, rest, trail, evs, e, _, _, _, hr, _⟩ := Rec.recoverPre_ok hrec
    exact Rec.QsInv_replay _ [] _ hr Rec.QsInv_nil
  have heq' : QsEquiv lp.queues l.queues := by rw [hqs]; exact heq
  -- `CInv` of `lp`, field by field: the files are those of `l` (sorted; `cur` among them), the
  -- handles point into them, the journal chunk, the replay, `FirstOK`, the disk
  refine ⟨lp, io, hrec, ⟨⟨⟨⟨?_, ?_⟩, hInvlp, ?_⟩, ?_, ?_⟩, h.mono2, ?_, ?_⟩, heq', hfiles, hpol, hcur⟩
  · rw [hfiles]; exact hH.files.sorted
  · rw [hfiles, hcur]; exact hH.files.cur_mem
  · intro kv hkv r hr f hf
    rw [hfiles]
    have hget : lp.queues.get? kv.1 = some kv.2 := AL.get?_of_mem_nodup hInvlp.1 hkv
    obtain ⟨y, hy, hxy⟩ := heq'.get_some hget
    rw [hxy.1] at hr
    exact hH.handles (kv.1, y) (AL.get?_mem hy) r hr f hf
  · rw [hcur]; exact chunk
  · rw [hfiles]
    exact ⟨qs, hrep, by rw [hqs]; exact QsEquiv.refl _, hqwf⟩
  · rw [hfiles, hcur]; exact h.first
  · rw [hfiles]; exact hdisk

theorem recover_ok (g : Geom) (hB : g.B ≤ 65542) {l : Log} {J : List JE} {D : Image} (h : CInv g l J D)
    (hwf : ∀ j ∈ J, C07.WF j.e) (policy : Policy) (order : List Bytes) :
    ∃ lp io r, recoverPre g D policy none = .ok (lp, [.ensureLen (l.files.headD 0) g.fileBytes], io) ∧
      recover g D policy order none = .ok r ∧ r.log = (runGc g lp order).1 ∧
      r.effects = [.ensureLen (l.files.headD 0) g.fileBytes] ++ (runGc g lp order).2.1 ∧
      CInv g lp J D ∧ QsEquiv lp.queues l.queues := by
  obtain ⟨lp, io, hrec, hc, hq, _⟩ := open_ok g hB h hwf policy
  refine ⟨lp, io, (⟨(runGc g lp order).1,
      [.ensureLen (l.files.headD 0) g.fileBytes] ++ (runGc g lp order).2.1,
      io + Rec.countOpen (runGc g lp order).2.1⟩ : Recovered), hrec, ?_, rfl, rfl, hc, hq⟩
  rw [Rec.recover_none, hrec]

theorem ensureLen_head {g : Geom} {l : Log} {D : Image} {J : List JE} {F : Nat} (h : DInvF g l D J F) :
    applyOs D (.ensureLen F g.fileBytes) = D := by
  obtain ⟨init, t, afs, hT, _⟩ := h
  exact hT.tapeR.ensureLen_head

theorem recover_cinv (g : Geom) (hB : g.B ≤ 65542) (cap : Nat) {l : Log} {J : List JE} {D : Image}
    (h : CInv g l J D) (hwf : ∀ j ∈ J, C07.WF j.e) (policy : Policy) (order : List Bytes) :
    ∃ lp io rec, recoverPre g D policy none = .ok (lp, [.ensureLen (l.files.headD 0) g.fileBytes], io) ∧
      recover g D policy order none = .ok rec ∧
      CInv g lp J D ∧ QsEquiv lp.queues l.queues ∧
      CInv g rec.log (J ++ gcJ g lp order)
        (flushDisk (applyOsOps D (toOsOps cap {} rec.effects).2) (toOsOps cap {} rec.effects).1) ∧
      BufOK cap rec.log (toOsOps cap {} rec.effects).1 := by
  obtain ⟨lp, io, rec, hpre, hrec, hlog, heff, hc, hq⟩ := recover_ok g hB h hwf policy order
  refine ⟨lp, io, rec, hpre, hrec, hc, hq, ?_⟩
  rw [hlog, heff]
  obtain ⟨hfl, hbuf⟩ := BufOK.recover g cap lp order (l.files.headD 0) D
  refine ⟨?_, hbuf⟩
  rw [hfl, Buf.directOps_append, Buf.applyOsOps_append]
  show CInv g _ _ (applyOsOps (applyOs D (.ensureLen (l.files.headD 0) g.fileBytes)) _)
  rw [ensureLen_head h.disk]
  exact cinv_gc g hc order

end MRL.G

namespace MRL.H

theorem recover_of_pre (g : Geom) (X : Image) (policy : Policy) (order : List Bytes) (lp : Log)
    (e0 : List Effect) (io : Nat) (h : recoverPre g X policy none = .ok (lp, e0, io)) :
    ∃ r, recover g X policy order none = .ok r ∧ r.log.queues = lp.queues := by
  refine ⟨_, by rw [Rec.recover_none, h], ?_⟩
  exact Step.runGc_queues g lp order

end MRL.H
