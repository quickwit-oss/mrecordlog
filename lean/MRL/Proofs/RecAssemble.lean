/-
`assemble` never delivers an entry with a missing frame (C12): every `RecEv.entry` it emits is the
concatenation of the payloads of a run of CONSECUTIVE frame events — a single Full, or
First, Middle*, Last — with no corrupt event (and no other frame) in between.
-/
import MRL.Model.Recovery

namespace MRL.Codec

/-! the three things `assemble` does with a frame: take it into the entry being read, deliver the
    entry it ends, ignore it -/

theorem assemble_more (st : AsmSt) (f : Nat) (t : FrameType) (p : Bytes) (evs : List RdEv)
    (hl : t.isLast = false) (hw : (st.within || t.isFirst) = true) :
    assemble st (RdEv.frame f t p :: evs) =
      assemble { within := true, buf := (if t.isFirst then [] else st.buf) ++ p, attr := st.attr } evs := by
  simp only [assemble, hw, hl, if_true]
  simp

theorem assemble_last (st : AsmSt) (f : Nat) (t : FrameType) (p : Bytes) (evs : List RdEv)
    (hl : t.isLast = true) (hw : (st.within || t.isFirst) = true) :
    assemble st (RdEv.frame f t p :: evs) =
      RecEv.entry st.attr ((if t.isFirst then [] else st.buf) ++ p) ::
        assemble { within := false, buf := (if t.isFirst then [] else st.buf) ++ p, attr := f } evs := by
  simp only [assemble, hw, hl, if_true]

theorem assemble_skip (st : AsmSt) (f : Nat) (t : FrameType) (p : Bytes) (evs : List RdEv)
    (hw : st.within = false) (hf : t.isFirst = false) :
    assemble st (RdEv.frame f t p :: evs) = assemble st evs := by
  simp only [assemble, hw, hf, Bool.or_false, Bool.false_eq_true, if_false]

end MRL.Codec

namespace MRL.Rec

/-- a frame event: file, type, payload -/
abbrev FEv := Nat × FrameType × Bytes

def evsOf (run : List FEv) : List RdEv := run.map fun x => RdEv.frame x.1 x.2.1 x.2.2

def payloadOfRun (run : List FEv) : Bytes := (run.map (·.2.2)).flatten

def Mids (l : List FEv) : Prop := ∀ x ∈ l, x.2.1 = FrameType.middle

def OpenRun (run : List FEv) : Prop := ∃ f p mids, run = (f, FrameType.first, p) :: mids ∧ Mids mids

def Complete (run : List FEv) : Prop :=
  (∃ f p, run = [(f, FrameType.full, p)]) ∨
  (∃ f p mids f' q, run = (f, FrameType.first, p) :: (mids ++ [(f', FrameType.last, q)]) ∧ Mids mids)

/-- invariant of the reassembly state against the events consumed so far: inside an entry, the
    buffer is the concatenated payloads of an open run that ends the consumed events -/
def AInv (st : AsmSt) (done : List RdEv) : Prop :=
  st.within = true → ∃ pre0 run, done = pre0 ++ evsOf run ∧ OpenRun run ∧ st.buf = payloadOfRun run

def Delivered (all : List RdEv) (bytes : Bytes) : Prop :=
  ∃ pre run post, all = pre ++ evsOf run ++ post ∧ Complete run ∧ bytes = payloadOfRun run

theorem evsOf_append (a b : List FEv) : evsOf (a ++ b) = evsOf a ++ evsOf b := by simp [evsOf]

theorem evsOf_cons (a : FEv) (fs : List FEv) : evsOf (a :: fs) = RdEv.frame a.1 a.2.1 a.2.2 :: evsOf fs := rfl

theorem payloadOfRun_append (a b : List FEv) : payloadOfRun (a ++ b) = payloadOfRun a ++ payloadOfRun b := by
  simp [payloadOfRun]

theorem assemble_runs (evs : List RdEv) : ∀ (st : AsmSt) (done : List RdEv), AInv st done →
    ∀ a bytes, RecEv.entry a bytes ∈ assemble st evs → Delivered (done ++ evs) bytes := by
  induction evs with
  | nil => intro st done _ a bytes hm; simp [assemble] at hm
  | cons ev evs ih =>
    intro st done hI a bytes hm
    have hcat : done ++ ev :: evs = (done ++ [ev]) ++ evs := by simp
    have next : ∀ st', AInv st' (done ++ [ev]) → RecEv.entry a bytes ∈ assemble st' evs →
        Delivered (done ++ ev :: evs) bytes := fun st' hI' hm' => hcat ▸ ih st' _ hI' a bytes hm'
    have vac : ∀ (b : Bytes) (at' : Nat), AInv { within := false, buf := b, attr := at' } (done ++ [ev]) :=
      fun _ _ h => by cases h
    cases ev with
    | corrupt f =>
      simp only [assemble, List.mem_cons] at hm
      rcases hm with hm | hm
      · cases hm
      · exact next _ (vac _ _) hm
    | frame f t p =>
      -- outside an entry a frame that is not a first one is ignored
      have skip : st.within = false → t.isFirst = false → Delivered (done ++ .frame f t p :: evs) bytes :=
        fun hw hf => by
          rw [Codec.assemble_skip st f t p evs hw hf] at hm
          exact next st (fun h => by rw [hw] at h; cases h) hm
      -- a frame that ends an entry delivers the run it closes
      have last : t.isLast = true → ∀ run : List FEv, (st.within || t.isFirst) = true →
          (∃ pre0, done = pre0 ++ evsOf run) → Complete (run ++ [(f, t, p)]) →
          (if t.isFirst then [] else st.buf) = payloadOfRun run →
          Delivered (done ++ .frame f t p :: evs) bytes := fun hl run hw ⟨pre0, h1⟩ hc hb => by
        rw [Codec.assemble_last st f t p evs hl hw, List.mem_cons] at hm
        rcases hm with hm | hm
        · simp only [RecEv.entry.injEq] at hm
          exact ⟨pre0, run ++ [(f, t, p)], evs, by rw [h1, evsOf_append]; simp [evsOf], hc,
            by rw [hm.2, hb, payloadOfRun_append]; simp [payloadOfRun]⟩
        · exact next _ (vac _ _) hm
      -- any other frame of an entry extends the open run
      have more : t.isLast = false → ∀ run : List FEv, (st.within || t.isFirst) = true →
          (∃ pre0, done = pre0 ++ evsOf run) → OpenRun (run ++ [(f, t, p)]) →
          (if t.isFirst then [] else st.buf) = payloadOfRun run →
          Delivered (done ++ .frame f t p :: evs) bytes := fun hl run hw ⟨pre0, h1⟩ ho hb => by
        rw [Codec.assemble_more st f t p evs hl hw] at hm
        refine next _ (fun _ => ⟨pre0, run ++ [(f, t, p)], ?_, ho, ?_⟩) hm
        · rw [h1, evsOf_append]; simp [evsOf]
        · simp only [hb, payloadOfRun_append]; simp [payloadOfRun]
      cases t with
      | full => exact last rfl [] (by simp [FrameType.isFirst]) ⟨done, by simp [evsOf]⟩ (.inl ⟨f, p, rfl⟩) rfl
      | first =>
        exact more rfl [] (by simp [FrameType.isFirst]) ⟨done, by simp [evsOf]⟩ ⟨f, p, [], rfl, nofun⟩ rfl
      | middle =>
        cases hw : st.within with
        | false => exact skip hw rfl
        | true =>
          obtain ⟨pre0, run, h1, ⟨f0, p0, mids, h2, h3⟩, h4⟩ := hI hw
          refine more rfl run (by simp [hw]) ⟨pre0, h1⟩ ⟨f0, p0, mids ++ [(f, .middle, p)], by rw [h2]; rfl, ?_⟩ h4
          intro x hx
          rcases List.mem_append.mp hx with hx | hx
          · exact h3 x hx
          · rw [List.mem_singleton.mp hx]
      | last =>
        cases hw : st.within with
        | false => exact skip hw rfl
        | true =>
          obtain ⟨pre0, run, h1, ⟨f0, p0, mids, h2, h3⟩, h4⟩ := hI hw
          exact last rfl run (by simp [hw]) ⟨pre0, h1⟩ (.inr ⟨f0, p0, mids, f, p, by rw [h2]; rfl, h3⟩) h4

end MRL.Rec
