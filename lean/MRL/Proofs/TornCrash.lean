/-
C02 at the byte level. A crash image is a tape of items followed by zeros (the complete frames,
possibly one junk slot): what C02 claims of it (`Concl`: the read, and the read-back after the writer
resumed with any further entries) is proved once, for such tapes (`finish`). Every cut of the byte
stream the writer produced is such an image, by where the cut falls: in padding, in a header, in a
payload (where the collision clause `TornOK` is used), at the end; the entries delivered are those
whole before the cut (`crash_master`).
-/
import MRL.Proofs.TornRead
import MRL.Proofs.TornCount

namespace MRL.Torn
open Codec G L

theorem asm_prefix (f : Nat) (esj : List Bytes) (G gp : List Frm) (hG : EntriesFrames esj G)
    (hgp : gp = [] ∨ ∃ gs, gs ≠ [] ∧ EntryFrames true (gp ++ gs))
    (C : List RdEv) (hC : C = [] ∨ C = [RdEv.corrupt f]) (es' : List Bytes) (fs' : List Frm)
    (h' : EntriesFrames es' fs') :
    entriesOf (assemble { within := false, buf := [], attr := f } (tagF f (G ++ gp) ++ (C ++ tagF f fs'))) =
      (esj ++ es').map (RecEv.entry f) := by
  rw [tagF_append, List.append_assoc]
  obtain ⟨st1, hs1, he1⟩ := asm_groups f hG { within := false, buf := [], attr := f } (tagF f gp ++ (C ++ tagF f fs')) rfl
  rw [he1]
  have hpart : ∃ st2, st2.attr = f ∧ assemble st1 (tagF f gp ++ (C ++ tagF f fs')) = assemble st2 (C ++ tagF f fs') := by
    rcases hgp with h | ⟨gs, hgs, hE⟩
    · subst h; exact ⟨st1, hs1, by simp only [tagF, List.map_nil, List.nil_append]⟩
    · exact asm_partial f gp true gs st1 _ hgs hE (Or.inl rfl) hs1
  obtain ⟨st2, hs2, he2⟩ := hpart
  rw [he2]
  have hnew : ∀ st : AsmSt, st.attr = f → assemble st (tagF f fs') = es'.map (RecEv.entry f) := by
    intro st hst
    obtain ⟨st', _, he⟩ := asm_groups f h' st [] hst
    simpa only [List.append_nil, assemble] using he
  rcases hC with h | h
  · subst h
    rw [List.nil_append, hnew st2 hs2, entriesOf_append, entriesOf_entries, entriesOf_entries, List.map_append]
  · subst h
    have : assemble st2 ([RdEv.corrupt f] ++ tagF f fs') =
        RecEv.corrupt :: assemble { within := false, buf := st2.buf, attr := f } (tagF f fs') := rfl
    rw [this, hnew _ rfl, entriesOf_append, entriesOf_entries, List.map_append]
    exact congrArg (_ ++ ·) (entriesOf_entries f es')

/-- What is proved of a crash image `S` read from cursor `c`, `esj` being the entries delivered
    and `E` the offset where reading stops (and the writer resumes):
    the read; the cursor at `E` leaves room for a header; and for every list `es'` of entries
    written from `E` on over the image, the read-back of the result. -/
def Concl (g : Geom) (file c : Nat) (S : Bytes) (n : Nat) (esj : List Bytes) (E : Nat) : Prop :=
  (∃ evs e, readFrom g file S 0 n c = (evs, e) ∧ e.file = file ∧ e.idx * g.B + e.cursor = E ∧
      entriesOf (assemble (st0 file) evs) = esj.map (RecEv.entry file)) ∧
  E % g.B + 7 ≤ g.B ∧
  ∀ (es' : List Bytes) (z2 n2 : Nat), 7 ≤ z2 →
    (S.take E ++ ((C07.writeEntriesBufs g (E % g.B) (Nat.mod_lt _ (Bpos g)) es').flatten ++ zeros z2)).length
      = (n2 + 1) * g.B →
    ∃ evs2 e2,
      readFrom g file
        (S.take E ++ ((C07.writeEntriesBufs g (E % g.B) (Nat.mod_lt _ (Bpos g)) es').flatten ++ zeros z2)) 0 n2 c
        = (evs2, e2) ∧ e2.file = file ∧
      entriesOf (assemble (st0 file) evs2) = (esj ++ es').map (RecEv.entry file) ∧
      e2.idx * g.B + e2.cursor =
        finalPos g (E + totalLen (C07.writeEntriesBufs g (E % g.B) (Nat.mod_lt _ (Bpos g)) es'))

section
variable (g : Geom) (hB : g.B ≤ 65542) (file c : Nat) (hc : c < g.B)
  (esj : List Bytes) (G gp : List Frm) (hG : EntriesFrames esj G)
  (hgp : gp = [] ∨ ∃ gs, gs ≠ [] ∧ EntryFrames true (gp ++ gs))
include hB hc hG hgp

theorem finish (C : List RdEv) (hC : C = [] ∨ C = [RdEv.corrupt file]) (A : List AItm)
    (hev : evsJ A = tagF file (G ++ gp) ++ C) (hfA : Fits g c (frs A)) (htA : ∀ a ∈ tfs A, a.1 = file)
    (hjA : ∀ L, endPos g c (frs A) < L → JOK g L c A)
    (S : Bytes) (n D : Nat) (hlen : S.length = (n + 1) * g.B)
    (hS : S = zeros c ++ (flatJ g c A ++ zeros D)) (hD : 7 ≤ D) :
    Concl g file c S n esj (hdrPos g (endPos g c (frs A))) := by
  -- Both reads are `read_tape1`: the crash image is the tape `A` then zeros, and the resumed stream is the
  -- tape `A ++` the new frames then zeros, because the writer resumes at `hdrPos g E`, where the next item of
  -- a tape starts. Reassembly of the second is `asm_prefix`: the events of `A` are whole entries, then an
  -- unfinished group `gp` and perhaps one corrupt event, which the next First/Full frame abandons.
  obtain ⟨E, hE⟩ : ∃ E, endPos g c (frs A) = E := ⟨_, rfl⟩
  rw [hE] at hjA ⊢
  have hcm : c % g.B = c := Nat.mod_eq_of_lt hc
  have hrl : ∀ a ∈ A, RawLen a := (hjA (E + 1) (Nat.lt_succ_self E)).rawLen
  have hEl : c + (flatJ g c A).length = E := by
    have := flatJ_pos_length g A hrl c (by rw [hcm]; exact hfA)
    rwa [hcm, hE] at this
  have hH6 := hdrPos_le6 g E
  have hHE := le_hdrPos g E
  have hgood : hdrPos g E % g.B + 7 ≤ g.B := by have := hdrPos_room g E; have := Nat.mod_lt (hdrPos g E) (Bpos g); omega
  have hSl : E + D = (n + 1) * g.B := by
    have := congrArg List.length hS
    simp only [List.length_append, length_zeros, hlen] at this
    omega
  have hasm : ∀ (es' : List Bytes) (fs' : List Frm), EntriesFrames es' fs' →
      entriesOf (assemble (st0 file) (evsJ (A ++ plain (tagC file fs')))) = (esj ++ es').map (RecEv.entry file) := by
    intro es' fs' k2
    rw [evsJ_append, evsJ_tagC, hev, List.append_assoc]
    exact asm_prefix file esj G gp hG hgp C hC es' fs' k2
  refine ⟨?_, hgood, ?_⟩
  · -- the crash image itself
    obtain ⟨e, e1, e2, e3⟩ := read_tape1 g hB file A S n c D hc hlen hfA (hjA _ (by omega)) htA
      (by rw [hS, List.drop_left' (length_zeros c)]) hD
    refine ⟨_, e, e1, e2, by rw [e3, hE], ?_⟩
    have := hasm [] [] .nil
    simpa [tagC, plain] using this
  · -- resumed
    intro es' z2 n2 hz2 hlen2
    obtain ⟨k1, k2, k3⟩ := framesOf_spec g es' _ (Nat.mod_lt (hdrPos g E) (Bpos g))
    rw [k1] at hlen2 ⊢
    generalize framesOf g _ _ es' = fs' at k2 k3 hlen2 ⊢
    have htake : S.take (hdrPos g E) = zeros c ++ (flatJ g c A ++ zeros (hdrPos g E - E)) := by
      have := take_in_zeros (zeros c ++ flatJ g c A) [] D (hdrPos g E) (by rw [List.length_append, length_zeros]; exact hEl)
        hHE (by omega)
      rw [List.append_nil, List.append_assoc, ← hS] at this
      rw [this, List.append_assoc]
    have hcur : endCursor g c (frs A) = E % g.B := by
      have := endCursor_pos g (frs A) c (by rw [hcm]; exact hfA)
      rwa [hcm, hE] at this
    -- the resumed stream is the tape of `A` and the new frames; it ends where the new frames end
    obtain ⟨D', hD', hstream, hend⟩ : ∃ D', 7 ≤ D' ∧
        (S.take (hdrPos g E) ++ ((layoutBufs g (hdrPos g E % g.B) fs').flatten ++ zeros z2)).drop c =
          flatJ g c (A ++ plain (tagC file fs')) ++ zeros D' ∧
        Fits g (E % g.B) fs' ∧
        hdrPos g (endPos g E fs') = finalPos g (hdrPos g E + totalLen (layoutBufs g (hdrPos g E % g.B) fs')) := by
      rw [htake, List.append_assoc, List.drop_left' (length_zeros c), flatJ_append, hcur]
      by_cases hfs : fs' = []
      · subst hfs
        refine ⟨hdrPos g E - E + z2, Nat.le_trans hz2 (Nat.le_add_left _ _), ?_, trivial, ?_⟩
        · simp only [layoutBufs, List.flatten_nil, List.nil_append, tagC, plain, List.map_nil, flatJ,
            List.append_nil, List.append_assoc, zeros_add]
        · simp only [layoutBufs, totalLen_nil, Nat.add_zero, endPos]
          exact (hdrPos_idem g E).symm
      · have hne : plain (tagC file fs') ≠ [] := by
          intro h; apply hfs
          have := congrArg frs h
          rwa [frs_tagC] at this
        refine ⟨z2, hz2, ?_, Fits_hdrPos g E fs' hfs k3, ?_⟩
        · rw [flatJ_hdrPos g E _ hne, flatJ_plain, untag_tagC]
          simp only [List.append_assoc]
        · rw [totalLen_layout_pos g fs' _ k3, endPos_hdrPos g E fs' hfs]; rfl
    have hfits : Fits g c (frs (A ++ plain (tagC file fs'))) := by
      rw [frs_append, frs_tagC, Fits_append, hcur]; exact ⟨hfA, hend.1⟩
    obtain ⟨e, e1, e2, e3⟩ := read_tape1 g hB file (A ++ plain (tagC file fs')) _ n2 c D' hc hlen2 hfits
      (by rw [JOK_append]
          exact ⟨hjA _ (by
            have hl := hlen2
            simp only [List.length_append, List.length_take, length_zeros, hlen] at hl
            omega), JOK_plain g _ _ _⟩)
      (by intro a ha
          rw [tfs_append, tfs_plain] at ha
          rcases List.mem_append.mp ha with h | h
          · exact htA a h
          · exact tagC_tag h)
      hstream hD'
    refine ⟨_, e, e1, e2, hasm es' fs' k2, ?_⟩
    rw [e3, frs_append, frs_tagC, endPos_append, hE]
    exact hend.2

end

/-- the collision clause: for every frame the writer wrote, a payload whose tail was lost
    (zero-filled) and thereby changed fails the frame's checksum -/
def TornOK (g : Geom) (c : Nat) (hc : c < g.B) (es : List Bytes) : Prop :=
  ∀ t p, encodeFrame t p ∈ C07.writeEntriesBufs g c hc es → ∀ i, i < p.length →
    p.take i ++ zeros (p.length - i) ≠ p →
    frameCrc t (p.take i ++ zeros (p.length - i)) ≠ frameCrc t p

theorem TornOK.frame {g : Geom} {c : Nat} {hc : c < g.B} {es : List Bytes} (h : TornOK g c hc es) {t : FrameType}
    {p : Bytes} (hm : encodeFrame t p ∈ C07.writeEntriesBufs g c hc es) : H.TornFrame t p :=
  h t p hm

/-- What `crash_master` proves of a cut at `k`: the crash image delivers the first `j` entries and
    satisfies `Concl`. `j` is the number of whole entries before the cut, or one more when the lost
    tail of a `Last`/`Full` frame was zeros anyway, so that the image equals that of a later cut
    `k + d` at which the entry is whole. -/
def Goal (g : Geom) (file c : Nat) (hc : c < g.B) (es : List Bytes) (k : Nat) (S : Bytes) (n : Nat) : Prop :=
  ∃ j E,
    (j = wholeCount g c hc es k ∨ j = wholeCount g c hc es k + 1) ∧
    (j = wholeCount g c hc es k + 1 → ∃ d,
      (C07.writeEntriesBufs g c hc es).flatten.take (k + d) =
        (C07.writeEntriesBufs g c hc es).flatten.take k ++ zeros d ∧
      wholeCount g c hc es (k + d) = wholeCount g c hc es k + 1) ∧
    Concl g file c S n (es.take j) E

theorem cut_frames (g : Geom) (fs : List Frm) : ∀ (c k : Nat), k < (layoutBufs g c fs).flatten.length →
    ∃ fs1 t p fs2, fs = fs1 ++ (t, p) :: fs2 ∧
      ((∃ d, d ≤ padLen g (endCursor g c fs1) ∧
          (layoutBufs g c fs).flatten.take k = (layoutBufs g c fs1).flatten ++ zeros d) ∨
       (∃ i, i ≤ 6 ∧
          (layoutBufs g c fs).flatten.take k =
            (layoutBufs g c fs1).flatten ++ zeros (padLen g (endCursor g c fs1)) ++ (encodeHeader t p).take i) ∨
       (∃ i, i < p.length ∧
          (layoutBufs g c fs).flatten.take k =
            (layoutBufs g c fs1).flatten ++ zeros (padLen g (endCursor g c fs1)) ++ encodeHeader t p ++ p.take i)) := by
  induction fs with
  | nil => intro c k hk; simp [layoutBufs] at hk
  | cons fr fs ih =>
    intro c k hk
    obtain ⟨t, p⟩ := fr
    rw [layout_cons_flatten] at hk ⊢
    have hlen : (zeros (padLen g c) ++ encodeFrame t p).length = padLen g c + 7 + p.length := by
      rw [List.length_append, length_zeros, length_encodeFrame, Nat.add_assoc]
    by_cases h1 : k ≤ padLen g c
    · -- in the padding of the first frame
      refine ⟨[], t, p, fs, rfl, Or.inl ⟨k, by simpa [endCursor] using h1, ?_⟩⟩
      rw [List.append_assoc, List.take_append_of_le_length (by simpa using h1), take_zeros]
      simp [layoutBufs, Nat.min_eq_left h1]
    · have hpk : padLen g c ≤ k := Nat.le_of_not_le h1
      have hzk : (zeros (padLen g c)).length ≤ k := by rw [length_zeros]; exact hpk
      by_cases h2 : k < padLen g c + 7
      · -- inside the header
        have hi : k - padLen g c < 7 := Nat.sub_lt_left_of_lt_add hpk h2
        refine ⟨[], t, p, fs, rfl, Or.inr (Or.inl ⟨k - padLen g c, Nat.le_of_lt_succ hi, ?_⟩)⟩
        rw [List.append_assoc, List.take_append, List.take_of_length_le hzk]
        simp only [length_zeros, layoutBufs, List.flatten_nil, List.nil_append, endCursor, encodeFrame]
        rw [List.append_assoc, List.take_append_of_le_length (by rw [length_encodeHeader]; exact Nat.le_of_lt hi)]
      · by_cases h3 : k < padLen g c + 7 + p.length
        · -- inside the payload
          have hi : k - padLen g c - 7 < p.length :=
            Nat.sub_sub _ _ _ ▸ Nat.sub_lt_left_of_lt_add (Nat.le_of_not_lt h2) h3
          refine ⟨[], t, p, fs, rfl, Or.inr (Or.inr ⟨k - padLen g c - 7, hi, ?_⟩)⟩
          rw [List.append_assoc, List.take_append, List.take_of_length_le hzk]
          simp only [length_zeros, layoutBufs, List.flatten_nil, List.nil_append, endCursor, encodeFrame]
          rw [List.append_assoc, List.take_append, List.take_of_length_le
              (by rw [length_encodeHeader]; exact Nat.le_sub_of_add_le' (Nat.le_of_not_lt h2)),
            length_encodeHeader, List.take_append_of_le_length (Nat.le_of_lt hi)]
          simp only [List.append_assoc]
        · -- past the first frame
          have hk' : k - (padLen g c + 7 + p.length) <
              (layoutBufs g (frameEndCursor g c p.length) fs).flatten.length := by
            rw [List.length_append, hlen] at hk; exact Nat.sub_lt_left_of_lt_add (Nat.le_of_not_lt h3) hk
          obtain ⟨fs1, t', p', fs2, hfs, hcase⟩ := ih (frameEndCursor g c p.length) _ hk'
          have htake : ∀ X : Bytes,
              (zeros (padLen g c) ++ encodeFrame t p ++ X).take k =
                zeros (padLen g c) ++ encodeFrame t p ++ X.take (k - (padLen g c + 7 + p.length)) := by
            intro X
            rw [List.take_append, List.take_of_length_le (by rw [hlen]; exact Nat.le_of_not_lt h3), hlen]
          refine ⟨(t, p) :: fs1, t', p', fs2, by rw [hfs]; rfl, ?_⟩
          simp only [endCursor, layout_cons_flatten, htake]
          rcases hcase with ⟨d, hd, he⟩ | ⟨i, hi2, he⟩ | ⟨i, hi, he⟩
          · exact Or.inl ⟨d, hd, by rw [he]; simp only [List.append_assoc]⟩
          · exact Or.inr (Or.inl ⟨i, hi2, by rw [he]; simp only [List.append_assoc]⟩)
          · exact Or.inr (Or.inr ⟨i, hi, by rw [he]; simp only [List.append_assoc]⟩)

section
variable (g : Geom) (hB : g.B ≤ 65542) (file c : Nat) (hc : c < g.B) (es : List Bytes)

theorem writeEntriesBufs_flatten : (C07.writeEntriesBufs g c hc es).flatten = (layoutBufs g c (framesOf g c hc es)).flatten := by
  rw [(framesOf_spec g es c hc).1]

theorem goal_whole {k n j E : Nat} {S : Bytes} (hm : wholeCount g c hc es k = j)
    (hfin : Concl g file c S n (es.take j) E) : Goal g file c hc es k S n :=
  ⟨j, E, Or.inl hm.symm, fun h => absurd (hm ▸ h) (Nat.ne_of_lt (Nat.lt_succ_self j)), hfin⟩

theorem z7 {z : Nat} (hz : g.B + 7 ≤ z) : 7 ≤ z := Nat.le_trans (Nat.le_add_left 7 g.B) hz

/-- a cut `x` bytes behind the frames before it, inside the next frame with its padding -/
theorem cut_in_frame {L Q T k x : Nat} (hT : T = L + Q) (hk : L + x = k) (hx : x < Q) : L ≤ k ∧ k < T :=
  hT ▸ hk ▸ ⟨Nat.le_add_right L x, Nat.add_lt_add_left hx L⟩

theorem hdr_lt {P n x : Nat} (h : x ≤ P + 6) : x < P + (7 + n) := by omega

include hB in
theorem tape_j1 (fs1 : List Frm) (t : FrameType) (p : Bytes) (fs2 : List Frm)
    (hfs : framesOf g c hc es = fs1 ++ (t, p) :: fs2) (k z n : Nat)
    (C : List RdEv) (hC : C = [] ∨ C = [RdEv.corrupt file]) (A : List AItm)
    (hev : evsJ A = tagF file fs1 ++ C) (hfA : Fits g c (frs A)) (htA : ∀ a ∈ tfs A, a.1 = file)
    (hjA : ∀ L, endPos g c (frs A) < L → JOK g L c A) (D : Nat) (hD : 7 ≤ D)
    (hS : (C07.writeEntriesBufs g c hc es).flatten.take k ++ zeros z = flatJ g c A ++ zeros D)
    (hlen : (zeros c ++ ((C07.writeEntriesBufs g c hc es).flatten.take k ++ zeros z)).length = (n + 1) * g.B)
    (hlo : (layoutBufs g c fs1).flatten.length ≤ k)
    (hhi : k < (layoutBufs g c (fs1 ++ [(t, p)])).flatten.length) :
    Goal g file c hc es k (zeros c ++ ((C07.writeEntriesBufs g c hc es).flatten.take k ++ zeros z)) n := by
  obtain ⟨j1, gp1, gs', hj, h1, h2, h3⟩ := next_frame g es c hc fs1 t p fs2 hfs
  have hm := count_cut g es c hc fs1 t p j1 gp1 gs' k hj h1 h3 hlo hhi
  have hG := (framesOf_spec g (es.take j1) c hc).2.1
  have hfin := finish g hB file c hc (es.take j1) _ gp1 hG (Or.inr ⟨(t, p) :: gs', List.cons_ne_nil _ _, h2⟩) C hC A
    (by rw [hev, h1]) hfA htA hjA _ n D hlen (by rw [hS]) hD
  exact goal_whole g file c hc es hm hfin

theorem tape_plain (fs1 : List Frm) (hF1 : Fits g c fs1) :
    Fits g c (frs (plain (tagC file fs1))) ∧ (∀ x ∈ tfs (plain (tagC file fs1)), x.1 = file) ∧
      (∀ L, endPos g c (frs (plain (tagC file fs1))) < L → JOK g L c (plain (tagC file fs1))) ∧
      flatJ g c (plain (tagC file fs1)) = (layoutBufs g c fs1).flatten :=
  ⟨by rw [frs_tagC]; exact hF1, fun x hx => tagC_tag (by rwa [tfs_plain] at hx), fun L _ => JOK_plain g L _ c,
    by rw [flatJ_plain, untag_tagC]⟩

theorem tape_snoc (fs1 : List Frm) (a : AItm) (hF1 : Fits g c fs1)
    (hfa : a.1.2.2.length ≤ maxFrameLen g (endCursor g c fs1)) (hta : a.1.1 = file)
    (hja : ∀ L, nextPos g (endPos g c fs1) a.1.2.2.length < L →
      JunkOK g (hdrPos g (endPos g c fs1) % g.B) (nextPos g (endPos g c fs1) a.1.2.2.length) L a) :
    Fits g c (frs (plain (tagC file fs1) ++ [a])) ∧ (∀ x ∈ tfs (plain (tagC file fs1) ++ [a]), x.1 = file) ∧
      (∀ L, endPos g c (frs (plain (tagC file fs1) ++ [a])) < L → JOK g L c (plain (tagC file fs1) ++ [a])) ∧
      evsJ (plain (tagC file fs1) ++ [a]) = tagF file fs1 ++ [evJ a] ∧
      flatJ g c (plain (tagC file fs1) ++ [a]) =
        (layoutBufs g c fs1).flatten ++ (zeros (padLen g (endCursor g c fs1)) ++ slot a) := by
  obtain ⟨p1, p2, p3, p4⟩ := tape_plain g file c fs1 hF1
  refine ⟨?_, ?_, ?_, ?_, ?_⟩
  · rw [frs_append, frs_tagC, Fits_append]; exact ⟨hF1, hfa, trivial⟩
  · intro x hx
    rw [tfs_append] at hx
    rcases List.mem_append.mp hx with h | h
    · exact p2 x h
    · rw [List.mem_singleton.mp h]; exact hta
  · intro L hL
    rw [frs_append, frs_tagC, endPos_append] at hL
    rw [JOK_append, frs_tagC]
    exact ⟨JOK_plain g L _ c, hja L hL, trivial⟩
  · rw [evsJ_append, evsJ_tagC]; rfl
  · rw [flatJ_append, p4, frs_tagC]
    simp only [flatJ, List.append_nil]

include hc in
theorem endPos_layout (fs1 : List Frm) (hF1 : Fits g c fs1) :
    c + (layoutBufs g c fs1).flatten.length = endPos g c fs1 := by
  have := totalLen_layout_pos g fs1 c (by rw [Nat.mod_eq_of_lt hc]; exact hF1)
  rwa [Nat.mod_eq_of_lt hc, totalLen_eq] at this

theorem ctx_facts (fs1 : List Frm) (t : FrameType) (p : Bytes) (fs2 : List Frm)
    (hfs : framesOf g c hc es = fs1 ++ (t, p) :: fs2) :
    Fits g c fs1 ∧ p.length ≤ maxFrameLen g (endCursor g c fs1) ∧
      endCursor g c fs1 = (c + (layoutBufs g c fs1).flatten.length) % g.B ∧
      (layoutBufs g c (fs1 ++ [(t, p)])).flatten.length =
        (layoutBufs g c fs1).flatten.length + (padLen g (endCursor g c fs1) + (7 + p.length)) := by
  have hF := (framesOf_spec g es c hc).2.2
  rw [hfs, Fits_append] at hF
  obtain ⟨hF1, hF2, _⟩ := hF
  refine ⟨hF1, hF2, ?_, ?_⟩
  · rw [← totalLen_eq]; exact (layoutBufs_mod g c fs1 hc hF1).symm
  · rw [layout_length_append, layout_length_single, Nat.add_assoc]

include hB in
/-- the cut falls in the padding before the frame `(t, p)` or right at its start, or all that is
    written behind the frames before it is zeros: a clean image -/
theorem case_pad (fs1 : List Frm) (t : FrameType) (p : Bytes) (fs2 : List Frm)
    (hfs : framesOf g c hc es = fs1 ++ (t, p) :: fs2) (k z n d : Nat) (hz : g.B + 7 ≤ z)
    (hk : k ≤ (C07.writeEntriesBufs g c hc es).flatten.length)
    (hd : d ≤ padLen g (endCursor g c fs1) + 6)
    (htake : (C07.writeEntriesBufs g c hc es).flatten.take k = (layoutBufs g c fs1).flatten ++ zeros d)
    (hlen : (zeros c ++ ((C07.writeEntriesBufs g c hc es).flatten.take k ++ zeros z)).length = (n + 1) * g.B) :
    Goal g file c hc es k (zeros c ++ ((C07.writeEntriesBufs g c hc es).flatten.take k ++ zeros z)) n := by
  obtain ⟨hF1, _, _, hLL⟩ := ctx_facts g c hc es fs1 t p fs2 hfs
  have hkl := List.length_take_of_le hk
  rw [htake, List.length_append, length_zeros] at hkl
  obtain ⟨hlo, hhi⟩ := cut_in_frame hLL hkl (hdr_lt hd)
  obtain ⟨p1, p2, p3, p4⟩ := tape_plain g file c fs1 hF1
  refine tape_j1 g hB file c hc es fs1 t p fs2 hfs k z n [] (Or.inl rfl) _
    (by rw [evsJ_tagC, List.append_nil]) p1 p2 p3 (d + z) (Nat.le_trans (z7 g hz) (Nat.le_add_left z d)) ?_ hlen hlo hhi
  rw [htake, p4, List.append_assoc, ← zeros_add]

include hB in
/-- the cut falls inside the header of `(t, p)`: at most 6 of its bytes are written, never the type byte (the
    7th), so unless they are zeros (`case_pad`) the reader finds type 0 and gives up the block. On the tape
    that is one junk item whose payload length `len` is chosen so that the slot ends with the block, where
    the reader, and later the writer, go on. -/
theorem case_hdr (fs1 : List Frm) (t : FrameType) (p : Bytes) (fs2 : List Frm)
    (hfs : framesOf g c hc es = fs1 ++ (t, p) :: fs2) (k z n i : Nat) (hz : g.B + 7 ≤ z)
    (hk : k ≤ (C07.writeEntriesBufs g c hc es).flatten.length) (hi6 : i ≤ 6)
    (htake : (C07.writeEntriesBufs g c hc es).flatten.take k =
      (layoutBufs g c fs1).flatten ++ zeros (padLen g (endCursor g c fs1)) ++ (encodeHeader t p).take i)
    (hlen : (zeros c ++ ((C07.writeEntriesBufs g c hc es).flatten.take k ++ zeros z)).length = (n + 1) * g.B) :
    Goal g file c hc es k (zeros c ++ ((C07.writeEntriesBufs g c hc es).flatten.take k ++ zeros z)) n := by
  have hil : ((encodeHeader t p).take i).length = i := by
    rw [List.length_take, length_encodeHeader, Nat.min_eq_left (Nat.le_trans hi6 (by decide))]
  by_cases hzero : isAllZero ((encodeHeader t p).take i) = true
  · -- the torn header bytes are zeros anyway
    have hz' := isAllZero_eq_zeros _ hzero
    rw [hil] at hz'
    exact case_pad g hB file c hc es fs1 t p fs2 hfs k z n _ hz hk (Nat.add_le_add_left hi6 _)
      (by rw [htake, hz', List.append_assoc, ← zeros_add]) hlen
  · obtain ⟨hF1, _, hcur, hLL⟩ := ctx_facts g c hc es fs1 t p fs2 hfs
    have hkl := List.length_take_of_le hk
    rw [htake] at hkl
    simp only [List.length_append, length_zeros, hil, Nat.add_assoc] at hkl
    obtain ⟨hlo, hhi⟩ := cut_in_frame hLL hkl (hdr_lt (Nat.add_le_add_left hi6 _))
    -- the torn header and the rest of its block: a junk slot that ends with the block
    have hE1 := endPos_layout g c hc fs1 hF1
    obtain ⟨ch, hch⟩ : ∃ ch, hdrPos g (endPos g c fs1) % g.B = ch := ⟨_, rfl⟩
    have hroom : ch + 7 ≤ g.B := by
      have := hdrPos_room g (endPos g c fs1); have := Nat.mod_lt (hdrPos g (endPos g c fs1)) (Bpos g); omega
    obtain ⟨len, hlen'⟩ : ∃ len, g.B - ch - 7 = len := ⟨_, rfl⟩
    obtain ⟨q1, q2, q3, q4, q5⟩ := tape_snoc g file c fs1
      ((file, (t, zeros len)), some ((encodeHeader t p).take i ++ zeros (7 + len - i))) hF1
      (by rw [hcur, hE1, maxFrameLen_hdr, hch, hlen']; exact Nat.le_of_eq (length_zeros len)) rfl
      (fun L hL r hr => Or.inr ⟨(encodeHeader t p).take i, Nat.le_trans (Nat.le_of_eq hil) hi6,
        Bool.eq_false_iff.mpr hzero, by rw [← Option.some.inj hr, hil, length_zeros],
        by rw [hch, length_zeros]; omega, hL⟩)
    have hzs : 7 + len - i ≤ z ∧ 7 ≤ z - (7 + len - i) := by omega
    refine tape_j1 g hB file c hc es fs1 t p fs2 hfs k z n [RdEv.corrupt file] (Or.inr rfl) _ q4 q1 q2 q3
      (z - (7 + len - i)) hzs.2 ?_ hlen hlo hhi
    rw [htake, q5]
    have : zeros z = zeros (7 + len - i) ++ zeros (z - (7 + len - i)) := by
      rw [← zeros_add, Nat.add_sub_cancel' hzs.1]
    rw [this]
    simp only [slot, Option.getD_some, List.append_assoc]

/-- the zeros left of `z ≥ B + 7` after the lost tail of a payload (at most `B - 7` bytes) was
    filled with zeros: still a header of them, where the reader stops -/
theorem zeros_left {B z n : Nat} (hz : B + 7 ≤ z) (hn : n ≤ B - 7) (i : Nat) :
    7 ≤ z - (n - i) ∧ n - i ≤ z := by omega

theorem take_full_frame (fs1 : List Frm) (t : FrameType) (p : Bytes) (fs2 : List Frm) :
    (layoutBufs g c (fs1 ++ (t, p) :: fs2)).flatten.take (layoutBufs g c (fs1 ++ [(t, p)])).flatten.length =
      (layoutBufs g c fs1).flatten ++ (zeros (padLen g (endCursor g c fs1)) ++ encodeFrame t p) := by
  rw [List.append_cons fs1 _ fs2, layoutBufs_append g c (fs1 ++ [(t, p)]), List.flatten_append,
    List.take_left' rfl, layoutBufs_append, List.flatten_append, layout_cons_flatten]
  simp only [layoutBufs, List.flatten_nil, List.append_nil]

include hB in
theorem case_payload (hT : TornOK g c hc es) (fs1 : List Frm) (t : FrameType) (p : Bytes) (fs2 : List Frm)
    (hfs : framesOf g c hc es = fs1 ++ (t, p) :: fs2) (k z n i : Nat) (hz : g.B + 7 ≤ z)
    (hk : k ≤ (C07.writeEntriesBufs g c hc es).flatten.length) (hi : i < p.length)
    (htake : (C07.writeEntriesBufs g c hc es).flatten.take k =
      (layoutBufs g c fs1).flatten ++ zeros (padLen g (endCursor g c fs1)) ++ encodeHeader t p ++ p.take i)
    (hlen : (zeros c ++ ((C07.writeEntriesBufs g c hc es).flatten.take k ++ zeros z)).length = (n + 1) * g.B) :
    Goal g file c hc es k (zeros c ++ ((C07.writeEntriesBufs g c hc es).flatten.take k ++ zeros z)) n := by
  obtain ⟨hF1, hF2, hcur, hLL⟩ := ctx_facts g c hc es fs1 t p fs2 hfs
  obtain ⟨hD7, hzle⟩ := zeros_left hz (Nat.le_trans hF2 (maxFrameLen_le g _)) i
  have hkl := List.length_take_of_le hk
  rw [htake] at hkl
  simp only [List.length_append, length_zeros, length_encodeHeader, List.length_take,
    Nat.min_eq_left (Nat.le_of_lt hi), Nat.add_assoc] at hkl
  obtain ⟨hlo, hhi⟩ := cut_in_frame hLL hkl (Nat.add_lt_add_left (Nat.add_lt_add_left hi 7) _)
  -- with the lost tail the cut is at the end of the frame
  have hkd : k + (p.length - i) = (layoutBufs g c (fs1 ++ [(t, p)])).flatten.length := by
    rw [hLL, ← hkl]; simp only [Nat.add_assoc, Nat.add_sub_cancel' (Nat.le_of_lt hi)]
  have hzsplit : zeros z = zeros (p.length - i) ++ zeros (z - (p.length - i)) := by
    rw [← zeros_add, Nat.add_sub_cancel' hzle]
  by_cases hp : p.take i ++ zeros (p.length - i) = p
  · -- the lost tail was zeros anyway: the frame is complete
    obtain ⟨p1, p2, p3, p4⟩ := tape_plain g file c (fs1 ++ [(t, p)]) ((Fits_append g c fs1 _).mpr ⟨hF1, hF2, trivial⟩)
    have hS : (C07.writeEntriesBufs g c hc es).flatten.take k ++ zeros z =
        flatJ g c (plain (tagC file (fs1 ++ [(t, p)]))) ++ zeros (z - (p.length - i)) := by
      rw [htake, p4, layoutBufs_append, List.flatten_append, layout_cons_flatten, hzsplit]
      simp only [layoutBufs, List.flatten_nil, List.append_nil, encodeFrame, List.append_assoc]
      rw [← List.append_assoc (p.take i), hp]
    obtain ⟨j1, gp1, gs', hj, h1, h2, h3⟩ := next_frame g es c hc fs1 t p fs2 hfs
    have hm := count_cut g es c hc fs1 t p j1 gp1 gs' k hj h1 h3 hlo hhi
    cases gs' with
    | nil =>
      -- it was the last frame of entry `j1`: that entry is delivered
      have hfull : framesOf g c hc (es.take (j1 + 1)) = fs1 ++ [(t, p)] := by rw [h3, h1]; simp only [List.append_assoc]
      have hG := (framesOf_spec g (es.take (j1 + 1)) c hc).2.1
      have hfin := finish g hB file c hc (es.take (j1 + 1)) _ [] hG (Or.inl rfl) [] (Or.inl rfl) _
        (by rw [evsJ_tagC, hfull]; simp only [List.append_nil]) p1 p2 p3 _ n _ hlen (by rw [hS]) hD7
      refine ⟨j1 + 1, _, Or.inr (by rw [hm]), fun _ => ⟨p.length - i, ?_, ?_⟩, hfin⟩
      · rw [htake, writeEntriesBufs_flatten, hfs, hkd, take_full_frame]
        unfold encodeFrame
        simp only [List.append_assoc]
        rw [hp]
      · rw [hm]
        apply wholeCount_eq g es c hc _ (j1 + 1) hj
        · rw [← layout_length_prefix, hfull, hkd]; exact Nat.le_refl _
        · intro hlt
          obtain ⟨grp, hs, hEg⟩ := framesOf_take_succ g es c hc (j1 + 1) hlt
          rw [← layout_length_prefix, hs, layout_length_append, hfull, hkd]
          cases grp with
          | nil => exact hEg.elim
          | cons a l => exact Nat.lt_add_of_pos_right (layout_cons_pos g _ a l)
    | cons a gs' =>
      -- a First/Middle frame: nothing more is delivered
      have hG := (framesOf_spec g (es.take j1) c hc).2.1
      have hfin := finish g hB file c hc (es.take j1) _ (gp1 ++ [(t, p)]) hG
        (Or.inr ⟨a :: gs', List.cons_ne_nil _ _, by simpa only [List.append_assoc, List.cons_append, List.nil_append] using h2⟩) [] (Or.inl rfl) _
        (by rw [evsJ_tagC, h1]; simp only [List.append_assoc, List.append_nil]) p1 p2 p3 _ n _ hlen (by rw [hS]) hD7
      exact goal_whole g file c hc es hm hfin
  · -- the payload changed: the checksum fails, the frame is a junk slot
    have hmem : encodeFrame t p ∈ C07.writeEntriesBufs g c hc es := by
      rw [(framesOf_spec g es c hc).1]
      exact mem_layout g t p _ c (by rw [hfs]; simp only [List.mem_append, List.mem_cons, true_or, or_true])
    have hcrc := hT.frame hmem i hi hp
    obtain ⟨q1, q2, q3, q4, q5⟩ := tape_snoc g file c fs1
      ((file, (t, p.take i ++ zeros (p.length - i))), some (tornFrame t p i).bytes) hF1
      (by rw [tornFrame_len p i hi]; exact hF2) rfl
      (fun L _ r hr => Or.inl ⟨leBytes (frameCrc t p) 4, length_leBytes _ _, (Option.some.inj hr).symm,
        by have := tornFrame_ev t p i; rwa [if_neg hcrc] at this⟩)
    refine tape_j1 g hB file c hc es fs1 t p fs2 hfs k z n [RdEv.corrupt file] (Or.inr rfl) _ q4 q1 q2 q3 _
      hD7 ?_ hlen hlo hhi
    rw [htake, q5, hzsplit]
    simp only [slot, Option.getD_some, tornFrame_bytes t p i hi, List.append_assoc]

include hB in
theorem case_end (k z n : Nat) (hz : g.B + 7 ≤ z)
    (hk : k = (C07.writeEntriesBufs g c hc es).flatten.length)
    (hlen : (zeros c ++ ((C07.writeEntriesBufs g c hc es).flatten.take k ++ zeros z)).length = (n + 1) * g.B) :
    Goal g file c hc es k (zeros c ++ ((C07.writeEntriesBufs g c hc es).flatten.take k ++ zeros z)) n := by
  have htl : es.take es.length = es := List.take_length
  have hm : wholeCount g c hc es k = es.length := by
    apply wholeCount_eq g es c hc k es.length (Nat.le_refl _)
    · unfold prefixLen; rw [htl, totalLen_eq, hk]; exact Nat.le_refl _
    · exact fun h => absurd h (Nat.lt_irrefl _)
  obtain ⟨_, hG, hF⟩ := framesOf_spec g es c hc
  obtain ⟨p1, p2, p3, p4⟩ := tape_plain g file c _ hF
  have hfin := finish g hB file c hc (es.take es.length) (framesOf g c hc es) []
    (by rw [htl]; exact hG) (Or.inl rfl) [] (Or.inl rfl) _ (by rw [evsJ_tagC]; simp only [List.append_nil])
    p1 p2 p3 _ n z hlen (by rw [p4, hk, List.take_length, writeEntriesBufs_flatten]) (z7 g hz)
  exact goal_whole g file c hc es hm hfin

include hB in
theorem crash_master (hT : TornOK g c hc es) (k z n : Nat) (hz : g.B + 7 ≤ z)
    (hk : k ≤ (C07.writeEntriesBufs g c hc es).flatten.length)
    (hlen : (zeros c ++ ((C07.writeEntriesBufs g c hc es).flatten.take k ++ zeros z)).length = (n + 1) * g.B) :
    Goal g file c hc es k (zeros c ++ ((C07.writeEntriesBufs g c hc es).flatten.take k ++ zeros z)) n := by
  by_cases hlt : k < (C07.writeEntriesBufs g c hc es).flatten.length
  · have hlt' := hlt
    rw [writeEntriesBufs_flatten] at hlt'
    obtain ⟨fs1, t, p, fs2, hfs, hcase⟩ := cut_frames g (framesOf g c hc es) c k hlt'
    rw [← writeEntriesBufs_flatten] at hcase
    rcases hcase with ⟨d, hd, he⟩ | ⟨i, hi2, he⟩ | ⟨i, hi, he⟩
    · exact case_pad g hB file c hc es fs1 t p fs2 hfs k z n d hz hk (Nat.le_trans hd (Nat.le_add_right _ 6)) he hlen
    · exact case_hdr g hB file c hc es fs1 t p fs2 hfs k z n i hz hk hi2 he hlen
    · exact case_payload g hB file c hc es hT fs1 t p fs2 hfs k z n i hz hk hi he hlen
  · exact case_end g hB file c hc es k z n hz (Nat.le_antisymm hk (Nat.le_of_not_lt hlt)) hlen

end

end MRL.Torn
