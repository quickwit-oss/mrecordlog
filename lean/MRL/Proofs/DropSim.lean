/-
C09 (replay level): the simulation. `L` is the exact replay of the whole journal (the in-memory
queues of the history), `A` the replay of the entries located in the tracked files, `B` the same
replay with one entry erased. Per queue name, relation `T`:
* `A` lags behind `L` only by a prefix of records (entries in deleted files): same next position;
* `B` has every record of `A` that the erased entry did not append, and a next position not above
  `A`'s; if `B` lacks the queue, all of `A`'s records come from the erased entry; if only `B` has
  it (erased `delete`), the queue does not exist in `L` — the next entry on it is a creation,
  whose `ack_position` resets it.
Every entry the API can write in state `L` (`OkQ`) keeps `T`, and `B`'s step never fails.
-/
import MRL.Proofs.RecReplay
import MRL.Proofs.DropRun

namespace MRL.Drop
open Log C05 Rec

/-- `OkEntry` seen from the addressed queue -/
def OkQ (Lq : Option MemQueue) : Entry → Prop
  | .append _ pos recs => (∃ z, Lq = some z) ∧ ∃ pls, pls ≠ [] ∧ recs = numberFrom pos pls
  | .truncate _ _ => ∃ z, Lq = some z
  | .touch _ n => (Lq = none ∧ n = 0) ∨ (∃ z, Lq = some z ∧ z.recs = [] ∧ z.nextPosition = n)
  | .delete _ _ => ∃ z, Lq = some z

theorem okEntry_okQ (lq : MemQueues) (e : Entry) : OkEntry lq e ↔ OkQ (lq.get? e.queue) e := by
  cases e <;> exact Iff.rfl

def Rel2 (Lq Aq : Option MemQueue) : Prop :=
  match Aq with
  | none => True
  | some x => ∃ z, Lq = some z ∧ x.nextPosition = z.nextPosition ∧ plain x <:+ plain z

/-- the three-way relation for one queue name; `Er` = the records the erased entry appended to it -/
def T (Er : List (Nat × Bytes)) (Lq Aq Bq : Option MemQueue) : Prop :=
  Rel2 Lq Aq ∧
  match Aq, Bq with
  | none, none => True
  | some x, none => ∀ r ∈ plain x, r ∈ Er
  | none, some _ => Lq = none
  | some x, some y => y.nextPosition ≤ x.nextPosition ∧ ∀ r ∈ plain x, r ∉ Er → r ∈ plain y

theorem T_self (Er : List (Nat × Bytes)) {Lq Aq : Option MemQueue} (h : Rel2 Lq Aq) : T Er Lq Aq Aq := by
  refine ⟨h, ?_⟩
  cases Aq with
  | none => trivial
  | some x => exact ⟨Nat.le_refl _, fun r hr _ => hr⟩

def erasedOf : Entry → List (Nat × Bytes)
  | .append _ _ recs => recs
  | _ => []

theorem follow_truncate {z : MemQueue} {Aq : Option MemQueue} (p : Nat) (hR : Rel2 (some z) Aq)
    (hz : QInv z) (hwA : ∀ x, Aq = some x → QInv x) :
    Rel2 (some (z.truncateHead p).1) (Aq.map fun x => (x.truncateHead p).1) := by
  cases Aq with
  | none => trivial
  | some x =>
    obtain ⟨z', hz', hn, hs⟩ := hR
    cases hz'
    have hx := truncate_plain x p (hwA x rfl)
    have hz := truncate_plain z p hz
    exact ⟨_, rfl, by rw [hx.2, hz.2, hn], by rw [hx.1, hz.1]; exact hs.filter _⟩

theorem follow_append {z : MemQueue} {Aq Lq' : Option MemQueue} {fL : Nat} (fA : Nat) {q : Bytes}
    {pos : Nat} {pls : List Bytes} (hne : pls ≠ [])
    (hL : Entry.slot fL (.append q pos (numberFrom pos pls)) (some z) = some Lq') (hR : Rel2 (some z) Aq)
    (hz : QInv z) (hwA : ∀ x, Aq = some x → QInv x) :
    ∃ x', Entry.slot fA (.append q pos (numberFrom pos pls)) Aq = some (some x') ∧ Rel2 Lq' (some x') ∧
      plain x' = (Aq.map plain).getD [] ++ numberFrom pos pls ∧
      x'.nextPosition = pos + pls.length ∧ ∀ x, Aq = some x → x.nextPosition ≤ pos := by
  have hzle : z.nextPosition ≤ pos := by
    simp only [Entry.slot, Option.getD_some] at hL
    cases hz' : appendAll z fL (numberFrom pos pls) with
    | none => rw [hz'] at hL; cases hL
    | some z' => exact appendAll_le hne hz'
  obtain ⟨z', hz', hzp, hzn⟩ := slot_append (some z) fL q pos pls hne
    (fun y hy => by cases hy; exact ⟨hz, hzle⟩)
  rw [hL] at hz'; cases hz'
  have hzp : plain z' = plain z ++ numberFrom pos pls := hzp
  -- `A`'s records are a suffix of `L`'s, and `A` is where `L` is
  have hA : ∀ x, Aq = some x → x.nextPosition ≤ pos ∧ plain x <:+ plain z := by
    intro x hx; subst hx
    obtain ⟨z0, hz0, hn, hs⟩ := hR
    cases hz0
    exact ⟨hn ▸ hzle, hs⟩
  obtain ⟨x', hx', hxp, hxn⟩ := slot_append Aq fA q pos pls hne
    (fun x hx => ⟨hwA x hx, (hA x hx).1⟩)
  refine ⟨x', hx', ⟨_, rfl, by rw [hxn, hzn], ?_⟩, hxp, hxn, fun x hx => (hA x hx).1⟩
  have hs : (Aq.map plain).getD [] <:+ plain z := by
    cases Aq with
    | none => exact List.nil_suffix
    | some x => exact (hA x rfl).2
  obtain ⟨t, ht⟩ := hs
  rw [hxp, hzp]
  exact ⟨t, by rw [← ht, List.append_assoc]⟩

/-- `fL`, `fA`: the live replay attributes the entry as the journal does, the two replays from `F` as the reader
    does (`max attr F`). `T` speaks of `plain` records and next positions only, so the files never meet. -/
theorem sim_q (Er : List (Nat × Bytes)) (e : Entry) (fL fA : Nat) (Lq Aq Bq Lq' : Option MemQueue)
    (hok : OkQ Lq e) (hL : Entry.slot fL e Lq = some Lq') (hT : T Er Lq Aq Bq)
    (hwL : ∀ z, Lq = some z → QInv z) (hwA : ∀ z, Aq = some z → QInv z) (hwB : ∀ z, Bq = some z → QInv z) :
    ∃ Aq' Bq', Entry.slot fA e Aq = some Aq' ∧ Entry.slot fA e Bq = some Bq' ∧ T Er Lq' Aq' Bq' := by
  obtain ⟨hR, hM⟩ := hT
  cases e with
  | touch q p =>
    simp only [Entry.slot, Option.some.injEq] at hL; subst hL
    refine ⟨_, _, rfl, rfl, ⟨_, rfl, rfl, List.suffix_refl _⟩, Nat.le_refl _, fun r hr _ => hr⟩
  | delete q p =>
    simp only [Entry.slot, Option.some.injEq] at hL; subst hL
    exact ⟨_, _, rfl, rfl, trivial, trivial⟩
  | truncate q p =>
    obtain ⟨z, rfl⟩ := hok
    simp only [Entry.slot, Option.map_some, Option.some.injEq] at hL; subst hL
    refine ⟨_, _, rfl, rfl, follow_truncate p hR (hwL z rfl) hwA, ?_⟩
    cases Aq with
    | none =>
      cases Bq with
      | none => trivial
      | some y => simp only at hM; cases hM
    | some x =>
      have hx := truncate_plain x p (hwA x rfl)
      cases Bq with
      | none =>
        intro r hr
        rw [hx.1] at hr
        exact hM r (List.mem_filter.mp hr).1
      | some y =>
        have hy := truncate_plain y p (hwB y rfl)
        refine ⟨?_, ?_⟩
        · rw [hy.2, hx.2]
          exact Nat.max_le.mpr ⟨Nat.le_trans hM.1 (Nat.le_max_left _ _), Nat.le_max_right _ _⟩
        intro r hr hne
        rw [hx.1] at hr; rw [hy.1]
        obtain ⟨h1, h2⟩ := List.mem_filter.mp hr
        exact List.mem_filter.mpr ⟨hM.2 r h1 hne, h2⟩
  | append q pos recs =>
    obtain ⟨⟨z, rfl⟩, pls, hne, rfl⟩ := hok
    obtain ⟨x', hx', hR', hxp, hxn, hxle⟩ := follow_append fA hne hL hR (hwL z rfl) hwA
    -- `B` is not ahead of `A`, and holds what `A` holds apart from the erased records
    have hB : (∀ y, Bq = some y → y.nextPosition ≤ pos) ∧
        ∀ r ∈ (Aq.map plain).getD [], r ∉ Er → r ∈ (Bq.map plain).getD [] := by
      cases Aq with
      | none =>
        cases Bq with
        | none => exact ⟨nofun, nofun⟩
        | some y => simp only at hM; cases hM
      | some x =>
        cases Bq with
        | none => exact ⟨nofun, fun r hr hnot => absurd (hM r hr) hnot⟩
        | some y =>
          exact ⟨fun y' hy' => by cases hy'; exact Nat.le_trans hM.1 (hxle x rfl), hM.2⟩
    obtain ⟨y', hy', hyp, hyn⟩ := slot_append Bq fA q pos pls hne
      (fun y hy => ⟨hwB y hy, hB.1 y hy⟩)
    refine ⟨_, _, hx', hy', hR', by rw [hyn, hxn]; exact Nat.le_refl _, ?_⟩
    intro r hr hnot
    rw [hxp] at hr; rw [hyp]
    rcases List.mem_append.mp hr with h | h
    · exact List.mem_append_left _ (hB.2 r h hnot)
    · exact List.mem_append_right _ h

/-- the erased entry: applied to `L` and `A`, not to `B` (which was equal to `A`) -/
theorem erase_q (e : Entry) (fL fA : Nat) (Lq Aq Lq' : Option MemQueue)
    (hok : OkQ Lq e) (hL : Entry.slot fL e Lq = some Lq') (hR : Rel2 Lq Aq)
    (hwL : ∀ z, Lq = some z → QInv z) (hwA : ∀ z, Aq = some z → QInv z) :
    ∃ Aq', Entry.slot fA e Aq = some Aq' ∧ T (erasedOf e) Lq' Aq' Aq := by
  cases e with
  | touch q p =>
    simp only [Entry.slot, Option.some.injEq] at hL; subst hL
    refine ⟨_, rfl, ⟨_, rfl, rfl, List.suffix_refl _⟩, ?_⟩
    cases Aq with
    | none => intro r hr; cases hr
    | some x =>
      obtain ⟨z, hz, hn, hs⟩ := hR
      subst hz
      rcases hok with ⟨h, _⟩ | ⟨z', hz', he, hnx⟩
      · cases h
      · cases hz'
        refine ⟨by rw [hn, hnx]; exact Nat.le_refl _, fun r hr _ => by cases hr⟩
  | delete q p =>
    simp only [Entry.slot, Option.some.injEq] at hL; subst hL
    refine ⟨_, rfl, trivial, ?_⟩
    cases Aq with
    | none => trivial
    | some x => rfl
  | truncate q p =>
    obtain ⟨z, rfl⟩ := hok
    simp only [Entry.slot, Option.map_some, Option.some.injEq] at hL; subst hL
    refine ⟨_, rfl, follow_truncate p hR (hwL z rfl) hwA, ?_⟩
    cases Aq with
    | none => trivial
    | some x =>
      have hx := truncate_plain x p (hwA x rfl)
      refine ⟨by rw [hx.2]; exact Nat.le_max_left _ _, ?_⟩
      intro r hr _
      rw [hx.1] at hr
      exact (List.mem_filter.mp hr).1
  | append q pos recs =>
    obtain ⟨⟨z, rfl⟩, pls, hne, rfl⟩ := hok
    obtain ⟨x', hx', hR', hxp, hxn, hxle⟩ := follow_append fA hne hL hR (hwL z rfl) hwA
    refine ⟨_, hx', hR', ?_⟩
    cases Aq with
    | none => intro r hr; rw [hxp] at hr; exact hr
    | some x =>
      refine ⟨by rw [hxn]; exact Nat.le_trans (hxle x rfl) (Nat.le_add_right _ _), ?_⟩
      intro r hr hnot
      rw [hxp] at hr
      rcases List.mem_append.mp hr with h | h
      · exact h
      · exact absurd h hnot

/-- the invariant on the three maps; `nx` is the queue the erased entry addresses -/
def Inv3 (Er : List (Nat × Bytes)) (nx : Bytes) (L A B : MemQueues) : Prop :=
  QsWF L ∧ QsWF A ∧ QsWF B ∧ ∀ n, T (if n = nx then Er else []) (L.get? n) (A.get? n) (B.get? n)

theorem inv3_step {Er : List (Nat × Bytes)} {nx : Bytes} {L A B L' : MemQueues} {e : Entry} {fL fA : Nat}
    (hok : OkEntry L e) (hL : replayEntry L fL e = some L') (hI : Inv3 Er nx L A B) :
    ∃ A' B', replayEntry A fA e = some A' ∧ replayEntry B fA e = some B' ∧ Inv3 Er nx L' A' B' := by
  obtain ⟨wL, wA, wB, hT⟩ := hI
  obtain ⟨hL1, hL2⟩ := replayEntry_get? hL
  obtain ⟨Aq', Bq', hA, hB, hT'⟩ := sim_q _ e fL fA _ _ _ _ ((okEntry_okQ L e).mp hok) hL1 (hT e.queue)
    (fun z hz => wL _ z hz) (fun z hz => wA _ z hz) (fun z hz => wB _ z hz)
  obtain ⟨A', hA', hA1, hA2⟩ := replayEntry_of_slot hA
  obtain ⟨B', hB', hB1, hB2⟩ := replayEntry_of_slot hB
  refine ⟨A', B', hA', hB', replayEntry_wf wL hL, replayEntry_wf wA hA', replayEntry_wf wB hB', ?_⟩
  intro n
  by_cases hn : n = e.queue
  · subst hn; rw [hA1, hB1]; exact hT'
  · rw [hL2 n hn, hA2 n hn, hB2 n hn]; exact hT n

theorem inv3_erase {L A L' : MemQueues} {e : Entry} {fL fA : Nat}
    (hok : OkEntry L e) (hL : replayEntry L fL e = some L') (hI : Inv3 (erasedOf e) e.queue L A A) :
    ∃ A', replayEntry A fA e = some A' ∧ Inv3 (erasedOf e) e.queue L' A' A := by
  obtain ⟨wL, wA, _, hT⟩ := hI
  obtain ⟨hL1, hL2⟩ := replayEntry_get? hL
  obtain ⟨Aq', hA, hT'⟩ := erase_q e fL fA _ _ _ ((okEntry_okQ L e).mp hok) hL1 (hT e.queue).1
    (fun z hz => wL _ z hz) (fun z hz => wA _ z hz)
  obtain ⟨A', hA', hA1, hA2⟩ := replayEntry_of_slot hA
  refine ⟨A', hA', replayEntry_wf wL hL, replayEntry_wf wA hA', wA, ?_⟩
  intro n
  by_cases hn : n = e.queue
  · subst hn; rw [hA1]; simpa using hT'
  · rw [hL2 n hn, hA2 n hn]; exact hT n

theorem inv3_run {Er : List (Nat × Bytes)} {nx : Bytes} {F : Nat} {L L' : MemQueues} {js : List JE}
    (hrun : Run L js L') : ∀ {A B : MemQueues}, (∀ j ∈ js, F ≤ j.loc) → Inv3 Er nx L A B →
    ∃ A' B', replayJ F A js = some A' ∧ replayJ F B js = some B' ∧ Inv3 Er nx L' A' B' := by
  induction hrun with
  | nil => intro A B _ hI; exact ⟨A, B, rfl, rfl, hI⟩
  | @cons lq lq' lq'' j js hok hr _ ih =>
    intro A B hloc hI
    obtain ⟨A1, B1, hA1, hB1, hI1⟩ := inv3_step (fA := max j.attr F) hok hr hI
    obtain ⟨A', B', hA', hB', hI'⟩ := ih (fun j' hj' => hloc j' (List.mem_cons_of_mem _ hj')) hI1
    refine ⟨A', B', ?_, ?_, hI'⟩
    · rw [replayJ_cons_ge F A j js (hloc j List.mem_cons_self), hA1]; exact hA'
    · rw [replayJ_cons_ge F B j js (hloc j List.mem_cons_self), hB1]; exact hB'

end MRL.Drop
