/-
Two logs with the same abstract state (same names, positions, payloads and next positions — the
file handles left out) behave the same: every call returns the same logical outcome on both and
leaves them with the same abstract state again. (Through the specification of C05.)
-/
import MRL.Props.C05
import MRL.Proofs.HAbs

namespace MRL.L
open C05 H

def SpecEq (s1 s2 : Spec) : Prop := ∀ n, Spec.get? s1 n = Spec.get? s2 n

theorem SpecEq.set {s1 s2 : Spec} (h : SpecEq s1 s2) (q : Bytes) (v : SQueue) :
    SpecEq (s1.set q v) (s2.set q v) :=
  AL.rel_set (R := (· = ·)) h q rfl

theorem SpecEq.remove {s1 s2 : Spec} (h : SpecEq s1 s2) (q : Bytes) :
    SpecEq (s1.remove q) (s2.remove q) :=
  AL.rel_remove (R := (· = ·)) h q rfl

theorem ite_congr {P : Prop} [Decidable P] {a1 a2 b1 b2 : Spec × Spec.LOutcome}
    (ha : a1.2 = a2.2 ∧ SpecEq a1.1 a2.1) (hb : b1.2 = b2.2 ∧ SpecEq b1.1 b2.1) :
    (if P then a1 else b1).2 = (if P then a2 else b2).2 ∧
      SpecEq (if P then a1 else b1).1 (if P then a2 else b2).1 := by
  by_cases hP : P
  · rw [if_pos hP, if_pos hP]; exact ha
  · rw [if_neg hP, if_neg hP]; exact hb

/-- the specification does not see the order of the queues -/
theorem spec_step_congr {s1 s2 : Spec} (h : SpecEq s1 s2) (c : Call) :
    (Spec.step s1 c).2 = (Spec.step s2 c).2 ∧ SpecEq (Spec.step s1 c).1 (Spec.step s2 c).1 := by
  cases c with
  | create q =>
    simp only [Spec.step, h q]
    cases Spec.get? s2 q with
    | some _ => exact ⟨rfl, h⟩
    | none => exact ⟨rfl, h.set q {}⟩
  | delete q =>
    simp only [Spec.step, h q]
    cases Spec.get? s2 q with
    | none => exact ⟨rfl, h⟩
    | some _ => exact ⟨rfl, h.remove q⟩
  | append q pos? pls =>
    simp only [Spec.step, h q]
    cases Spec.get? s2 q with
    | none => exact ⟨rfl, h⟩
    | some sq =>
      cases pos? with
      | some p => exact ite_congr ⟨rfl, h⟩ (ite_congr ⟨rfl, h⟩ (ite_congr ⟨rfl, h⟩ ⟨rfl, h.set q _⟩))
      | none => exact ite_congr ⟨rfl, h⟩ ⟨rfl, h.set q _⟩
  | truncate q p =>
    simp only [Spec.step, h q]
    cases Spec.get? s2 q with
    | none => exact ⟨rfl, h⟩
    | some sq => exact ⟨rfl, h.set q _⟩
  | persist a => exact ⟨rfl, h⟩

theorem absEq_iff_specEq (l1 l2 : Log) : AbsEq l1.queues l2.queues ↔ SpecEq l1.abs l2.abs := by
  constructor
  · intro h n; rw [abs_get_eq, abs_get_eq]; exact h n
  · intro h n; have := h n; rwa [abs_get_eq, abs_get_eq] at this

theorem absEq_step (g : Geom) {l1 l2 : Log} (h1 : Inv l1) (h2 : Inv l2) (h : AbsEq l1.queues l2.queues)
    (c : Call) (tick1 tick2 : Bool) (order1 order2 : List Bytes) :
    (l1.step g c tick1 order1).2.1.logical = (l2.step g c tick2 order2).2.1.logical ∧
    AbsEq (l1.step g c tick1 order1).1.queues (l2.step g c tick2 order2).1.queues ∧
    Inv (l1.step g c tick1 order1).1 ∧ Inv (l2.step g c tick2 order2).1 := by
  obtain ⟨a1, a2, a3⟩ := C05_refines g l1 h1 c tick1 order1
  obtain ⟨b1, b2, b3⟩ := C05_refines g l2 h2 c tick2 order2
  obtain ⟨c1, c2⟩ := spec_step_congr ((absEq_iff_specEq l1 l2).mp h) c
  refine ⟨by rw [a2, b2, c1], ?_, a3, b3⟩
  rw [absEq_iff_specEq]
  rw [a1, b1]; exact c2

/-- a run of calls, each with its oracles; returns the final log and the logical outcomes -/
def runL (g : Geom) (l : Log) : List (Call × Bool × List Bytes) → Log × List Spec.LOutcome
  | [] => (l, [])
  | (c, tick, order) :: cs =>
    let r := l.step g c tick order
    let rest := runL g r.1 cs
    (rest.1, r.2.1.logical :: rest.2)

/-- the same calls, whatever the oracles -/
def SameCalls : List (Call × Bool × List Bytes) → List (Call × Bool × List Bytes) → Prop
  | [], [] => True
  | a :: as, b :: bs => a.1 = b.1 ∧ SameCalls as bs
  | _, _ => False

theorem absEq_run (g : Geom) : ∀ (cs1 cs2 : List (Call × Bool × List Bytes)) {l1 l2 : Log},
    SameCalls cs1 cs2 → Inv l1 → Inv l2 → AbsEq l1.queues l2.queues →
    (runL g l1 cs1).2 = (runL g l2 cs2).2 ∧ AbsEq (runL g l1 cs1).1.queues (runL g l2 cs2).1.queues
  | [], [], _, _, _, _, _, h => ⟨rfl, h⟩
  | [], _ :: _, _, _, hs, _, _, _ => hs.elim
  | _ :: _, [], _, _, hs, _, _, _ => hs.elim
  | (c1, t1, o1) :: cs1, (c2, t2, o2) :: cs2, l1, l2, hs, h1, h2, h => by
    obtain ⟨hc, hs'⟩ := hs
    simp only at hc
    subst hc
    obtain ⟨a1, a2, a3, a4⟩ := absEq_step g h1 h2 h c1 t1 t2 o1 o2
    obtain ⟨b1, b2⟩ := absEq_run g cs1 cs2 hs' a3 a4 a2
    exact ⟨by simp only [runL]; rw [a1, b1], b2⟩

end MRL.L
