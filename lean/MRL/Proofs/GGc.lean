/-
The disk invariant `DInvF` and its preservation by one entry write, by the GC touches and by a
whole GC pass (`runGc`: touches, flush+fsync, unlinks). The entry write and the unlinks are
`L.entry_extX` and `L.gc_diskX` on a tape without junk (`entry_xinv`, `gc_disk`), the touches are
`L.touches_fold`: this module stands above `LCut` and `LEntry`.
-/
import MRL.Proofs.LCut
import MRL.Proofs.JSuffix
import MRL.Proofs.LEntry

namespace MRL.G
open Log L

/-- The disk `D` holds the frames of the retained part of the journal `J`; first file `F`. Last
    clause: the writer stands right behind the last frame, or — after a restart, when it stands
    behind the padding — not at the end of a file, so that the next frame starts in this file. -/
def DInvF (g : Geom) (l : Log) (D : Image) (J : List JE) (F : Nat) : Prop :=
  ∃ init t afs, Tape g l D F init t ∧ FLay g F (init.flatten ++ t) afs ∧ Segs F J afs ∧
    CurTag afs l.cur ∧ ((init.flatten ++ t).length = endPos g 0 (untag afs) ∨ l.off < g.fileBytes)

theorem Tape.congr {g : Geom} {l l' : Log} {D : Image} {F : Nat} {init : List Bytes} {t : Bytes}
    (h : Tape g l D F init t) (hf : l'.files = l.files) (hc : l'.cur = l.cur) (ho : l'.off = l.off) :
    Tape g l' D F init t := (h.tapeR.congr hf hc ho).to_tapeX.to_tape

theorem DInvF.congr {g : Geom} {l l' : Log} {D : Image} {J : List JE} {F : Nat}
    (h : DInvF g l D J F) (hf : l'.files = l.files) (hc : l'.cur = l.cur) (ho : l'.off = l.off) :
    DInvF g l' D J F := by
  obtain ⟨init, t, afs, h1, h2, h3, h4, h5⟩ := h
  exact ⟨init, t, afs, h1.congr hf hc ho, h2, h3, by rw [hc]; exact h4, by rw [ho]; exact h5⟩

theorem DInvF.head {g : Geom} {l : Log} {D : Image} {J : List JE} {F : Nat} (h : DInvF g l D J F) :
    l.files.headD 0 = F := by
  obtain ⟨init, t, afs, h1, _⟩ := h
  exact h1.tapeR.head

theorem XInv.of_dinv {g : Geom} {l : Log} {D : Image} {J : List JE} {F : Nat} (h : DInvF g l D J F) :
    ∃ init t afs lead segs, XInv g l D F J init t afs lead segs := by
  obtain ⟨init, t, afs, h1, h2, ⟨lead, segs, a1, a2, a3, a4, a5⟩, h4, _⟩ := h
  exact ⟨init, t, afs, lead, segs, h1, h2, a1, a2, a3, a4, a5, h4⟩

theorem XInv.dinv {g : Geom} {l : Log} {D : Image} {F : Nat} {J : List JE} {init : List Bytes} {t : Bytes}
    {afs lead : List TFrm} {segs : List Seg} (h : XInv g l D F J init t afs lead segs)
    (hlen : (init.flatten ++ t).length = endPos g 0 (untag afs) ∨ l.off < g.fileBytes) : DInvF g l D J F :=
  ⟨init, t, afs, h.tape, h.lay, h.segs, h.cur, hlen⟩

/-- `L.entry_extX` on a tape without junk; the new segment is attributed to the old current file,
    where the last old frame lies (`Chain`), and ends in the new one (`CurTag`). -/
theorem entry_xinv (g : Geom) {l : Log} {D : Image} {F : Nat} {init : List Bytes} {t : Bytes}
    {J : List JE} {afs lead : List TFrm} {segs : List Seg}
    (h : XInv g l D F J init t afs lead segs) (e : Entry) :
    ∃ init' t' ntf,
      XInv g (Log.writeEntry g l e).1 (applyOsOps D (Buf.directOps (Log.writeEntry g l e).2.1)) F
        (J ++ [l.je g e]) init' t' (afs ++ ntf) lead (segs ++ [(l.je g e, ntf)]) ∧
      (init'.flatten ++ t').length = endPos g 0 (untag (afs ++ ntf)) := by
  obtain ⟨i', t', x', ntf, B, hx', hne, hlen, _, _, hxx, hlast⟩ := L.entry_extX g (L.XInvX.of_xinv h) e
  have hx0 := hxx rfl
  subst hx0
  have hx'' : L.XInvX g (Log.writeEntry g l e).1 (applyOsOps D (Buf.directOps (Log.writeEntry g l e).2.1)) F
      (J ++ [l.je g e]) i' t' false [] (L.plain (afs ++ ntf)) (L.plain lead)
      (L.plainG (segs ++ [(l.je g e, ntf)])) := by
    rw [L.plain_append, L.plainG, List.map_append]; exact hx'
  refine ⟨i', t', ntf, hx''.to_xinv (h.chain_snoc _ rfl) ?_, by rw [← L.frs_plain, L.plain_append]; exact hlen⟩
  intro a ha
  rw [List.getLast?_append] at ha
  cases hg : ntf.getLast? with
  | none => rw [List.getLast?_eq_none_iff] at hg; exact absurd hg hne
  | some a' =>
    rw [hg] at ha
    simp only [Option.some_or, Option.some.injEq] at ha
    exact ha ▸ hlast a' hg

theorem Chain.suffix : ∀ (A : List Seg) {B : List Seg}, Chain (A ++ B) → Chain B
  | [], _, h => h
  | _ :: A, _, h => Chain.suffix A (Chain.tail h)

/-- `L.gc_diskX` on a tape without junk: what is left are again frames as written and live groups,
    and a suffix of chained segments is chained. -/
theorem gc_disk (g : Geom) {l : Log} {D : Image} {F : Nat} {init : List Bytes} {t : Bytes}
    {J : List JE} {afs : List TFrm} (hT : Tape g l D F init t) (hL : FLay g F (init.flatten ++ t) afs)
    (hS : Segs F J afs) (hC : CurTag afs l.cur) (hmono : J.Pairwise (fun a b => a.loc ≤ b.loc))
    (k : Nat) (hk : k ≤ init.length) :
    ∃ afs', Tape g { l with files := List.range' (F + k) (init.length + 1 - k) }
        (applyOsOps D ((List.range' F k).map OsOp.unlink)) (F + k) (init.drop k) t ∧
      FLay g (F + k) ((init.drop k).flatten ++ t) afs' ∧ Segs (F + k) J afs' ∧ CurTag afs' l.cur ∧
      ((init.flatten ++ t).length = endPos g 0 (untag afs) →
        ((init.drop k).flatten ++ t).length = endPos g 0 (untag afs')) := by
  obtain ⟨lead, segs, hafs, hlead, hmap, hsok, hchain⟩ := hS
  obtain ⟨ais', lead', gs', hx', ⟨fa, hfa⟩, ⟨A, hA⟩, hlen⟩ :=
    gc_diskX g (XInvX.of_xinv (⟨hT, hL, hafs, hlead, hmap, hsok, hchain, hC⟩ :
      XInv g l D F J init t afs lead segs)) k hk
  -- what is left are frames as written and live groups
  have hnone : ∀ a ∈ ais', a.2 = none := fun a ha =>
    mem_plain (afs := afs) (by rw [hfa]; exact List.mem_append_right _ ha)
  obtain ⟨s1, s2, hs, _, hs2⟩ := List.map_eq_append_iff.mp hA
  subst hs2
  have hafs' : afs = tfs fa ++ tfs ais' := by
    have := congrArg tfs hfa
    rwa [tfs_plain, tfs_append] at this
  have hC' : CurTag (tfs ais') l.cur := by
    intro a ha
    apply hC a
    rw [hafs', List.getLast?_append, ha]; rfl
  have hx'' : XInvX g { l with files := List.range' (F + k) (init.length + 1 - k) }
      (applyOsOps D ((List.range' F k).map OsOp.unlink)) (F + k) J (init.drop k) t false []
      (plain (tfs ais')) (plain (tfs lead')) (plainG s2) := by
    rw [plain_tfs hnone, plain_tfs fun a ha => (hx'.hlead a ha).1]
    exact hx'
  have x' := hx''.to_xinv (Chain.suffix s1 (hs ▸ hchain)) hC'
  exact ⟨tfs ais', x'.tape, x'.lay, x'.segs, hC',
    fun h1 => hlen (by rwa [frs_plain])⟩

theorem entry_dinv (g : Geom) {l : Log} {D : Image} {J : List JE} {F : Nat} (h : DInvF g l D J F)
    (e : Entry) :
    DInvF g (Log.writeEntry g l e).1 (applyOsOps D (Buf.directOps (Log.writeEntry g l e).2.1))
      (J ++ [l.je g e]) F := by
  obtain ⟨init, t, afs, lead, segs, x⟩ := XInv.of_dinv h
  obtain ⟨i', t', ntf, x', hlen⟩ := entry_xinv g x e
  exact x'.dinv (Or.inl hlen)

theorem touches_dinv (g : Geom) (F : Nat) (names : List Bytes) (l : Log) (D : Image) (J : List JE)
    (h : DInvF g l D J F) :
    DInvF g (writeTouches g l names).1 (applyOsOps D (Buf.directOps (writeTouches g l names).2.1))
      (J ++ touchesJ g l names) F :=
  (L.touches_fold g (I := fun l D J => DInvF g l D J F) (R := fun _ _ => True)
    (fun _ _ _ e h => ⟨entry_dinv g h e, fun _ _ _ _ => .inl trivial⟩) (fun _ _ _ _ => trivial) names l D J h).1

/-- `Step.runGc_view` with the result of a pass that runs written out: the names touched are
    `Step.gcNames l order` -/
theorem runGc_full (g : Geom) (l : Log) (order : List Bytes) :
    (runGc g l order = (l, [], 0) ∧ gcJ g l order = []) ∨
    (∃ names, names = Step.gcNames l order ∧ gcJ g l order = touchesJ g l names ∧
      runGc g l order =
        ({ (writeTouches g l names).1 with
            files := (gcFiles ((writeTouches g l names).1.canDelete l.cur) (writeTouches g l names).1.files).1 },
         (writeTouches g l names).2.1 ++ (writeTouches g l names).1.persistEffects .flushAndFsync ++
           (gcFiles ((writeTouches g l names).1.canDelete l.cur) (writeTouches g l names).1.files).2.map Effect.unlink,
         (writeTouches g l names).2.2)) := by
  rcases Step.runGc_view g l order with ⟨h1, h2, _⟩ | ⟨h1, h2, _⟩
  · exact .inl ⟨h1, h2⟩
  · exact .inr ⟨_, rfl, h2, h1⟩

theorem applyOs_sync (img : Image) : applyOs img .sync = img := rfl

theorem rungc_dinv (g : Geom) {l : Log} {D : Image} {J : List JE} {F : Nat} (h : DInvF g l D J F)
    (order : List Bytes) (hmono : (J ++ gcJ g l order).Pairwise (fun a b => a.loc ≤ b.loc)) :
    ∃ F', DInvF g (runGc g l order).1 (applyOsOps D (Buf.directOps (runGc g l order).2.1))
      (J ++ gcJ g l order) F' := by
  rcases runGc_full g l order with ⟨h1, h2⟩ | ⟨names, _, h1, h2⟩
  · rw [h1, h2, List.append_nil]
    exact ⟨F, by simpa [Buf.directOps, applyOsOps] using h⟩
  · rw [h1] at hmono ⊢
    rw [h2]
    obtain ⟨init, t, afs, k1, k2, k3, k4, k5⟩ := touches_dinv g F names l D J h
    rcases hg : gcFiles ((writeTouches g l names).1.canDelete l.cur) (writeTouches g l names).1.files
      with ⟨rem, del⟩
    obtain ⟨hk, hdel, hrem⟩ := L.gcFiles_range (x := false) k1.files k1.cur l.cur hg
    obtain ⟨afs', c1, c2, c3, c4, c5⟩ := gc_disk g k1 k2 k3 k4 hmono del.length hk
    refine ⟨F + del.length, init.drop del.length, t, afs', ?_, c2, c3, c4, k5.imp c5 id⟩
    -- the flush and the fsyncs change nothing; the unlinks are those of `gc_disk`
    have hunl : Buf.directOps (del.map Effect.unlink) = (List.range' F del.length).map OsOp.unlink := by
      rw [Buf.directOps_unlinks]; conv => lhs; rw [hdel]
    simp only
    rw [Buf.directOps_append, Buf.directOps_append, Buf.applyOsOps_append, Buf.applyOsOps_append, hunl, hrem]
    exact c1

end MRL.G
