/-
Opening a disk that satisfies the disk invariant: `recoverPre` succeeds, returns the tracked
files, the writer's cursor (normalised to the next block start when fewer than 7 bytes remain in
the block), and the queues obtained by replaying the retained part of the journal. It is the read
of a tape of items (`L.read_tapeD`) on a tape without junk, where the reader's attributions are the
journal's (`L.exact_queues`).
-/
import MRL.Proofs.GGc
import MRL.Proofs.LRead

namespace MRL.G

/-- every frame of a segment is tagged with a file from `F` on, so that the attributions the
    reader makes along `segs` are the recorded ones -/
theorem attrOK_of (g : Geom) (F : Nat) (afs : List TFrm) (htag : Tagged g F 0 afs)
    (segs : List Seg) (hmem : ∀ s ∈ segs, ∀ a ∈ s.2, a ∈ afs) (hsok : ∀ s ∈ segs, SegOK s)
    (hchain : Chain segs) (hfirst : ∀ s, segs.head? = some s → s.1.attr ≤ F) : AttrOK F F segs := by
  apply AttrOK_of_chain F segs F _ hchain
  · exact fun s hs => (Nat.max_eq_right (hfirst s hs)).symm
  · intro s hs
    refine ⟨fun hnil => (hsok s hs).frames.ne_nil (by rw [hnil]; rfl), ?_⟩
    intro x hx
    obtain ⟨hh, _, _, h3⟩ := tag_pos g F afs 0 htag x (hmem s hs x hx)
    rw [h3]; exact Nat.le_add_right _ _

theorem read_disk (g : Geom) (hB : g.B ≤ 65542) {l : Log} {D : Image} {J : List JE} {F : Nat}
    (h : DInvF g l D J F) (policy : Policy) (qs : MemQueues) (hrep : replayJ F [] J = some qs)
    (hwf : ∀ j ∈ J, C07.WF j.e)
    (hfirst : ∀ j, (J.filter (fun j => decide (F ≤ j.loc))).head? = some j → j.attr ≤ F) :
    ∃ lp io, recoverPre g D policy none = .ok (lp, [.ensureLen F g.fileBytes], io) ∧
      lp.files = l.files ∧ lp.cur = l.cur ∧ lp.queues = qs ∧ lp.policy = policy ∧ DInvF g lp D J F := by
  obtain ⟨init, t, afs, hT, hL, ⟨lead, segs, hafs, hlead, hmap, hsok, hchain⟩, hC, _⟩ := h
  have hx := L.XInvX.of_xinv (⟨hT, hL, hafs, hlead, hmap, hsok, hchain, hC⟩ : XInv g l D F J init t afs lead segs)
  obtain ⟨z0, z1, hd⟩ := hx.tapeD_cs
  obtain ⟨J', lp, io, t', hrec, hx', hq, _, hpol, _, _, hoff⟩ := L.read_tapeD g hB hd hwf qs hrep policy
  rw [List.dropLast_concat] at hx' hoff
  -- the reader's attributions are the journal's
  have hA : AttrOK F F segs := attrOK_of g F afs hL.tagged segs (fun s hs x hx => by
      rw [hafs]; exact List.mem_append_right _ (List.mem_flatMap.mpr ⟨s, hs, hx⟩)) hsok hchain fun s hs =>
    hfirst s.1 (by rw [← hmap, List.head?_map, hs]; rfl)
  have hqs : replayJ F [] J = some lp.queues :=
    L.exact_queues (dead := []) hmap hA (fun d hd => by cases hd)
      (by rw [List.append_nil, hx'.hmap, ← replayJ_filter]; exact hq)
  -- the recovered log stands on the same tape, further on: the frames and segments are those of `l`
  have hcur : lp.cur = l.cur := by rw [hx'.tape.cur, hT.cur]
  have x' := (⟨hx'.tape, hx'.lay, hx'.resok, hx.hais, hx.hlead, hx.hmap, hx.hok⟩ :
    L.XInvX g lp D F J init t' false [] (L.plain afs) (L.plain lead) (L.plainG segs)).to_xinv hchain (hcur ▸ hC)
  refine ⟨lp, io, hrec, by rw [hx'.tape.files, hT.files]; rfl, hcur, Option.some.inj (hqs.symm.trans hrep), hpol,
    x'.dinv ?_⟩
  rwa [L.frs_plain] at hoff

end MRL.G
