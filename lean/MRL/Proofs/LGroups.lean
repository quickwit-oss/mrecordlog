/-
Tapes after crashes, frames level. The tagged frames are non-first "lead" frames followed by
GROUPS: live groups (the frames of a retained journal entry) and dead groups (the first frames of
an entry that never got its last frame — left by a crash between two frames; never delivered).
Reassembly delivers the live entries in order and one `corrupt` event per junk slot: what is delivered
is a function of the groups (`outG`), and so are the attributions (`reattr`), each a file between the
first tracked file and the file where the entry starts. Replaying the entries with those attributions
agrees with replaying the journal up to file handles, and exactly where the live groups are chained
and only dead or junk groups follow them: the tape of a clean state, cut once.
-/
import MRL.Proofs.HAbs
import MRL.Props.C07
import MRL.Proofs.LItems

namespace MRL.L
open Codec G H Torn

/-- a group of items: of a retained journal entry (`some j`), or dead (`none`) -/
abbrev Grp := Option JE × List AItm

def liveOf (gs : List Grp) : List Seg := gs.filterMap fun x => x.1.map fun j => (j, tfs x.2)

/-- live: the frames of the entry, as written. Dead: a proper prefix of the frames of an entry
    that was never finished, as written; or one junk slot. -/
def GrpOK (x : Grp) : Prop :=
  match x.1 with
  | some j => SegOK (j, tfs x.2) ∧ ∀ a ∈ x.2, a.2 = none
  | none => (∃ rest : List Frm, rest ≠ [] ∧ EntryFrames true (frs x.2 ++ rest) ∧ ∀ a ∈ x.2, a.2 = none) ∨
      (∃ a r, x.2 = [a] ∧ a.2 = some r)

/-- lead frames, then groups; the live groups are the retained journal entries, in order -/
def SegsX (F : Nat) (J : List JE) (ais : List AItm) : Prop :=
  ∃ (lead : List AItm) (gs : List Grp),
    ais = lead ++ gs.flatMap (·.2) ∧ (∀ a ∈ lead, a.2 = none ∧ a.1.2.1.isFirst = false) ∧
    (liveOf gs).map (·.1) = J.filter (fun j => decide (F ≤ j.loc)) ∧ (∀ x ∈ gs, GrpOK x)

/-- `SegsX` with its witnesses -/
structure SegsW (F : Nat) (J : List JE) (ais lead : List AItm) (gs : List Grp) : Prop where
  hais : ais = lead ++ gs.flatMap (·.2)
  hlead : ∀ a ∈ lead, a.2 = none ∧ a.1.2.1.isFirst = false
  hmap : (liveOf gs).map (·.1) = J.filter (fun j => decide (F ≤ j.loc))
  hok : ∀ x ∈ gs, GrpOK x

theorem SegsW.segsX {F : Nat} {J : List JE} {ais lead : List AItm} {gs : List Grp} (h : SegsW F J ais lead gs) :
    SegsX F J ais := ⟨lead, gs, h.hais, h.hlead, h.hmap, h.hok⟩

theorem liveOf_cons_some (j : JE) (fs : List AItm) (gs : List Grp) :
    liveOf ((some j, fs) :: gs) = (j, tfs fs) :: liveOf gs := by simp [liveOf]

theorem liveOf_cons_none (fs : List AItm) (gs : List Grp) : liveOf ((none, fs) :: gs) = liveOf gs := by
  simp [liveOf]

theorem liveOf_append (a b : List Grp) : liveOf (a ++ b) = liveOf a ++ liveOf b := by
  simp [liveOf, List.filterMap_append]

theorem SegsW.snoc_dead {F : Nat} {J : List JE} {ais lead : List AItm} {gs : List Grp} (h : SegsW F J ais lead gs)
    {items : List AItm} (hd : GrpOK (none, items)) : SegsW F J (ais ++ items) lead (gs ++ [(none, items)]) := by
  refine ⟨?_, h.hlead, ?_, ?_⟩
  · rw [h.hais, List.flatMap_append, List.flatMap_singleton, List.append_assoc]
  · rw [liveOf_append, List.map_append, h.hmap]; exact List.append_nil _
  · intro s hs
    rcases List.mem_append.mp hs with hs | hs
    · exact h.hok s hs
    · rw [List.mem_singleton.mp hs]; exact hd

theorem SegsW.snoc_live {F : Nat} {J : List JE} {ais lead : List AItm} {gs : List Grp} (h : SegsW F J ais lead gs)
    {items : List AItm} {j : JE} (hj : GrpOK (some j, items)) (hF : F ≤ j.loc) :
    SegsW F (J ++ [j]) (ais ++ items) lead (gs ++ [(some j, items)]) := by
  refine ⟨?_, h.hlead, ?_, ?_⟩
  · rw [h.hais, List.flatMap_append, List.flatMap_singleton, List.append_assoc]
  · rw [liveOf_append, List.map_append, h.hmap, List.filter_append]
    simp [liveOf, hF]
  · intro s hs
    rcases List.mem_append.mp hs with hs | hs
    · exact h.hok s hs
    · rw [List.mem_singleton.mp hs]; exact hj

/-- the entry of `a` is that of `b`, located where `b` is, attributed to a file between `F` and there -/
def Rel (F : Nat) (a b : JE) : Prop := a.e = b.e ∧ a.loc = b.loc ∧ F ≤ a.attr ∧ a.attr ≤ a.loc

/-- what `assemble` delivers when every entry of `J` is read whole; `replay` of it is `replayJ F` once the
    attributions are at or above `F` (`replay_entriesEv`): the bridge from record events to the journal -/
def entriesEv (J : List JE) : List RecEv := J.map fun j => RecEv.entry j.attr j.e.encode

theorem entriesOf_entriesEv (J : List JE) : entriesOf (entriesEv J) = entriesEv J := by
  induction J with
  | nil => rfl
  | cons j J ih =>
    simp only [entriesEv, List.map_cons, entriesOf, List.filter_cons] at ih ⊢
    rw [ih]; simp

theorem replay_entriesOf : ∀ (l : List RecEv) (qs : MemQueues), replay qs l = replay qs (entriesOf l) := by
  intro l
  induction l with
  | nil => intro qs; rfl
  | cons ev l ih =>
    intro qs
    cases ev with
    | corrupt => simp only [replay, entriesOf, List.filter_cons]; exact ih qs
    | entry f b =>
      have : entriesOf (RecEv.entry f b :: l) = RecEv.entry f b :: entriesOf l := by
        simp [entriesOf]
      rw [this]
      simp only [replay]
      cases Entry.decode b with
      | none => exact ih qs
      | some e =>
        simp only
        cases replayEntry qs f e with
        | none => rfl
        | some qs' => simp only [Option.bind_some]; exact ih qs'

theorem head_tag_le {fs : List TFrm} (hp : fs.Pairwise (fun a b => a.1 ≤ b.1)) {a b : TFrm}
    (ha : fs.head? = some a) (hb : b ∈ fs) : a.1 ≤ b.1 := by
  cases fs with
  | nil => cases ha
  | cons x xs =>
    simp only [List.head?_cons, Option.some.injEq] at ha
    subst ha
    rcases List.mem_cons.mp hb with rfl | hb
    · exact Nat.le_refl _
    · exact (List.pairwise_cons.mp hp).1 b hb

theorem evsJ_none {ais : List AItm} (h : ∀ a ∈ ais, a.2 = none) : evsJ ais = Rec.evsOf (tfs ais) := by
  induction ais with
  | nil => rfl
  | cons a ais ih =>
    have ha := h a List.mem_cons_self
    obtain ⟨x, r⟩ := a
    simp only at ha
    subst ha
    rw [evsJ_cons, tfs_cons, Rec.evsOf_cons, ih (fun y hy => h y (List.mem_cons_of_mem _ hy))]
    rfl

/-- the running attribution after a group: the file of the last frame of a live group; the file of
    a junk slot; unchanged by an unfinished entry -/
def attrAfter (a : Nat) (x : Grp) : Nat :=
  match x.1 with
  | some _ => lastTag (tfs x.2) 0
  | none => x.2.foldl (fun a y => if y.2.isSome then y.1.1 else a) a

/-- the groups with the attributions the reader makes, starting from the running attribution `a` -/
def reattr : Nat → List Grp → List Grp
  | _, [] => []
  | a, x :: gs => (x.1.map fun j => { j with attr := a }, x.2) :: reattr (attrAfter a x) gs

theorem attrAfter_dead (a : Nat) {fs : List AItm} (h : ∀ y ∈ fs, y.2 = none) : attrAfter a (none, fs) = a := by
  show fs.foldl _ a = a
  induction fs with
  | nil => rfl
  | cons y fs ih =>
    rw [List.foldl_cons, h y List.mem_cons_self]
    exact ih fun z hz => h z (List.mem_cons_of_mem _ hz)

theorem reattr_flatMap : ∀ (gs : List Grp) (a : Nat), (reattr a gs).flatMap (·.2) = gs.flatMap (·.2)
  | [], _ => rfl
  | x :: gs, a => by simp only [reattr, List.flatMap_cons, reattr_flatMap gs]

/-- what `assemble` delivers over one group, the running attribution being `a`: a live entry with that
    attribution; one `corrupt` event for a junk slot; nothing for an unfinished entry -/
def outX (a : Nat) (x : Grp) : List RecEv :=
  match x.1 with
  | some j => [RecEv.entry a j.e.encode]
  | none => x.2.filterMap fun y => if y.2.isSome then some RecEv.corrupt else none

def outG : Nat → List Grp → List RecEv
  | _, [] => []
  | a, x :: gs => outX a x ++ outG (attrAfter a x) gs

theorem outX_dead (a : Nat) {fs : List AItm} (h : ∀ y ∈ fs, y.2 = none) : outX a (none, fs) = [] := by
  show fs.filterMap _ = []
  induction fs with
  | nil => rfl
  | cons y fs ih =>
    rw [List.filterMap_cons, h y List.mem_cons_self]
    exact ih fun z hz => h z (List.mem_cons_of_mem _ hz)

theorem asm_reattr (F : Nat) : ∀ (gs : List Grp) (st : AsmSt) (tail : List RdEv),
    (∀ x ∈ gs, GrpOK x) → (tfs (gs.flatMap (·.2))).Pairwise (fun a b => a.1 ≤ b.1) →
    (∀ a ∈ tfs (gs.flatMap (·.2)), st.attr ≤ a.1) → F ≤ st.attr →
    ∃ st' : AsmSt,
      (∀ x ∈ reattr st.attr gs, GrpOK x) ∧
      All2 (Rel F) ((liveOf (reattr st.attr gs)).map (·.1)) ((liveOf gs).map (·.1)) ∧
      assemble st (evsJ (gs.flatMap (·.2)) ++ tail) = outG st.attr gs ++ assemble st' tail ∧
      entriesOf (outG st.attr gs) = entriesEv ((liveOf (reattr st.attr gs)).map (·.1)) := by
  intro gs
  induction gs with
  | nil =>
    intro st tail _ _ _ _
    exact ⟨st, (fun _ h => by cases h), All2.nil, by simp [evsJ, outG], rfl⟩
  | cons x gs ih =>
    intro st tail hok hmono hlo hF
    obtain ⟨oj, fs⟩ := x
    rw [List.flatMap_cons, tfs_append] at hmono hlo
    have hmono2 : (tfs (gs.flatMap (·.2))).Pairwise (fun a b => a.1 ≤ b.1) := (List.pairwise_append.mp hmono).2.1
    have hokx := hok (oj, fs) List.mem_cons_self
    have hokr : ∀ x ∈ gs, GrpOK x := fun x hx => hok x (List.mem_cons_of_mem _ hx)
    rw [List.flatMap_cons, evsJ_append, List.append_assoc]
    cases oj with
    | none =>
      rcases hokx with ⟨rest, hrest, hE, hnone⟩ | ⟨a, r, hfs, har⟩
      · -- an unfinished entry: nothing is delivered, the attribution is unchanged
        simp only at hE hnone
        rw [evsJ_none hnone]
        obtain ⟨st1, hs1, he1⟩ := assemble_partial (tfs fs) true rest st
          (evsJ (gs.flatMap (·.2)) ++ tail) hrest hE (Or.inl rfl)
        obtain ⟨st', g2, g3, g4, g5⟩ := ih st1 tail hokr hmono2
          (fun a ha => by rw [hs1]; exact hlo a (List.mem_append_right _ ha)) (by rw [hs1]; exact hF)
        have hre : reattr st.attr ((none, fs) :: gs) = (none, fs) :: reattr st1.attr gs := by
          rw [reattr, attrAfter_dead _ hnone, hs1]; rfl
        have hout : outG st.attr ((none, fs) :: gs) = outG st1.attr gs := by
          show outX _ _ ++ outG (attrAfter _ _) gs = _
          rw [outX_dead _ hnone, attrAfter_dead _ hnone, hs1]; rfl
        rw [hre, hout]
        refine ⟨st', ?_, ?_, ?_, ?_⟩
        · intro y hy
          rcases List.mem_cons.mp hy with rfl | hy
          · exact Or.inl ⟨rest, hrest, hE, hnone⟩
          · exact g2 y hy
        · rw [liveOf_cons_none, liveOf_cons_none]; exact g3
        · rw [he1, g4]
        · rw [liveOf_cons_none]; exact g5
      · -- a junk slot: one `corrupt` event; the next entry is attributed to its file
        simp only at hfs har
        subst hfs
        have hev : evsJ [a] = [RdEv.corrupt a.1.1] := by simp [evsJ, evJ, har]
        rw [hev]
        simp only [List.cons_append, List.nil_append, assemble]
        have hatag : st.attr ≤ a.1.1 := hlo a.1 (List.mem_append_left _ (by simp))
        obtain ⟨st', g2, g3, g4, g5⟩ := ih { within := false, buf := st.buf, attr := a.1.1 } tail
          hokr hmono2
          (fun b hb => (List.pairwise_append.mp hmono).2.2 a.1 (by simp) b hb) (Nat.le_trans hF hatag)
        have hre : reattr st.attr ((none, [a]) :: gs) = (none, [a]) :: reattr a.1.1 gs := by
          simp [reattr, attrAfter, har]
        have hout : outG st.attr ((none, [a]) :: gs) = RecEv.corrupt :: outG a.1.1 gs := by
          simp [outG, outX, attrAfter, har]
        rw [hre, hout]
        refine ⟨st', ?_, ?_, ?_, ?_⟩
        · intro y hy
          rcases List.mem_cons.mp hy with rfl | hy
          · exact Or.inr ⟨a, r, rfl, har⟩
          · exact g2 y hy
        · rw [liveOf_cons_none, liveOf_cons_none]; exact g3
        · rw [g4]; rfl
        · rw [liveOf_cons_none]; exact g5
    | some j =>
      obtain ⟨hso, hnone⟩ : SegOK (j, tfs fs) ∧ ∀ a ∈ fs, a.2 = none := hokx
      rw [evsJ_none hnone]
      have hfne : tfs fs ≠ [] := by
        intro hnil
        have := hso.frames.ne_nil
        simp only at this
        rw [hnil] at this; exact this rfl
      rw [assemble_tagged (tfs fs) true st _ hso.frames (Or.inl rfl)]
      simp only [if_true, List.nil_append, hso.payload]
      obtain ⟨z, hz, hzl⟩ : ∃ z ∈ tfs fs, lastTag (tfs fs) 0 = z.1 := by
        unfold lastTag
        cases hl : (tfs fs).getLast? with
        | none => rw [List.getLast?_eq_none_iff] at hl; exact absurd hl hfne
        | some z => exact ⟨z, List.mem_of_getLast? hl, rfl⟩
      have hlt : ∀ a ∈ tfs (gs.flatMap (·.2)), lastTag (tfs fs) 0 ≤ a.1 := fun a ha => by
        rw [hzl]; exact (List.pairwise_append.mp hmono).2.2 z hz a ha
      have hFl : F ≤ lastTag (tfs fs) 0 := by
        rw [hzl]; exact Nat.le_trans hF (hlo z (List.mem_append_left _ hz))
      obtain ⟨st', g2, g3, g4, g5⟩ := ih { within := false, buf := j.e.encode, attr := lastTag (tfs fs) 0 }
        tail hokr hmono2 hlt hFl
      have hhead : ∃ a, (tfs fs).head? = some a := by
        cases hfs : tfs fs with
        | nil => exact absurd hfs hfne
        | cons a _ => exact ⟨a, rfl⟩
      obtain ⟨a0, ha0⟩ := hhead
      have hloc : a0.1 = j.loc := hso.first a0 ha0
      have hattr : st.attr ≤ j.loc := by
        rw [← hloc]; exact hlo a0 (List.mem_append_left _ (List.mem_of_head? ha0))
      have hre : reattr st.attr ((some j, fs) :: gs) =
          (some { j with attr := st.attr }, fs) :: reattr (lastTag (tfs fs) 0) gs := rfl
      have hout : outG st.attr ((some j, fs) :: gs) =
          RecEv.entry st.attr j.e.encode :: outG (lastTag (tfs fs) 0) gs := rfl
      rw [hre, hout]
      refine ⟨st', ?_, ?_, ?_, ?_⟩
      · intro y hy
        rcases List.mem_cons.mp hy with rfl | hy
        · exact ⟨⟨hso.frames, hso.payload, hso.first⟩, hnone⟩
        · exact g2 y hy
      · rw [liveOf_cons_some, liveOf_cons_some]
        exact All2.cons (R := Rel F) ⟨rfl, rfl, hF, hattr⟩ g3
      · rw [g4]; rfl
      · rw [liveOf_cons_some]
        simp only [List.map_cons, entriesEv] at g5 ⊢
        rw [← g5]
        simp [entriesOf]

theorem outG_clean : ∀ (gs : List Grp) (a : Nat), (∀ x ∈ gs, ∀ y ∈ x.2, y.2 = none) →
    outG a gs = entriesEv ((liveOf (reattr a gs)).map (·.1))
  | [], _, _ => rfl
  | (none, fs) :: gs, a, h => by
    show outX a (none, fs) ++ outG _ gs = entriesEv ((liveOf ((none, fs) :: reattr _ gs)).map (·.1))
    rw [outX_dead a (h (none, fs) List.mem_cons_self), liveOf_cons_none, List.nil_append]
    exact outG_clean gs _ fun x hx => h x (List.mem_cons_of_mem _ hx)
  | (some j, fs) :: gs, a, h => by
    show RecEv.entry a j.e.encode :: outG _ gs =
      entriesEv ((liveOf ((some { j with attr := a }, fs) :: reattr _ gs)).map (·.1))
    rw [liveOf_cons_some, outG_clean gs _ fun x hx => h x (List.mem_cons_of_mem _ hx)]
    rfl

theorem replay_entriesEv (F : Nat) (J : List JE) (qs : MemQueues)
    (h : ∀ j ∈ J, C07.WF j.e ∧ F ≤ j.attr ∧ j.attr ≤ j.loc) : replay qs (entriesEv J) = replayJ F qs J := by
  rw [Rec.replay_eq, entriesEv, Rec.decoded_map_entry (·.attr) (·.e) J fun j hj => C07.decode_encode _ (h j hj).1,
    replayJ_ge F J qs fun j hj => Nat.le_trans (h j hj).2.1 (h j hj).2.2]
  congr 1
  exact List.map_congr_left fun j hj => by rw [Nat.max_eq_left (h j hj).2.1]

theorem replayJ_abs (F1 F2 : Nat) : ∀ (J1 J2 : List JE) (q1 q2 r2 : MemQueues),
    All2 (fun a b : JE => a.e = b.e) J1 J2 → (∀ j ∈ J1, F1 ≤ j.loc) → (∀ j ∈ J2, F2 ≤ j.loc) →
    AbsEq q2 q1 → QsWF q1 → QsWF q2 → replayJ F2 q2 J2 = some r2 →
    ∃ r1, replayJ F1 q1 J1 = some r1 ∧ AbsEq r2 r1 := by
  intro J1 J2 q1 q2 r2 hrel h1 h2 h hw1 hw2 hr
  rw [replayJ_ge F2 J2 q2 h2] at hr
  rw [replayJ_ge F1 J1 q1 h1]
  have hS : All2 (fun x y : Nat × Entry => x.2 = y.2) (J2.map fun j => (max j.attr F2, j.e))
      (J1.map fun j => (max j.attr F1, j.e)) := by
    clear h1 h2 hr
    induction hrel with
    | nil => exact .nil
    | cons hab _ ih => exact .cons hab.symm ih
  obtain ⟨r1, hr1, hab, _⟩ := Rec.replayEntries_rel (R := fun a b => AbsEq a b ∧ QsWF a ∧ QsWF b)
    (fun {a b a' x y} hR hxy hr => by
      obtain ⟨f', e'⟩ := y
      cases (hxy : x.2 = e')
      obtain ⟨b', hb, hab⟩ := replayEntry_abs (f' := f') hR.1 hR.2.1 hR.2.2 hr
      exact ⟨b', hb, hab, replayEntry_wf hR.2.1 hr, replayEntry_wf hR.2.2 hb⟩)
    hS ⟨h, hw2, hw1⟩ hr
  exact ⟨r1, hr1, hab⟩

/-- the groups of a tape without junk: one live group per segment, its frames as written -/
def plainG (segs : List Seg) : List Grp := segs.map fun s => (some s.1, plain s.2)

theorem plainG_flatMap : ∀ segs : List Seg, (plainG segs).flatMap (·.2) = plain (segs.flatMap (·.2))
  | [] => rfl
  | s :: segs => by
    show plain s.2 ++ (plainG segs).flatMap (·.2) = _
    rw [plainG_flatMap segs, List.flatMap_cons, plain_append]

theorem liveOf_plainG (segs : List Seg) : liveOf (plainG segs) = segs := by
  induction segs with
  | nil => rfl
  | cons s segs ih =>
    show liveOf ((some s.1, plain s.2) :: plainG segs) = _
    rw [liveOf_cons_some, ih, tfs_plain]

theorem liveOf_reattr_dead : ∀ (dead : List Grp) (a : Nat), (∀ d ∈ dead, d.1 = none) → liveOf (reattr a dead) = []
  | [], _, _ => rfl
  | d :: dead, a, h => by
    obtain ⟨o, fs⟩ := d
    have : o = none := h (o, fs) List.mem_cons_self
    subst this
    show liveOf ((none, fs) :: reattr _ dead) = []
    rw [liveOf_cons_none]
    exact liveOf_reattr_dead dead _ fun d hd => h d (List.mem_cons_of_mem _ hd)

theorem reattr_exact (F : Nat) : ∀ (segs : List Seg) (a : Nat) (dead : List Grp),
    AttrOK F a segs → (∀ d ∈ dead, d.1 = none) →
    (liveOf (reattr a (plainG segs ++ dead))).map (·.1) =
      segs.map fun s => { s.1 with attr := max s.1.attr F } := by
  intro segs
  induction segs with
  | nil => intro a dead _ hd; rw [plainG, List.map_nil, List.nil_append, liveOf_reattr_dead dead a hd]; rfl
  | cons s segs ih =>
    intro a dead hA hd
    have hre : reattr a (plainG (s :: segs) ++ dead) =
        (some { s.1 with attr := a }, plain s.2) :: reattr (lastTag s.2 0) (plainG segs ++ dead) := by
      show (_ :: reattr (lastTag (tfs (plain s.2)) 0) _) = _
      rw [tfs_plain]; rfl
    rw [hre, liveOf_cons_some, List.map_cons, List.map_cons, ih _ dead hA.2 hd, hA.1]

theorem replayJ_clamp (F : Nat) : ∀ (J : List JE) (q : MemQueues),
    replayJ F q (J.map fun j => { j with attr := max j.attr F }) = replayJ F q J := by
  intro J
  induction J with
  | nil => intro q; rfl
  | cons j J ih =>
    intro q
    simp only [List.map_cons, replayJ, Nat.max_assoc, Nat.max_self]
    split
    · exact ih q
    · cases replayEntry q (max j.attr F) j.e with
      | none => rfl
      | some q' => simp only [Option.bind_some]; exact ih q'

theorem exact_queues {F : Nat} {J : List JE} {segs : List Seg} {dead : List Grp} {q : MemQueues}
    (hmap : segs.map (·.1) = J.filter fun j => decide (F ≤ j.loc)) (hA : AttrOK F F segs)
    (hd : ∀ d ∈ dead, d.1 = none)
    (hrep : replayJ F [] ((liveOf (reattr F (plainG segs ++ dead))).map (·.1)) = some q) :
    replayJ F [] J = some q := by
  have hm : (segs.map fun s => ({ s.1 with attr := max s.1.attr F } : JE)) =
      (segs.map (·.1)).map fun j => { j with attr := max j.attr F } := by rw [List.map_map]; rfl
  rw [reattr_exact F segs F dead hA hd, hm, hmap, replayJ_clamp, ← replayJ_filter] at hrep
  exact hrep

end MRL.L
