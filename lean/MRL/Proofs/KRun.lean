/-
Runs of calls with the `BufWriter` threaded through: the OS operations of the
run are the `BufWriter`'s output on the concatenated effects.
-/
import MRL.Proofs.LExact

namespace MRL.K
open Log C05 C01J G H Buf Codec

/-- log, journal, `BufWriter` state and all OS operations emitted so far -/
structure RunSt where
  l : Log
  J : List JE
  b : BufSt
  ops : List OsOp

/-- run a list of calls (each with its clock bit and GC order oracle), threading the buffer; the
    suffix `D` of `runD`, `logD`, `effsD`, `jourD` is that of `C01R.ReachD` (reachable, with the disk) -/
def runD (g : Geom) (cap : Nat) (s : RunSt) : List (Call × Bool × List Bytes) → RunSt
  | [] => s
  | (c, tick, order) :: cs =>
    let r := s.l.step g c tick order
    let o := toOsOps cap s.b r.2.2
    runD g cap ⟨r.1, s.J ++ s.l.stepJ g c order, o.1, s.ops ++ o.2⟩ cs

def logD (g : Geom) (l : Log) : List (Call × Bool × List Bytes) → Log
  | [] => l
  | (c, tick, order) :: cs => logD g (l.step g c tick order).1 cs

def effsD (g : Geom) (l : Log) : List (Call × Bool × List Bytes) → List Effect
  | [] => []
  | (c, tick, order) :: cs => (l.step g c tick order).2.2 ++ effsD g (l.step g c tick order).1 cs

def jourD (g : Geom) (l : Log) : List (Call × Bool × List Bytes) → List JE
  | [] => []
  | (c, tick, order) :: cs => l.stepJ g c order ++ jourD g (l.step g c tick order).1 cs

theorem runD_eq (g : Geom) (cap : Nat) (cs : List (Call × Bool × List Bytes)) : ∀ (s : RunSt),
    runD g cap s cs = ⟨logD g s.l cs, s.J ++ jourD g s.l cs, (toOsOps cap s.b (effsD g s.l cs)).1,
      s.ops ++ (toOsOps cap s.b (effsD g s.l cs)).2⟩ := by
  induction cs with
  | nil => intro s; simp [runD, logD, jourD, effsD, toOsOps]
  | cons x cs ih =>
    intro s
    obtain ⟨c, tick, order⟩ := x
    simp only [runD, logD, jourD, effsD]
    rw [ih, toOsOps_append]
    simp [List.append_assoc]

end MRL.K
