/-
A batch through an arbitrary replay (C12): after the entry `append name p b` has been replayed,
whatever entries follow, the records of queue `name` are
  (records of earlier entries) ++ (a suffix of `b`) ++ (records of later entries),
and if the suffix is a proper one nothing is left before it.
-/
import MRL.Proofs.RecReplay

namespace MRL.Rec

def noTrunc (name : Bytes) : List (Nat × Entry) → Bool
  | [] => true
  | (_, .truncate q _) :: es => q != name && noTrunc name es
  | (_, .append _ _ _) :: es => noTrunc name es
  | (_, .touch _ _) :: es => noTrunc name es
  | (_, .delete _ _) :: es => noTrunc name es

/-- State of queue `name` some time after batch `b` was appended to it: either the queue is gone,
    or its records are `pre ++ b.drop k ++ post` — records `pre` of entries before the batch
    (triples in `A`), a suffix of the batch, records `post` of entries after it (triples in `P`) —
    and if part of the batch's head is gone (`0 < k`) so is everything before it. With `nt`
    (no truncation since), the batch is whole (`k = 0`) or entirely gone (`b.length ≤ k`). -/
def Whole (b : List (Nat × Bytes)) (name : Bytes) (A P : List (Bytes × Nat × Bytes)) (nt : Bool) :
    Option MemQueue → Prop
  | none => True
  | some q => ∃ pre k post, plain q = pre ++ b.drop k ++ post ∧ (0 < k → pre = []) ∧
      (∀ r ∈ pre, (name, r.1, r.2) ∈ A) ∧ (∀ r ∈ post, (name, r.1, r.2) ∈ P) ∧
      (nt = true → k = 0 ∨ b.length ≤ k)

variable {b : List (Nat × Bytes)} {name : Bytes} {A P : List (Bytes × Nat × Bytes)} {nt : Bool}

theorem Whole.mono {x : Option MemQueue} {P' : List (Bytes × Nat × Bytes)} {nt' : Bool}
    (h : Whole b name A P nt x) (hP : ∀ t ∈ P, t ∈ P') (hnt : nt' = true → nt = true) :
    Whole b name A P' nt' x := by
  cases x with
  | none => trivial
  | some q =>
    obtain ⟨pre, k, post, h1, h2, h3, h4, h5⟩ := h
    exact ⟨pre, k, post, h1, h2, h3, fun r hr => hP _ (h4 r hr), fun h => h5 (hnt h)⟩

theorem Whole.same {q q' : MemQueue} (h : Whole b name A P nt (some q)) (hp : plain q' = plain q) :
    Whole b name A P nt (some q') := by
  obtain ⟨pre, k, post, h1, h2, h3, h4, h5⟩ := h
  exact ⟨pre, k, post, by rw [hp, h1], h2, h3, h4, h5⟩

theorem Whole.app {q q' : MemQueue} {recs : List (Nat × Bytes)} {P' : List (Bytes × Nat × Bytes)}
    (h : Whole b name A P nt (some q)) (hp : plain q' = plain q ++ recs)
    (hP : ∀ t ∈ P, t ∈ P') (hr : ∀ r ∈ recs, (name, r.1, r.2) ∈ P') :
    Whole b name A P' nt (some q') := by
  obtain ⟨pre, k, post, h1, h2, h3, h4, h5⟩ := h
  refine ⟨pre, k, post ++ recs, by rw [hp, h1]; simp, h2, h3, ?_, h5⟩
  intro r hr'
  rcases List.mem_append.mp hr' with h | h
  · exact hP _ (h4 r h)
  · exact hr r h

theorem Whole.fresh {q' : MemQueue} (hp : ∀ r ∈ plain q', (name, r.1, r.2) ∈ P) :
    Whole b name A P nt (some q') :=
  ⟨[], b.length, plain q', by simp, fun _ => rfl, (fun r hr => by cases hr), hp, fun _ => Or.inr (Nat.le_refl _)⟩

theorem Whole.dropped {q q' : MemQueue} {j : Nat} (h : Whole b name A P nt (some q))
    (hp : plain q' = (plain q).drop j) : Whole b name A P false (some q') := by
  obtain ⟨pre, k, post, h1, h2, h3, h4, _⟩ := h
  rw [h1, List.append_assoc, List.drop_append] at hp
  by_cases hj : j ≤ pre.length
  · -- only part of `pre` goes
    rw [Nat.sub_eq_zero_of_le hj, List.drop_zero] at hp
    refine ⟨pre.drop j, k, post, by rw [hp, List.append_assoc], ?_, ?_, h4, nofun⟩
    · intro hk; rw [h2 hk, List.drop_nil]
    · intro r hr; exact h3 r (List.mem_of_mem_drop hr)
  · -- all of `pre` goes, and `j - pre.length` records of the rest
    rw [List.drop_of_length_le (Nat.le_of_not_le hj), List.nil_append, List.drop_append,
      List.drop_drop] at hp
    by_cases hb : j - pre.length ≤ (b.drop k).length
    · rw [Nat.sub_eq_zero_of_le hb, List.drop_zero] at hp
      exact ⟨[], k + (j - pre.length), post, hp, fun _ => rfl, nofun, h4, nofun⟩
    · -- the whole batch goes, and part of `post`
      have hbd : (b.drop k).drop (j - pre.length) = [] :=
        List.drop_of_length_le (Nat.le_of_not_le hb)
      rw [List.drop_drop] at hbd
      rw [hbd, List.nil_append] at hp
      refine ⟨[], b.length, post.drop (j - pre.length - (b.drop k).length),
        by rw [hp, List.drop_length]; rfl, fun _ => rfl, nofun,
        fun r hr => h4 r (List.mem_of_mem_drop hr), nofun⟩

theorem noTrunc_single (name : Bytes) (f : Nat) (e : Entry) :
    noTrunc name [(f, e)] = match e with | .truncate q _ => q != name | _ => true := by
  cases e <;> simp [noTrunc]

theorem Whole_replayEntry {qs qs' : MemQueues} {file : Nat} {e : Entry}
    (h : replayEntry qs file e = some qs') (hW : Whole b name A P nt (qs.get? name)) :
    Whole b name A (P ++ recordsOf [(file, e)]) (nt && noTrunc name [(file, e)]) (qs'.get? name) := by
  have hPsub : ∀ t ∈ P, t ∈ P ++ recordsOf [(file, e)] := fun t ht => List.mem_append_left _ ht
  have hnt : (nt && noTrunc name [(file, e)]) = true → nt = true := by
    intro h; simp only [Bool.and_eq_true] at h; exact h.1
  obtain ⟨hs, hother⟩ := replayEntry_get? h
  -- an entry for another queue leaves `name` alone
  by_cases hne : name ≠ e.queue
  · rw [hother name hne]
    exact hW.mono hPsub hnt
  have hq : name = e.queue := Decidable.not_not.mp hne
  rw [← hq] at hs
  cases e with
  | append q pos recs =>
    obtain rfl : q = name := hq.symm
    simp only [Entry.slot] at hs
    obtain ⟨mq', ha, hg'⟩ := Option.map_eq_some_iff.mp hs
    rw [← hg']
    have hp := plain_appendAll file recs _ mq' ha
    have hrecs : ∀ r ∈ recs, (q, r.1, r.2) ∈ P ++ recordsOf [(file, Entry.append q pos recs)] :=
      fun r hr => List.mem_append_right _ (mem_recordsOf_append file q pos recs r hr)
    cases hg : qs.get? q with
    | some mq =>
      rw [hg] at hW hp
      exact (hW.app hp hPsub hrecs).mono (fun t ht => ht) hnt
    | none =>
      apply Whole.fresh
      intro r hr
      rw [hp, hg] at hr
      exact hrecs r hr
  | truncate q p =>
    obtain rfl : q = name := hq.symm
    rw [← Option.some.inj hs]
    cases hg : qs.get? q with
    | none => trivial
    | some mq =>
      rw [hg] at hW
      obtain ⟨k, hk⟩ := plain_truncateHead mq p
      exact (hW.dropped hk).mono hPsub (fun h => by simp [noTrunc] at h)
  | touch q p => rw [← Option.some.inj hs]; exact Whole.fresh (fun r hr => by cases hr)
  | delete q p => rw [← Option.some.inj hs]; trivial

theorem noTrunc_append (name : Bytes) (a b : List (Nat × Entry)) :
    noTrunc name (a ++ b) = (noTrunc name a && noTrunc name b) := by
  induction a with
  | nil => rfl
  | cons fe a ih =>
    obtain ⟨f, e⟩ := fe
    cases e <;> simp [noTrunc, ih, Bool.and_assoc]

theorem Whole_replayEntries (es : List (Nat × Entry)) (P : List (Bytes × Nat × Bytes)) (nt : Bool)
    (qs qs' : MemQueues) (h : replayEntries qs es = some qs') (hW : Whole b name A P nt (qs.get? name)) :
    Whole b name A (P ++ recordsOf es) (nt && noTrunc name es) (qs'.get? name) :=
  replayEntries_prefix
    (P := fun done qs => Whole b name A (P ++ recordsOf done) (nt && noTrunc name done) (qs.get? name)) es
    (fun done fe _ _ _ _ hP hr => by
      rw [recordsOf_append, ← List.append_assoc, noTrunc_append, ← Bool.and_assoc]
      exact Whole_replayEntry hr hP)
    (hW.mono (fun t ht => List.mem_append_left _ ht) (fun h => by simpa [noTrunc] using h)) h

theorem Whole_after_append {qs qs' : MemQueues} {file : Nat} {pos : Nat}
    (h : replayEntry qs file (Entry.append name pos b) = some qs') (hA : AllIn A qs) :
    Whole b name A [] true (qs'.get? name) := by
  obtain ⟨mq', ha, hg'⟩ := Option.map_eq_some_iff.mp (replayEntry_get? h).1
  rw [show (Entry.append name pos b).queue = name from rfl] at ha hg'
  rw [← hg']
  refine ⟨plain ((qs.get? name).getD (MemQueue.withNextPosition pos)), 0, [],
    by rw [plain_appendAll file b _ mq' ha]; simp, fun h => by omega, ?_,
    (fun r hr => by cases hr), fun _ => Or.inl rfl⟩
  intro r hr
  cases hg : qs.get? name with
  | some mq => rw [hg] at hr; exact hA (name, mq) (AL.get?_mem hg) r hr
  | none => rw [hg] at hr; cases hr

theorem replayEntries_batch {es₁ es₂ : List (Nat × Entry)} {f : Nat} {pos : Nat} {qs : MemQueues}
    (h : replayEntries [] (es₁ ++ [(f, Entry.append name pos b)] ++ es₂) = some qs) :
    ∃ qs₁ qs₂ q', replayEntries [] es₁ = some qs₁ ∧ replayEntry qs₁ f (.append name pos b) = some qs₂ ∧
      Log.appendAll ((qs₁.get? name).getD (MemQueue.withNextPosition pos)) f b = some q' ∧
      qs₂.get? name = some q' ∧ replayEntries qs₂ es₂ = some qs ∧ QsInv qs₂ := by
  obtain ⟨qs₂, h12, h2⟩ := replayEntries_append_some h
  obtain ⟨qs₁, h1, hb'⟩ := replayEntries_append_some h12
  obtain ⟨qs₂', hb, hnil⟩ := replayEntries_cons_some hb'
  cases hnil
  obtain ⟨q', ha, hg⟩ := Option.map_eq_some_iff.mp (replayEntry_get? hb).1
  have hI1 := QsInv_replayEntries es₁ [] qs₁ h1 QsInv_nil
  exact ⟨qs₁, qs₂, q', h1, hb, ha, hg.symm, h2, QsInv_replayEntry hb hI1⟩

end MRL.Rec
