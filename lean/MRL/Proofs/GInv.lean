/-
The parts of the disk invariant (`DInvF`, put together in GGc.lean): the tracked files hold the
bytes written so far (`Tape`); these bytes are the layout of tagged frames (`FLay`), which are
the frames of the retained journal entries preceded by the tail of an entry cut by a file deletion
(`Segs`); the last frame lies in the writer's current file (`CurTag`). `XInv` is the invariant
with all its witnesses named (writing one entry keeps it: `entry_xinv`, GGc.lean).
-/
import MRL.Proofs.GAssemble

namespace MRL.G
open Codec Consts

/-- the written bytes `P` are the layout of the tagged frames `afs`, possibly followed by the
    padding up to the next block (a restarted writer stands after it) -/
structure FLay (g : Geom) (F : Nat) (P : Bytes) (afs : List TFrm) : Prop where
  bytes : P = (layoutBufs g 0 (untag afs)).flatten ++ zeros (P.length - endPos g 0 (untag afs))
  fits : Fits g 0 (untag afs)
  tagged : Tagged g F 0 afs
  len : P.length = endPos g 0 (untag afs) ∨ P.length = hdrPos g (endPos g 0 (untag afs))

/-- the tagged frames are: non-first frames, then one segment per retained journal entry -/
def Segs (F : Nat) (J : List JE) (afs : List TFrm) : Prop :=
  ∃ (lead : List TFrm) (segs : List Seg),
    afs = lead ++ segs.flatMap (·.2) ∧ (∀ a ∈ lead, a.2.1.isFirst = false) ∧
    segs.map (·.1) = J.filter (fun j => decide (F ≤ j.loc)) ∧ (∀ s ∈ segs, SegOK s) ∧ Chain segs

def CurTag (afs : List TFrm) (cur : Nat) : Prop := ∀ a, afs.getLast? = some a → a.1 = cur

theorem tape_mod (g : Geom) (a off : Nat) : (a * g.fileBytes + off) % g.B = off % g.B := by
  unfold Geom.fileBytes
  rw [Nat.mul_comm g.B g.K, ← Nat.mul_assoc, Nat.add_comm, Nat.add_mul_mod_self_right]

theorem hdr_end_eq (g : Geom) (W E : Nat) (fs0 : List Frm) (h : W = E ∨ W = hdrPos g E) :
    hdrPos g (endPos g W fs0) = hdrPos g (endPos g E fs0) := by
  rcases h with rfl | rfl
  · rfl
  · cases fs0 with
    | nil => simp only [endPos, hdrPos_idem]
    | cons fr fs0 => rw [endPos_hdrPos g E _ (by simp)]

theorem layout_dropLast_len (g : Geom) (p : Nat) (fs0 : List Frm) (frL : Frm)
    (hf : Fits g (p % g.B) (fs0 ++ [frL])) :
    p + totalLen (layoutBufs g (p % g.B) (fs0 ++ [frL])).dropLast = hdrPos g (endPos g p fs0) := by
  rw [Fits_append] at hf
  rw [layoutBufs_append, endCursor_pos g fs0 p hf.1]
  have h0 := totalLen_layout_pos g fs0 p hf.1
  simp only [layoutBufs, List.append_nil]
  unfold frameWrites hdrPos
  simp only [HEADER_LEN]
  split
  · rw [show ∀ (A : List Bytes) (x y : Bytes), (A ++ [x, y]).dropLast = A ++ [x] from
      fun A x y => by rw [show A ++ [x, y] = (A ++ [x]) ++ [y] by simp, List.dropLast_concat]]
    simp only [totalLen_append, totalLen_cons, totalLen_nil, length_zeros]
    omega
  · rw [List.dropLast_concat]
    omega

theorem Chain_snoc : ∀ (segs : List Seg) (s : Seg), Chain segs →
    (∀ s0, segs.getLast? = some s0 → lastTag s0.2 0 = s.1.attr) → Chain (segs ++ [s]) := by
  intro segs
  induction segs with
  | nil => intro s _ _; trivial
  | cons s1 segs ih =>
    intro s hc hl
    cases segs with
    | nil => exact ⟨hl s1 rfl, trivial⟩
    | cons s2 rest =>
      refine ⟨hc.1, ih s hc.2 ?_⟩
      intro s0 h0
      exact hl s0 (by rw [List.getLast?_cons_cons]; exact h0)

theorem getLast?_flatMap_snoc (segs : List Seg) (s0 : Seg) (lead : List TFrm) (hne : s0.2 ≠ [])
    (h : segs.getLast? = some s0) :
    (lead ++ segs.flatMap (·.2)).getLast? = s0.2.getLast? := by
  obtain ⟨ys, rfl⟩ := List.getLast?_eq_some_iff.mp h
  rw [List.flatMap_append, ← List.append_assoc]
  simp only [List.flatMap_cons, List.flatMap_nil, List.append_nil]
  rw [List.getLast?_append]
  cases hl : s0.2.getLast? with
  | none => rw [List.getLast?_eq_none_iff] at hl; exact absurd hl hne
  | some a => rfl

/-- the disk invariant with its witnesses: the chunks `init`, `t` of the tape, the tagged frames
    `afs`, and their split into lead frames and the segments of the retained journal entries -/
structure XInv (g : Geom) (l : Log) (D : Image) (F : Nat) (J : List JE) (init : List Bytes) (t : Bytes)
    (afs lead : List TFrm) (segs : List Seg) : Prop where
  tape : Tape g l D F init t
  lay : FLay g F (init.flatten ++ t) afs
  hafs : afs = lead ++ segs.flatMap (·.2)
  hlead : ∀ a ∈ lead, a.2.1.isFirst = false
  hmap : segs.map (·.1) = J.filter (fun j => decide (F ≤ j.loc))
  hsok : ∀ s ∈ segs, SegOK s
  hchain : Chain segs
  cur : CurTag afs l.cur

theorem XInv.segs {g : Geom} {l : Log} {D : Image} {F : Nat} {J : List JE} {init : List Bytes} {t : Bytes}
    {afs lead : List TFrm} {segs : List Seg} (h : XInv g l D F J init t afs lead segs) : Segs F J afs :=
  ⟨lead, segs, h.hafs, h.hlead, h.hmap, h.hsok, h.hchain⟩

/-- a new segment attributed to the current file keeps the chain: the last frame lies in the
    current file (`CurTag`) -/
theorem XInv.chain_snoc {g : Geom} {l : Log} {D : Image} {F : Nat} {J : List JE} {init : List Bytes} {t : Bytes}
    {afs lead : List TFrm} {segs : List Seg} (h : XInv g l D F J init t afs lead segs) (s : Seg)
    (hs : s.1.attr = l.cur) : Chain (segs ++ [s]) := by
  apply Chain_snoc segs _ h.hchain
  intro s0 h0
  have hne0 : s0.2 ≠ [] := fun hnil =>
    (h.hsok s0 (List.mem_of_getLast? h0)).frames.ne_nil (by rw [hnil]; rfl)
  have hl := getLast?_flatMap_snoc segs s0 lead hne0 h0
  rw [← h.hafs] at hl
  rw [hs]
  unfold lastTag
  cases hg : s0.2.getLast? with
  | none => rw [List.getLast?_eq_none_iff] at hg; exact absurd hg hne0
  | some a => rw [hg] at hl; exact h.cur a hl

end MRL.G
