/-
What the effects of a history look like, for the lazy-directory analysis. A `create` or an `ensureLen` is
issued only when no unlink is pending — except the `ensureLen` that a restart issues on the first tracked
file, which is on the disk and full: a no-op (`CEPat`, `PDA.ce_hist`); every `fsync(file)` is immediately
followed by `fsync(dir)` (`SyncPat`); a file is there when it is unlinked, and an unlink is always preceded
by an `fsync(dir)` of the same event. `ev_struct`, the shape of one event (a call or a `reopen`) from a
state satisfying the relaxed invariant: its effects are an unlink-free part `A`, the unlinks `U` of its GC
pass, and trailing flush/fsync effects `S`; if it unlinks, `A` ends with `fsync(dir)`; and for every
`k ≤ |U|` the log after the event that still tracks the files `U.drop k` satisfies the relaxed invariant on
the disk after `A` and the first `k` unlinks (the in-memory counterpart of a between-unlinks crash point).
-/
import MRL.Proofs.PDSem
import MRL.Proofs.PXRun

namespace MRL.PDC
open G H Log Buf L PX PD P

def isCE : Effect → Bool
  | .create _ | .ensureLen _ _ => true
  | _ => false

theorem noUnl_of_none {es : List Effect} (h : ∀ f, Effect.unlink f ∉ es) : NoUnl es := by
  intro e he
  cases e with
  | unlink f => exact absurd he (h f)
  | _ => rfl


/-- `Step.AlongCall` for a property of the effect list alone: a property that holds of `[]` and is
    kept by `++` holds of the effects of a GC pass and of a call as soon as it holds of those of
    `writeBuf`, of `persistEffects` and of unlinks. -/
theorem effs_closure (g : Geom) (Q : List Effect → Prop) (hnil : Q [])
    (happ : ∀ {a b : List Effect}, Q a → Q b → Q (a ++ b))
    (hbuf : ∀ (l : Log) (buf : Bytes), Q (writeBuf g l buf).2)
    (hper : ∀ (l : Log) (a : PersistAction), Q (l.persistEffects a))
    (hunl : ∀ fs : List Nat, Q (fs.map Effect.unlink)) :
    (∀ (l : Log) (order : List Bytes), Q (runGc g l order).2.1) ∧
    ∀ (l : Log) (c : Call) (tick : Bool) (order : List Bytes), Q (l.step g c tick order).2.2 :=
  have h : Step.AlongCall g (fun _ es _ _ => Q es) :=
    Step.Along.call ⟨fun _ => hnil, fun h1 h2 => happ h1 h2, hbuf⟩ hper (fun _ _ => hnil)
      fun l _ => happ (hper l _) (hunl _)
  ⟨h.runGc, h.step⟩

/-- a `create` or an `ensureLen` comes only when no unlink is pending, whatever was pending before `es` -/
def CEPat (es : List Effect) : Prop :=
  ∀ i e, es[i]? = some e → isCE e = true → ∀ p, pendAfter p (es.take i) = false

theorem cePat_of_none {es : List Effect} (h : ∀ e ∈ es, isCE e = false) : CEPat es := by
  intro i e hi hce
  have := h e (List.mem_of_getElem? hi)
  rw [this] at hce; cases hce

theorem CEPat.append {a b : List Effect} (ha : CEPat a) (hb : CEPat b) : CEPat (a ++ b) :=
  Disc.Each.append (Q := fun pre e => isCE e = true → ∀ p, pendAfter p pre = false)
    (Qb := fun pre e => isCE e = true → ∀ p, pendAfter p pre = false) ha hb
    fun pre e h hce p => by rw [pendAfter_append]; exact h hce _

theorem cePat_after_ds (a b : List Effect) (ha : ∀ e ∈ a, isCE e = false) (hb : NoUnl b) :
    CEPat (a ++ [Effect.fsyncDir] ++ b) := by
  intro i e hi hce p
  by_cases h1 : i < (a ++ [Effect.fsyncDir]).length
  · rw [List.getElem?_append_left h1] at hi
    rcases List.mem_append.mp (List.mem_of_getElem? hi) with h | h
    · rw [ha e h] at hce; cases hce
    · rw [List.mem_singleton.mp h] at hce; cases hce
  · rw [List.take_append, List.take_of_length_le (Nat.le_of_not_lt h1), pendAfter_append, pendAfter_end_ds]
    exact pendAfter_noUnl _ (fun x hx => hb x (List.mem_of_mem_take hx))

theorem cePat_roll (c : Nat) {b : List Effect} (hb : NoUnl b) : CEPat ([.flush, .fsyncFile c, .fsyncDir] ++ b) := by
  refine cePat_after_ds [.flush, .fsyncFile c] b (fun e h => ?_) hb
  rcases List.mem_cons.mp h with rfl | h
  · rfl
  · cases List.mem_singleton.mp h; rfl

theorem cePat_writeBuf (g : Geom) (l : Log) (buf : Bytes) : CEPat (writeBuf g l buf).2 := by
  rcases Step.writeBuf_cases g l buf with ⟨_, e⟩ | ⟨_, _, e⟩ | ⟨_, _, _, _, e⟩ | ⟨_, _, _, e⟩ <;> rw [e]
  · exact cePat_of_none (fun _ h => nomatch h)
  · exact cePat_of_none (fun e h => by cases List.mem_singleton.mp h; rfl)
  -- a roll-over: `flush, fsync(file), fsync(dir)`, then the next file is re-sized or created
  all_goals exact cePat_roll l.cur (noUnl_of_none fun _ h => by simp at h)

theorem cePat_persist (l : Log) (a : PersistAction) : CEPat (l.persistEffects a) := by
  apply cePat_of_none
  intro e h
  cases a <;> simp [persistEffects] at h
  · subst h; rfl
  · rcases h with rfl | rfl | rfl <;> rfl

theorem cePat_unlinks (fs : List Nat) : CEPat (fs.map Effect.unlink) := by
  apply cePat_of_none
  intro e h
  obtain ⟨x, _, rfl⟩ := List.mem_map.mp h
  rfl

theorem cePat_effs (g : Geom) :
    (∀ (l : Log) (order : List Bytes), CEPat (runGc g l order).2.1) ∧
    ∀ (l : Log) (c : Call) (tick : Bool) (order : List Bytes), CEPat (l.step g c tick order).2.2 :=
  effs_closure g CEPat (cePat_of_none (fun _ h => nomatch h)) CEPat.append (cePat_writeBuf g)
    cePat_persist cePat_unlinks

/-- `pendAfter` is sound for the model: if `p` holds whenever unlinks are pending in `d`, then `pendAfter p es`
    holds whenever unlinks are pending after `es` -/
theorem und_of_pend : ∀ (es : List Effect) (d : DState) (p : Bool), (d.und ≠ [] → p = true) →
    (prunD d (directOpsP es)).und ≠ [] → pendAfter p es = true := by
  intro es
  induction es with
  | nil => intro d p h hne; exact h hne
  | cons e es ih =>
    intro d p h hne
    rw [directOpsP_cons, prunD_append] at hne
    simp only [pendAfter, List.foldl_cons]
    apply ih (prunD d (directP e)) _ _ hne
    intro hne'
    cases e with
    | fsyncDir => exact absurd rfl hne'
    | unlink f => rfl
    | fsyncFile _ | flush | listDir | openFile _ | readBlock _ => exact h hne'
    | write _ _ _ | create _ | setLen _ _ | ensureLen _ _ =>
      exact h fun hu => hne' ((congrArg DState.und (prunD_directP_quiet d _ rfl rfl)).trans hu)

theorem und_nil_of_pend (es : List Effect) (S : PState) (h : pendAfter false es = false) :
    (prunD ⟨S, [], false⟩ (directOpsP es)).und = [] := by
  apply Classical.byContradiction
  intro hne
  have := und_of_pend es ⟨S, [], false⟩ false (fun h => absurd rfl h) hne
  rw [h] at this; cases this

theorem NoUnl.append {a b : List Effect} (ha : NoUnl a) (hb : NoUnl b) : NoUnl (a ++ b) := by
  intro e he
  rcases List.mem_append.mp he with h | h
  · exact ha e h
  · exact hb e h

theorem noUnl_sync {s : List Effect} (h : IsSyncL s) : NoUnl s := noUnl_of_none (no_unlink_syncL h)

theorem gc_struct (g : Geom) {l : Log} {J : List JE} {D : Image} (h : CInvX g l J D) (order : List Bytes) :
    ∃ (A : List Effect) (U : List Nat),
      (runGc g l order).2.1 = A ++ U.map Effect.unlink ∧ NoUnl A ∧
      (U ≠ [] → ∃ A', A = A' ++ [Effect.fsyncDir]) ∧
      ∀ k, k ≤ U.length →
        CInvX g { (runGc g l order).1 with files := U.drop k ++ (runGc g l order).1.files } (J ++ gcJ g l order)
          (applyOsOps (applyOsOps D (directOps A)) ((U.take k).map OsOp.unlink)) := by
  rcases runGc_full g l order with ⟨hr1, hr2⟩ | ⟨names, _, hr1, hr2⟩
  · refine ⟨[], [], by rw [hr1]; rfl, (fun _ h => by cases h), fun h => absurd rfl h, fun k hk => ?_⟩
    have hk0 : k = 0 := Nat.le_zero.mp hk
    subst hk0
    rw [hr1, hr2, List.append_nil]
    exact (nil_append_files l).symm ▸ h
  · have hr3 : (runGc g l order).1 = { (writeTouches g l names).1 with
        files := (gcFiles ((writeTouches g l names).1.canDelete l.cur) (writeTouches g l names).1.files).1 } := by
      rw [hr2]
    refine ⟨(writeTouches g l names).2.1 ++ (writeTouches g l names).1.persistEffects .flushAndFsync,
      (gcFiles ((writeTouches g l names).1.canDelete l.cur) (writeTouches g l names).1.files).2, by rw [hr2],
      (noUnl_of_none (no_unlink_of_unlinked (Step.writeTouches_unlinked g names _))).append
        (noUnl_sync (isSyncL_persist _ _)),
      fun _ => ⟨(writeTouches g l names).2.1 ++ [Effect.flush, Effect.fsyncFile (writeTouches g l names).1.cur],
        by simp [persistEffects]⟩, fun k hk => ?_⟩
    rw [directOps_append, applyOsOps_append, syncL_apply (isSyncL_persist _ _)]
    exact gc_partial g h order names hr1 hr3 k hk

theorem struct_noUnl {g : Geom} {D : Image} {E A S : List Effect} {l' : Log} {J' : List JE} (hE : E = A ++ S)
    (hA : NoUnl A) (hS : IsSyncL S) (hc : CInvX g l' J' (applyOsOps D (directOps A)))
    (hw : ∀ j ∈ J', C07.WF j.e) :
    ∃ (A : List Effect) (U : List Nat) (S : List Effect),
      E = A ++ U.map Effect.unlink ++ S ∧ NoUnl A ∧ IsSyncL S ∧
      (U ≠ [] → ∃ A', A = A' ++ [Effect.fsyncDir]) ∧
      (∀ k, k ≤ U.length → ∃ Jv,
        CInvX g { l' with files := U.drop k ++ l'.files } Jv
          (applyOsOps (applyOsOps D (directOps A)) ((U.take k).map OsOp.unlink)) ∧ ∀ j ∈ Jv, C07.WF j.e) := by
  refine ⟨A, [], S, by rw [hE, List.map_nil, List.append_nil], hA, hS, fun h => absurd rfl h, fun k hk => ⟨J', ?_, hw⟩⟩
  have hk0 : k = 0 := Nat.le_zero.mp hk
  subst hk0
  exact (nil_append_files l').symm ▸ hc

theorem ev_struct (g : Geom) (hB : g.B ≤ 65542) {l : Log} {J : List JE} {D : Image} (h : CInvX g l J D)
    (hw : ∀ j ∈ J, C07.WF j.e) (e : Ev) (hwe : ∀ j ∈ PX.evJ g l D e, C07.WF j.e) :
    ∃ (A : List Effect) (U : List Nat) (S : List Effect),
      evEffs g l D e = A ++ U.map Effect.unlink ++ S ∧ NoUnl A ∧ IsSyncL S ∧
      (U ≠ [] → ∃ A', A = A' ++ [Effect.fsyncDir]) ∧
      (∀ k, k ≤ U.length → ∃ Jv,
        CInvX g { evLog g l D e with files := U.drop k ++ (evLog g l D e).files } Jv
          (applyOsOps (applyOsOps D (directOps A)) ((U.take k).map OsOp.unlink)) ∧ ∀ j ∈ Jv, C07.WF j.e) := by
  cases e with
  | call c tick order =>
    show ∃ A U S, (l.step g c tick order).2.2 = _ ∧ _
    simp only [evLog, PX.evJ] at hwe ⊢
    have hfits : ∀ j ∈ J ++ l.stepJ g c order, C07.WF j.e := by
      intro j hj
      rcases List.mem_append.mp hj with hj | hj
      · exact hw j hj
      · exact hwe j hj
    rcases step_full g l c tick order with
      ⟨hj, hl, hsy⟩ | ⟨e, qs', sy, hok, hre, hsy, (⟨hj, hl, heff⟩ | ⟨hj, hl, heff⟩)⟩
    · rw [hl]
      exact struct_noUnl (A := []) rfl (fun _ h => by cases h) hsy h hw
    · rw [hl]
      exact struct_noUnl heff (noUnl_of_none (no_unlink_of_unlinked (Step.writeEntry_unlinked g l e))) hsy
        (cinvx_write g h e qs' hok.wf hre) (by rw [← hj]; exact hfits)
    · -- the entry, then the GC pass from the state it leaves
      rw [hl]
      obtain ⟨Ag, U, hG, hAg, hAU, hgc⟩ := gc_struct g (cinvx_write g h e qs' hok.wf hre) order
      refine ⟨(Log.writeEntry g l e).2.1 ++ Ag, U, sy, by rw [heff, hG]; simp only [List.append_assoc],
        (noUnl_of_none (no_unlink_of_unlinked (Step.writeEntry_unlinked g l e))).append hAg, hsy,
        fun hU => let ⟨A', hA'⟩ := hAU hU; ⟨_ ++ A', by rw [hA', List.append_assoc]⟩, fun k hk => ?_⟩
      exact ⟨_, by rw [directOps_append, applyOsOps_append]; exact hgc k hk,
        fun j hj' => hfits j (by rw [hj]; simpa using hj')⟩
  | reopen policy order =>
    obtain ⟨J', lp, io, r, hpre, hrec, heff, hc0, hw0, hab, e1, e2, e3⟩ := reopen_eval g hB h hw policy order
    rw [e3] at hwe
    rw [e1, e2]
    obtain ⟨Ag, U, hG, hAg, hAU, hgc⟩ := gc_struct g hc0 order
    refine ⟨[Effect.flush, Effect.ensureLen (lp.files.headD 0) g.fileBytes] ++ Ag, U, [],
      by rw [hG]; simp only [List.cons_append, List.nil_append, List.append_nil],
      NoUnl.append (fun e he => by simp at he; rcases he with rfl | rfl <;> rfl) hAg, (fun _ h => by cases h),
      fun hU => let ⟨A', hA'⟩ := hAU hU; ⟨_ ++ A', by rw [hA', List.append_assoc]⟩, fun k hk => ?_⟩
    -- `flush, ensureLen` leave the disk as it is
    have hD : applyOsOps D (directOps [Effect.flush, Effect.ensureLen _ _]) = D := ensureLen_head g hc0
    exact ⟨_, by rw [directOps_append, applyOsOps_append, hD]; exact hgc k hk,
      fun j hj => (List.mem_append.mp hj).elim (hw0 j) (hwe j)⟩

/-- every `fsync(file)` is immediately followed by `fsync(dir)` (`persist FlushAndFsync`, roll-over) -/
def SyncPat (es : List Effect) : Prop := ∀ i f, es[i]? = some (Effect.fsyncFile f) → es[i + 1]? = some Effect.fsyncDir

theorem syncPat_of_none {es : List Effect} (h : ∀ f, Effect.fsyncFile f ∉ es) : SyncPat es :=
  fun _ f hi => absurd (List.mem_of_getElem? hi) (h f)

theorem SyncPat.append {a b : List Effect} (ha : SyncPat a) (hb : SyncPat b) : SyncPat (a ++ b) := by
  intro i f hi
  by_cases hlt : i < a.length
  · rw [List.getElem?_append_left hlt] at hi
    have h1 := ha i f hi
    rw [List.getElem?_append_left (List.getElem?_eq_some_iff.mp h1).1]; exact h1
  · have hle := Nat.le_of_not_lt hlt
    rw [List.getElem?_append_right hle] at hi
    rw [List.getElem?_append_right (Nat.le_add_right_of_le hle), Nat.sub_add_comm hle]
    exact hb _ f hi

theorem syncPat_persist (l : Log) (a : PersistAction) : SyncPat (l.persistEffects a) := by
  intro i f hi
  cases a with
  | flush => rcases i with _ | i <;> cases hi
  | flushAndFsync => rcases i with _ | _ | _ | i <;> first | rfl | cases hi

theorem syncPat_writeBuf (g : Geom) (l : Log) (buf : Bytes) : SyncPat (writeBuf g l buf).2 := by
  rcases Step.writeBuf_cases g l buf with ⟨_, e⟩ | ⟨_, _, e⟩ | ⟨_, _, _, _, e⟩ | ⟨_, _, _, e⟩ <;> rw [e]
  · exact syncPat_of_none (fun _ h => nomatch h)
  · exact syncPat_of_none (fun f h => by simp at h)
  all_goals exact (syncPat_persist l .flushAndFsync).append (syncPat_of_none (fun f h => by simp at h))

theorem syncPat_unlinks (fs : List Nat) : SyncPat (fs.map Effect.unlink) :=
  syncPat_of_none (fun f h => by obtain ⟨x, _, hx⟩ := List.mem_map.mp h; cases hx)

theorem syncPat_effs (g : Geom) :
    (∀ (l : Log) (order : List Bytes), SyncPat (runGc g l order).2.1) ∧
    ∀ (l : Log) (c : Call) (tick : Bool) (order : List Bytes), SyncPat (l.step g c tick order).2.2 :=
  effs_closure g SyncPat (syncPat_of_none (fun _ h => nomatch h)) SyncPat.append (syncPat_writeBuf g)
    syncPat_persist syncPat_unlinks

theorem syncPat_hist (g : Geom) (hB : g.B ≤ 65542) (evs : List Ev) {l : Log} {J : List JE} {D : Image}
    (h : CInvX g l J D) (hw : ∀ j ∈ J, C07.WF j.e) (hwf : ∀ j ∈ jourX g l D evs, C07.WF j.e)
    (htorn : TornEffs (effsX g l D evs)) : SyncPat (effsX g l D evs) := by
  refine hist_rel g hB (fun _ _ es _ => SyncPat es) (fun _ _ => syncPat_of_none (fun _ h => nomatch h))
    SyncPat.append (fun {l J D} e h hw _ _ => ?_) evs h hw hwf htorn
  cases e with
  | call c tick order => exact (syncPat_effs g).2 l c tick order
  | reopen policy order =>
    obtain ⟨J', lp, io, r, _, _, _, _, _, _, _, e2, _⟩ := reopen_eval g hB h hw policy order
    rw [e2]
    exact SyncPat.append (a := [Effect.flush, Effect.ensureLen (lp.files.headD 0) g.fileBytes])
      (syncPat_of_none (fun f h => by simp at h)) ((syncPat_effs g).1 lp order)

theorem unl_present (g : Geom) (hB : g.B ≤ 65542) (evs : List Ev) {l : Log} {J : List JE} {D : Image}
    (h : CInvX g l J D) (hw : ∀ j ∈ J, C07.WF j.e) (hwf : ∀ j ∈ jourX g l D evs, C07.WF j.e)
    (htorn : TornEffs (effsX g l D evs)) :
    ∀ i f, (effsX g l D evs)[i]? = some (Effect.unlink f) →
      f ∈ (applyOsOps D (directOps ((effsX g l D evs).take i))).map (·.1) := by
  refine fun i f hi => hist_each g hB
    (fun D pre e => ∀ f, e = Effect.unlink f → f ∈ (applyOsOps D (directOps pre)).map (·.1))
    (fun D a pre e h f hf => by rw [directOps_append, applyOsOps_append]; exact h f hf)
    (fun {l J D} ev h hw hwe _ i e hi f hf => ?_) evs h hw hwf htorn i _ hi f rfl
  subst hf
  -- inside an event `A ++ unlinks U ++ S`: the `k`-th unlink, on the disk where `U.drop k` is still tracked
  obtain ⟨A, U, S, hL, hA, hS, _, hgc⟩ := ev_struct g hB h hw ev hwe
  rw [hL, List.append_assoc] at hi
  rw [hL]
  by_cases h1 : i < A.length
  · rw [List.getElem?_append_left h1] at hi
    cases hA _ (List.mem_of_getElem? hi)
  · obtain ⟨k, rfl⟩ := Nat.exists_eq_add_of_le (Nat.le_of_not_lt h1)
    rw [List.getElem?_append_right (Nat.le_add_right _ _), Nat.add_sub_cancel_left] at hi
    by_cases h2 : k < U.length
    · rw [List.getElem?_append_left (by rw [List.length_map]; exact h2), List.getElem?_map,
        List.getElem?_eq_getElem h2] at hi
      have hUk : U[k] = f := Effect.unlink.inj (Option.some.inj hi)
      rw [take_mid A U S k (Nat.le_of_lt h2), directOps_append, applyOsOps_append, directOps_unlinks]
      obtain ⟨Jv, hcv, _⟩ := hgc k (Nat.le_of_lt h2)
      rw [← (dshape_of_cinvx hcv).files]
      show f ∈ U.drop k ++ _
      rw [List.drop_eq_getElem_cons h2, hUk]
      exact List.mem_append_left _ List.mem_cons_self
    · rw [List.getElem?_append_right (by rw [List.length_map]; exact Nat.le_of_not_lt h2)] at hi
      cases noUnl_sync hS _ (List.mem_of_getElem? hi)

/-- every unlink of a history comes after an `fsync(dir)` of its own event: a prefix of the effects without
    `fsync(dir)` has no unlink -/
theorem noDS_noUnl (g : Geom) (hB : g.B ≤ 65542) (evs : List Ev) {l : Log} {J : List JE} {D : Image}
    (h : CInvX g l J D) (hw : ∀ j ∈ J, C07.WF j.e) (hwf : ∀ j ∈ jourX g l D evs, C07.WF j.e)
    (htorn : TornEffs (effsX g l D evs)) :
    ∀ n, hasDS ((effsX g l D evs).take n) = false → NoUnl ((effsX g l D evs).take n) := by
  refine hist_rel g hB (fun _ _ es _ => ∀ n, hasDS (es.take n) = false → NoUnl (es.take n))
    (fun _ _ n _ e he => by simp at he) (fun {D a b _ _ _} ha hb n hn => ?_) (fun {l J D} e h hw hwe _ m hm => ?_)
    evs h hw hwf htorn
  · by_cases hle : n ≤ a.length
    · rw [List.take_append_of_le_length hle] at hn ⊢
      exact ha n hn
    · have hle := Nat.le_of_not_le hle
      rw [List.take_append, List.take_of_length_le hle, hasDS_append, Bool.or_eq_false_iff] at hn
      rw [List.take_append, List.take_of_length_le hle]
      have h1 := ha a.length (by rw [List.take_length]; exact hn.1)
      rw [List.take_length] at h1
      exact h1.append (hb _ hn.2)
  · obtain ⟨A, U, S, hL, hA, hS, hAU, _⟩ := ev_struct g hB h hw e hwe
    rw [hL] at hm ⊢
    by_cases hma : m ≤ A.length
    · rw [List.append_assoc, List.take_append_of_le_length hma]
      exact fun x hx => hA x (List.mem_of_mem_take hx)
    · -- beyond `A`: then `U = []`, as `A` would end with `fsync(dir)`
      have hU : U = [] := by
        apply Classical.byContradiction
        intro hne
        obtain ⟨A', hA'⟩ := hAU hne
        rw [List.append_assoc, List.take_append, List.take_of_length_le (Nat.le_of_not_le hma), hasDS_append, hA',
          hasDS_append, show hasDS [Effect.fsyncDir] = true from rfl, Bool.or_true, Bool.true_or] at hm
        cases hm
      subst hU
      simp only [List.map_nil, List.append_nil]
      exact fun x hx => (hA.append (noUnl_sync hS)) x (List.mem_of_mem_take hx)

end MRL.PDC

namespace MRL.PD

/-- every `ensureLen` comes right after `fsync(dir), open` (a roll-over into an existing file). A third pattern
    beside `CEPat` and `SyncPat`, closed under `++`; it stands alone: nothing shows it of the effects of a history,
    and the reductions treat the `ensureLen`s through `PDA.ce_hist`. -/
def EnsPat (es : List Effect) : Prop :=
  ∀ i f n, es[i]? = some (Effect.ensureLen f n) →
    2 ≤ i ∧ es[i - 2]? = some Effect.fsyncDir ∧ es[i - 1]? = some (Effect.openFile f)

theorem getElem?_append_some {α : Type} {a : List α} (b : List α) {j : Nat} {x : α} (h : a[j]? = some x) :
    (a ++ b)[j]? = some x := by
  obtain ⟨hlt, _⟩ := List.getElem?_eq_some_iff.mp h
  rw [List.getElem?_append_left hlt]; exact h

theorem pat_append_left {a : List Effect} (b : List Effect) {i f : Nat}
    (h : 2 ≤ i ∧ a[i - 2]? = some Effect.fsyncDir ∧ a[i - 1]? = some (Effect.openFile f)) :
    2 ≤ i ∧ (a ++ b)[i - 2]? = some Effect.fsyncDir ∧ (a ++ b)[i - 1]? = some (Effect.openFile f) :=
  ⟨h.1, getElem?_append_some b h.2.1, getElem?_append_some b h.2.2⟩

theorem pat_append_right (a : List Effect) {b : List Effect} {i f : Nat} (hge : a.length ≤ i)
    (h : 2 ≤ i - a.length ∧ b[i - a.length - 2]? = some Effect.fsyncDir ∧
      b[i - a.length - 1]? = some (Effect.openFile f)) :
    2 ≤ i ∧ (a ++ b)[i - 2]? = some Effect.fsyncDir ∧ (a ++ b)[i - 1]? = some (Effect.openFile f) := by
  obtain ⟨k, rfl⟩ := Nat.exists_eq_add_of_le hge
  rw [Nat.add_sub_cancel_left] at h
  obtain ⟨h1, h2, h3⟩ := h
  refine ⟨Nat.le_trans h1 (Nat.le_add_left _ _), ?_, ?_⟩
  · rw [Nat.add_sub_assoc h1, List.getElem?_append_right (Nat.le_add_right _ _), Nat.add_sub_cancel_left]
    exact h2
  · rw [Nat.add_sub_assoc (Nat.le_of_succ_le h1), List.getElem?_append_right (Nat.le_add_right _ _),
      Nat.add_sub_cancel_left]
    exact h3

theorem EnsPat.append {a b : List Effect} (ha : EnsPat a) (hb : EnsPat b) : EnsPat (a ++ b) := by
  intro i f n hi
  by_cases hlt : i < a.length
  · rw [List.getElem?_append_left hlt] at hi
    exact pat_append_left b (ha i f n hi)
  · have hge := Nat.le_of_not_lt hlt
    rw [List.getElem?_append_right hge] at hi
    exact pat_append_right a hge (hb _ f n hi)

end MRL.PD

namespace MRL.PDA
open Buf H L Log P PX PDC

/-- a `create` or an `ensureLen` is issued with nothing pending (a roll-over follows an `fsync(dir)`),
    except the `ensureLen` of a restart, which is on a file of the disk -/
theorem ce_hist (g : Geom) (hB : g.B ≤ 65542) (evs : List Ev) {l : Log} {J : List JE} {D : Image}
    (h : CInvX g l J D) (hw : ∀ j ∈ J, C07.WF j.e) (hwf : ∀ j ∈ jourX g l D evs, C07.WF j.e)
    (htorn : TornEffs (effsX g l D evs)) :
    Disc.Each (effsX g l D evs) fun pre e => isCE e = true → (∀ p, pendAfter p pre = false) ∨
      ∃ f m, e = Effect.ensureLen f m ∧ f ∈ (applyOsOps D (directOps pre)).map (·.1) ∧
        applyOsOps D (directOps (pre ++ [e])) = applyOsOps D (directOps pre) := by
  refine hist_each g hB (fun D pre e => isCE e = true → (∀ p, pendAfter p pre = false) ∨
      ∃ f m, e = Effect.ensureLen f m ∧ f ∈ (applyOsOps D (directOps pre)).map (·.1) ∧
        applyOsOps D (directOps (pre ++ [e])) = applyOsOps D (directOps pre))
    (fun D a pre e h hce => ?_) (fun {l J D} ev h hw _ _ i e hi hce => ?_) evs h hw hwf htorn
  · rcases h hce with h1 | ⟨f, m, he, h1⟩
    · left; intro p; rw [pendAfter_append]; exact h1 _
    · right
      rw [List.append_assoc, directOps_append, directOps_append, applyOsOps_append, applyOsOps_append]
      exact ⟨f, m, he, h1⟩
  · cases ev with
    | call c tick order => exact Or.inl ((cePat_effs g).2 l c tick order i e hi hce)
    | reopen policy order =>
      obtain ⟨J', lp, io, r, _, _, _, hc0, _, _, _, e2, _⟩ := reopen_eval g hB h hw policy order
      rw [e2] at hi ⊢
      rcases i with _ | _ | i
      · simp only [List.getElem?_cons_zero, Option.some.injEq] at hi
        subst hi; cases hce
      · -- the `ensureLen` of the restart: on the first tracked file, which is on the disk
        right
        simp only [List.cons_append, List.nil_append, List.getElem?_cons_succ, List.getElem?_cons_zero,
          Option.some.injEq] at hi
        subst hi
        refine ⟨_, _, rfl, ?_, ?_⟩
        · show lp.files.headD 0 ∈ D.map (·.1)
          rw [← (dshape_of_cinvx hc0).files]
          have hne := hc0.jinv.h.files.ne_nil
          cases hfl : lp.files with
          | nil => exact absurd hfl hne
          | cons a as => exact List.mem_cons_self
        · -- a no-op: the first file is full
          show applyOsOps D (directOps [Effect.flush, Effect.ensureLen (lp.files.headD 0) g.fileBytes]) = D
          exact ensureLen_head g hc0
      · left
        intro p
        simp only [List.cons_append, List.nil_append, List.getElem?_cons_succ] at hi
        show pendAfter p ([Effect.flush, Effect.ensureLen _ _] ++ List.take i (runGc g lp order).2.1) = false
        rw [pendAfter_append]
        exact (cePat_effs g).1 lp order i e hi hce _

/-- the effects of a history obey what `PDC.hinvD` asks for, from any state of the lazy-directory model with
    nothing pending on the disk of the history -/
theorem hist_discipline (g : Geom) (hB : g.B ≤ 65542) (evs : List Ev) {l : Log} {J : List JE} {D : Image}
    (hc : CInvX g l J D) (hw : ∀ j ∈ J, C07.WF j.e) (hwf : ∀ j ∈ jourX g l D evs, C07.WF j.e)
    (htorn : TornEffs (effsX g l D evs)) (S : PState) (hS : S.vol = D) :
    (∀ i f, (effsX g l D evs)[i]? = some (Effect.create f) →
      (prunD ⟨S, [], false⟩ (directOpsP ((effsX g l D evs).take i))).und = []) ∧
    (∀ i f m, (effsX g l D evs)[i]? = some (Effect.ensureLen f m) →
      (prunD ⟨S, [], false⟩ (directOpsP ((effsX g l D evs).take i))).und = [] ∨
      f ∈ (applyOsOps S.vol (directOps ((effsX g l D evs).take i))).map (·.1)) ∧
    (∀ i f, (effsX g l D evs)[i]? = some (Effect.unlink f) →
      f ∈ (applyOsOps S.vol (directOps ((effsX g l D evs).take i))).map (·.1)) ∧
    (∀ i f, (effsX g l D evs)[i]? = some (Effect.fsyncFile f) → i + 1 < (effsX g l D evs).length →
      (effsX g l D evs)[i + 1]? = some Effect.fsyncDir) := by
  have hce := ce_hist g hB evs hc hw hwf htorn
  have hpres := unl_present g hB evs hc hw hwf htorn
  have hsp := syncPat_hist g hB evs hc hw hwf htorn
  generalize effsX g l D evs = Er at *
  have hundnil : ∀ i, pendAfter false (Er.take i) = false →
      (prunD ⟨S, [], false⟩ (directOpsP (Er.take i))).und = [] := fun i hp => und_nil_of_pend _ S hp
  have hcreate : ∀ i f, Er[i]? = some (Effect.create f) →
      (prunD ⟨S, [], false⟩ (directOpsP (Er.take i))).und = [] :=
    fun i f hi => (hce i _ hi rfl).elim (fun h => hundnil i (h false)) (fun ⟨_, _, h, _⟩ => nomatch h)
  refine ⟨hcreate, fun i f m hi => ?_, fun i f hi => ?_, fun i f hi _ => ?_⟩
  · -- the `ensureLen` of a restart is on a file of the disk
    rcases hce i _ hi rfl with h1 | ⟨f', m', hfm, h1, _⟩
    · exact .inl (hundnil i (h1 false))
    · injection hfm with hf' _
      subst hf'
      exact .inr (by rw [hS]; exact h1)
  · rw [hS]
    exact hpres i f hi
  · exact hsp i f hi

end MRL.PDA
