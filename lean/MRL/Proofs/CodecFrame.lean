/-
One frame: the reader decodes what `encodeFrame` produced (C07).
-/
import MRL.Proofs.CodecBytes

namespace MRL.Codec
open Consts

theorem frameCrc_lt (t : FrameType) (p : Bytes) : frameCrc t p < 2 ^ 32 :=
  UInt32.toNat_lt _

theorem ofCode_code (t : FrameType) : FrameType.ofCode (t.code.toUInt8).toNat = some t := by
  cases t <;> decide

theorem code_ne_zero (t : FrameType) : (t.code.toUInt8 == 0) = false := by
  cases t <;> decide

theorem length_encodeHeader (t : FrameType) (p : Bytes) : (encodeHeader t p).length = 7 := by
  simp [encodeHeader, length_leBytes]

theorem length_encodeFrame (t : FrameType) (p : Bytes) : (encodeFrame t p).length = 7 + p.length := by
  simp [encodeFrame, length_encodeHeader]

theorem isAllZero_encodeHeader (t : FrameType) (p : Bytes) : isAllZero (encodeHeader t p) = false := by
  simp [encodeHeader, isAllZero, code_ne_zero]

theorem isAllZero_encodeFrame (t : FrameType) (p : Bytes) : isAllZero (encodeFrame t p) = false := by
  simp [encodeFrame, isAllZero_append, isAllZero_encodeHeader]

theorem encodeHeader_take4 (t : FrameType) (p : Bytes) :
    (encodeHeader t p).take 4 = leBytes (frameCrc t p) 4 := by
  unfold encodeHeader
  rw [List.append_assoc, List.take_left' (length_leBytes _ _)]

theorem encodeHeader_len (t : FrameType) (p : Bytes) :
    ((encodeHeader t p).drop 4).take 2 = leBytes p.length 2 := by
  unfold encodeHeader
  rw [List.append_assoc, List.drop_left' (length_leBytes _ _), List.take_left' (length_leBytes _ _)]

theorem encodeHeader_getD6 (t : FrameType) (p : Bytes) :
    (encodeHeader t p).getD 6 0 = t.code.toUInt8 := by
  unfold encodeHeader
  have h : (leBytes (frameCrc t p) 4 ++ leBytes p.length 2).length = 6 := by
    simp [length_leBytes]
  rw [List.getD_eq_getElem?_getD, List.getElem?_append_right (by omega), h]
  rfl

/-- From here on the proofs write `7` for `HEADER_LEN` and `6` for `HEADER_LEN - 1`, so that `omega`
    sees the numbers. -/
theorem scanBlockFrom_short (g : Geom) (r : Bytes) (c : Nat) (h : g.B - c < 7) :
    scanBlockFrom g r c = ([], .needNext c) := by
  rw [scanBlockFrom, dif_pos (by simpa only [HEADER_LEN] using h)]

theorem scanBlockFrom_zero (g : Geom) (r : Bytes) (c : Nat) (h : 7 ≤ g.B - c)
    (hz : isAllZero (r.take 7) = true) : scanBlockFrom g r c = ([], .zeroHeader c) := by
  rw [scanBlockFrom, dif_neg (show ¬ g.B - c < HEADER_LEN from Nat.not_lt.mpr h)]
  simp only [HEADER_LEN, hz, if_true]

theorem scanBlockFrom_badType (g : Geom) (r : Bytes) (c : Nat) (h : 7 ≤ g.B - c)
    (hz : isAllZero (r.take 7) = false) (ht : FrameType.ofCode ((r.take 7).getD 6 0).toNat = none) :
    scanBlockFrom g r c = ([.corrupt], .needNext c) := by
  rw [scanBlockFrom, dif_neg (show ¬ g.B - c < HEADER_LEN from Nat.not_lt.mpr h)]
  simp only [HEADER_LEN, hz, ht, Bool.false_eq_true, if_false]

theorem scanBlockFrom_hdr (g : Geom) (r : Bytes) (c : Nat) (t : FrameType) (h : 7 ≤ g.B - c)
    (hz : isAllZero (r.take 7) = false) (ht : FrameType.ofCode ((r.take 7).getD 6 0).toNat = some t)
    (hfit : c + 7 + leNat (((r.take 7).drop 4).take 2) ≤ g.B) :
    scanBlockFrom g r c =
      ((if frameCrc t ((r.drop 7).take (leNat (((r.take 7).drop 4).take 2))) = leNat ((r.take 7).take 4)
          then FrameEv.frame t ((r.drop 7).take (leNat (((r.take 7).drop 4).take 2))) else FrameEv.corrupt) ::
        (scanBlockFrom g ((r.drop 7).drop (leNat (((r.take 7).drop 4).take 2)))
          (c + 7 + leNat (((r.take 7).drop 4).take 2))).1,
        (scanBlockFrom g ((r.drop 7).drop (leNat (((r.take 7).drop 4).take 2)))
          (c + 7 + leNat (((r.take 7).drop 4).take 2))).2) := by
  rw [scanBlockFrom, dif_neg (show ¬ g.B - c < HEADER_LEN from Nat.not_lt.mpr h)]
  simp only [HEADER_LEN, hz, ht, Bool.false_eq_true, if_false, if_neg (Nat.not_lt.mpr hfit)]

theorem scanBlockFrom_cases (g : Geom) (r : Bytes) (x : Nat) :
    (g.B - x < 7 ∧ scanBlockFrom g r x = ([], .needNext x)) ∨
    (7 ≤ g.B - x ∧ isAllZero (r.take 7) = true ∧ scanBlockFrom g r x = ([], .zeroHeader x)) ∨
    (7 ≤ g.B - x ∧ isAllZero (r.take 7) = false ∧ FrameType.ofCode ((r.take 7).getD 6 0).toNat = none ∧
      scanBlockFrom g r x = ([.corrupt], .needNext x)) ∨
    (∃ t, 7 ≤ g.B - x ∧ isAllZero (r.take 7) = false ∧ FrameType.ofCode ((r.take 7).getD 6 0).toNat = some t ∧
      x + 7 + leNat (((r.take 7).drop 4).take 2) > g.B ∧
      scanBlockFrom g r x = ([.corrupt], .needNext (x + 7))) ∨
    (∃ t, 7 ≤ g.B - x ∧ isAllZero (r.take 7) = false ∧ FrameType.ofCode ((r.take 7).getD 6 0).toNat = some t ∧
      x + 7 + leNat (((r.take 7).drop 4).take 2) ≤ g.B ∧
      scanBlockFrom g r x =
        ((if frameCrc t ((r.drop 7).take (leNat (((r.take 7).drop 4).take 2))) = leNat ((r.take 7).take 4)
            then FrameEv.frame t ((r.drop 7).take (leNat (((r.take 7).drop 4).take 2))) else FrameEv.corrupt) ::
          (scanBlockFrom g ((r.drop 7).drop (leNat (((r.take 7).drop 4).take 2)))
            (x + 7 + leNat (((r.take 7).drop 4).take 2))).1,
         (scanBlockFrom g ((r.drop 7).drop (leNat (((r.take 7).drop 4).take 2)))
            (x + 7 + leNat (((r.take 7).drop 4).take 2))).2)) := by
  by_cases h1 : g.B - x < 7
  · exact Or.inl ⟨h1, scanBlockFrom_short g r x h1⟩
  · have h7 : 7 ≤ g.B - x := Nat.le_of_not_lt h1
    right
    by_cases h2 : isAllZero (r.take 7) = true
    · exact Or.inl ⟨h7, h2, scanBlockFrom_zero g r x h7 h2⟩
    · right
      have h2' : isAllZero (r.take 7) = false := by simpa using h2
      cases h3 : FrameType.ofCode ((r.take 7).getD 6 0).toNat with
      | none => exact Or.inl ⟨h7, h2', rfl, scanBlockFrom_badType g r x h7 h2' h3⟩
      | some t =>
        right
        by_cases h4 : x + 7 + leNat (((r.take 7).drop 4).take 2) > g.B
        · left; refine ⟨t, h7, h2', rfl, h4, ?_⟩
          rw [scanBlockFrom, dif_neg h1]
          simp only [HEADER_LEN, h2', h3, h4, Bool.false_eq_true, if_false, if_true]
        · exact Or.inr ⟨t, h7, h2', rfl, Nat.le_of_not_lt h4, scanBlockFrom_hdr g r x t h7 h2' h3 (Nat.le_of_not_lt h4)⟩

theorem encodeFrame_inj (t t' : FrameType) (p p' : Bytes) (h : encodeFrame t p = encodeFrame t' p') :
    t = t' ∧ p = p' := by
  have hp : p = p' := by
    have := congrArg (List.drop 7) h
    simpa [encodeFrame, List.drop_left' (length_encodeHeader _ _)] using this
  subst hp
  have ht := congrArg (fun l => l.getD 6 0) (List.append_cancel_right (show encodeHeader t p ++ p = encodeHeader t' p ++ p from h))
  simp only [encodeHeader_getD6] at ht
  refine ⟨?_, rfl⟩
  cases t <;> cases t' <;> first | rfl | (exfalso; revert ht; decide)

end MRL.Codec
