/-
A log that still tracks older files in front (`virt lo l`): the writer does not look at them — same
effects, same journal entries, and the log after writing is the virtual counterpart of the real one.
-/
import MRL.Proofs.JStep

namespace MRL.PDC
open Log

def virt (lo : List Nat) (l : Log) : Log := { l with files := lo ++ l.files }

theorem nextFile_virt (lo files : List Nat) (cur : Nat) (h : ∀ f ∈ lo, f ≤ cur) :
    nextFile (lo ++ files) cur = nextFile files cur := by
  unfold nextFile
  rw [List.find?_append]
  have : lo.find? (fun x => decide (cur < x)) = none := by
    rw [List.find?_eq_none]
    intro f hf hd
    exact Nat.not_lt.mpr (h f hf) (of_decide_eq_true hd)
  rw [this]; rfl

theorem writeBuf_virt (g : Geom) (lo : List Nat) (l : Log) (buf : Bytes) (h : ∀ f ∈ lo, f ≤ l.cur) :
    writeBuf g (virt lo l) buf = (virt lo (writeBuf g l buf).1, (writeBuf g l buf).2) := by
  by_cases hb : buf = []
  · subst hb
    simp [writeBuf]
  · by_cases hroll : l.off + buf.length > g.fileBytes
    · have hnv : nextFile (virt lo l).files (virt lo l).cur = nextFile l.files l.cur := nextFile_virt lo l.files l.cur h
      cases hn : nextFile l.files l.cur with
      | none =>
        rw [Step.writeBuf_roll_none g l buf hb hroll hn,
          Step.writeBuf_roll_none g (virt lo l) buf hb hroll (by rw [hnv]; exact hn)]
        simp only [virt, List.append_assoc]
      | some nf =>
        rw [Step.writeBuf_roll_some g l buf hb hroll nf hn,
          Step.writeBuf_roll_some g (virt lo l) buf hb hroll nf (by rw [hnv]; exact hn)]
        rfl
    · rw [Step.writeBuf_noroll g l buf hb hroll, Step.writeBuf_noroll g (virt lo l) buf hb hroll]
      rfl

theorem writeBufs_virt (g : Geom) (lo : List Nat) (bufs : List Bytes) : ∀ (l : Log), (∀ f ∈ lo, f ≤ l.cur) →
    writeBufs g (virt lo l) bufs = (virt lo (writeBufs g l bufs).1, (writeBufs g l bufs).2) := by
  induction bufs with
  | nil => intro l _; rfl
  | cons b bs ih =>
    intro l h
    rw [Step.writeBufs_cons, Step.writeBufs_cons, writeBuf_virt g lo l b h]
    simp only
    rw [ih (writeBuf g l b).1 (fun f hf => Nat.le_trans (h f hf) (Step.writeBuf_cur_le g l b))]

theorem writeEntry_virt (g : Geom) (lo : List Nat) (l : Log) (e : Entry) (h : ∀ f ∈ lo, f ≤ l.cur) :
    Log.writeEntry g (virt lo l) e = (virt lo (Log.writeEntry g l e).1, (Log.writeEntry g l e).2.1,
      (Log.writeEntry g l e).2.2) := by
  rw [Step.writeEntry_eq, Step.writeEntry_eq]
  have hb : Step.entryBufs g (virt lo l) e = Step.entryBufs g l e := rfl
  rw [hb, writeBufs_virt g lo (Step.entryBufs g l e) l h]

theorem writeTouches_virt (g : Geom) (lo : List Nat) (names : List Bytes) : ∀ (l : Log), (∀ f ∈ lo, f ≤ l.cur) →
    writeTouches g (virt lo l) names = (virt lo (writeTouches g l names).1, (writeTouches g l names).2.1,
      (writeTouches g l names).2.2) := by
  induction names with
  | nil => intro l _; rfl
  | cons n ns ih =>
    intro l h
    have ht : Step.touchEntry (virt lo l) n = Step.touchEntry l n := rfl
    rw [Step.writeTouches_cons, Step.writeTouches_cons, ht, writeEntry_virt g lo l (Step.touchEntry l n) h]
    simp only
    rw [ih (Log.writeEntry g l (Step.touchEntry l n)).1
      (fun f hf => Nat.le_trans (h f hf) (Step.writeEntry_cur_le g l _))]

theorem je_virt (g : Geom) (lo : List Nat) (l : Log) (e : Entry) (h : ∀ f ∈ lo, f ≤ l.cur) :
    (virt lo l).je g e = l.je g e := by
  unfold je nextLoc rollTarget
  have : nextFile (virt lo l).files (virt lo l).cur = nextFile l.files l.cur := nextFile_virt lo l.files l.cur h
  rw [this]
  rfl

theorem touchesJ_virt (g : Geom) (lo : List Nat) (names : List Bytes) : ∀ (l : Log), (∀ f ∈ lo, f ≤ l.cur) →
    touchesJ g (virt lo l) names = touchesJ g l names := by
  induction names with
  | nil => intro l _; rfl
  | cons n ns ih =>
    intro l h
    rw [touchesJ_cons, touchesJ_cons]
    have ht : touchNext (virt lo l) n = touchNext l n := rfl
    rw [ht]
    rw [je_virt g lo l _ h, writeEntry_virt g lo l (.touch n (touchNext l n)) h]
    simp only
    rw [ih _ (fun f hf => Nat.le_trans (h f hf) (Step.writeEntry_cur_le g l _))]

end MRL.PDC
