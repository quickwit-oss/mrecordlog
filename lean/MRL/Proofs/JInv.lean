/-
Structural invariant of reachable logs used by the journal theorem (`Log.HInv`: tracked files ascending
and containing the current file, every handle on a tracked file, queue invariant), what one entry
write and one GC pass do to it (`write_hinv`, `GcPass`), and the journal invariant `C01J.JInv` with its
preservation by an entry write, a GC pass and a call (`jinv_write`, `gc_replay`, `jinv_gc`, `jinv_step`).
-/
import MRL.Proofs.JSuffix

namespace MRL
open C05
namespace Log

def HandlesIn (P : Nat → Prop) (qs : MemQueues) : Prop :=
  ∀ kv ∈ qs, ∀ r ∈ kv.2.recs, ∀ f, r.file = some f → P f

structure HInv (l : Log) : Prop where
  files : FilesWF l
  inv : Inv l
  handles : HandlesIn (· ∈ l.files) l.queues

theorem head_le_of_mem {fs : List Nat} (hs : fs.Pairwise (· < ·)) {x : Nat} (hx : x ∈ fs) :
    fs.headD 0 ≤ x := by
  cases fs with
  | nil => cases hx
  | cons a as =>
    simp only [List.headD_cons]
    rcases List.mem_cons.mp hx with rfl | h
    · exact Nat.le_refl _
    · exact Nat.le_of_lt ((List.pairwise_cons.mp hs).1 x h)

theorem headD_append {fs : List Nat} (h : fs ≠ []) (e : List Nat) : (fs ++ e).headD 0 = fs.headD 0 := by
  cases fs with
  | nil => exact absurd rfl h
  | cons a as => rfl

theorem FilesWF.ne_nil {l : Log} (h : FilesWF l) : l.files ≠ [] := by
  intro e; have := h.cur_mem; rw [e] at this; cases this

theorem Grow.head {l l' : Log} (hl : FilesWF l) (h : Grow l l') : l'.files.headD 0 = l.files.headD 0 := by
  obtain ⟨e, he⟩ := h.ext
  rw [he, headD_append hl.ne_nil]

theorem Grow.mem {l l' : Log} (h : Grow l l') {f : Nat} (hf : f ∈ l.files) : f ∈ l'.files := by
  obtain ⟨e, he⟩ := h.ext
  rw [he]; exact List.mem_append_left _ hf

theorem dropLastHandle_mem {rs : List Rec} {file : Nat} {r : Rec}
    (h : r ∈ MemQueue.dropLastHandle rs file) : r.file = none ∨ r ∈ rs := by
  unfold MemQueue.dropLastHandle at h
  split at h
  · rename_i last hl
    split at h
    · rcases List.mem_append.mp h with h | h
      · right; exact List.dropLast_subset _ h
      · simp only [List.mem_singleton] at h; left; rw [h]
    · right; exact h
  · right; exact h

theorem appendRecord_handles {P : Nat → Prop} {q q' : MemQueue} {file pos : Nat} {pl : Bytes}
    (hq : ∀ r ∈ q.recs, ∀ f, r.file = some f → P f) (hf : P file)
    (h : q.appendRecord file pos pl = some q') : ∀ r ∈ q'.recs, ∀ f, r.file = some f → P f := by
  unfold MemQueue.appendRecord at h
  by_cases hlt : pos < q.nextPosition
  · rw [if_pos hlt] at h; cases h
  · rw [if_neg hlt] at h; cases h
    intro r hr f hrf
    rcases List.mem_append.mp hr with h1 | h1
    · rcases dropLastHandle_mem h1 with h2 | h2
      · rw [h2] at hrf; cases hrf
      · exact hq r h2 f hrf
    · simp only [List.mem_singleton] at h1
      rw [h1] at hrf
      simp only [Option.some.injEq] at hrf
      rw [← hrf]; exact hf

theorem appendAll_handles {P : Nat → Prop} (file : Nat) (hf : P file) (rs : List (Nat × Bytes)) :
    ∀ {q q' : MemQueue}, (∀ r ∈ q.recs, ∀ f, r.file = some f → P f) →
    appendAll q file rs = some q' → ∀ r ∈ q'.recs, ∀ f, r.file = some f → P f := by
  induction rs with
  | nil => intro q q' hq h; cases h; exact hq
  | cons x xs ih =>
    intro q q' hq h
    obtain ⟨p, pl⟩ := x
    simp only [appendAll] at h
    cases h1 : q.appendRecord file p pl with
    | none => rw [h1] at h; cases h
    | some q1 => rw [h1] at h; exact ih (appendRecord_handles hq hf h1) h

theorem truncateHead_subset (q : MemQueue) (p : Nat) : ∀ r ∈ (q.truncateHead p).1.recs, r ∈ q.recs := by
  unfold MemQueue.truncateHead
  by_cases h1 : q.start > p
  · rw [if_pos h1]; exact fun r h => h
  · by_cases h2 : p + 1 ≥ q.nextPosition
    · rw [if_neg h1, if_pos h2]; exact fun r h => nomatch h
    · rw [if_neg h1, if_neg h2]; exact fun r h => List.mem_of_mem_drop h

theorem HandlesIn.remove {P : Nat → Prop} {qs : MemQueues} (h : HandlesIn P qs) (n : Bytes) :
    HandlesIn P (qs.remove n) := fun kv hkv => h kv (mem_remove hkv)

theorem replayEntry_handles {P : Nat → Prop} {qs qs' : MemQueues} {file : Nat} {e : Entry}
    (h : HandlesIn P qs) (hf : P file) (hr : replayEntry qs file e = some qs') : HandlesIn P qs' :=
  Rec.replayEntry_all (P := fun kv => ∀ r ∈ kv.2.recs, ∀ f, r.file = some f → P f) hr h
    (fun p r hr => by cases hr)
    (fun _ _ recs hx _ ha => appendAll_handles file hf recs hx ha)
    (fun x p hx _ r hr => hx r (truncateHead_subset x p r hr))

theorem write_hinv (g : Geom) (l : Log) (e : Entry) (qs' : MemQueues) (h : HInv l)
    (hr : replayEntry l.queues l.cur e = some qs') :
    HInv { (writeEntry g l e).1 with queues := qs' } := by
  have hg := writeEntry_grow g l e h.files
  refine ⟨⟨hg.wf.sorted, hg.wf.cur_mem⟩, h.inv.replayEntry hr, ?_⟩
  show HandlesIn (· ∈ (writeEntry g l e).1.files) qs'
  have h0 : HandlesIn (· ∈ (writeEntry g l e).1.files) l.queues :=
    fun kv hkv r hr f hf => hg.mem (h.handles kv hkv r hr f hf)
  exact replayEntry_handles h0 (hg.mem h.files.cur_mem) hr

theorem refsFile_of_handle {qs : MemQueues} {kv : Bytes × MemQueue} (hkv : kv ∈ qs) {r : Rec}
    (hr : r ∈ kv.2.recs) {f : Nat} (hf : r.file = some f) : qs.refsFile f = true := by
  unfold MemQueues.refsFile MemQueue.refsFile
  simp only [List.any_eq_true]
  exact ⟨kv, hkv, r, hr, by simp [hf]⟩

/-- What the journal needs to know of a GC pass: `l` before, the entries `js` it journals, `l'` after.
    When the first tracked file moved up, the last two fields are what `suffix_lemma` asks of the
    touches that end the journal. -/
structure GcPass (l : Log) (js : List JE) (l' : Log) : Prop where
  hinv : HInv l'
  queues : l'.queues = l.queues
  chunk : Chunk l.cur js l'.cur
  /-- replaying its entries on the queues in memory changes nothing, whatever the first file -/
  noop : ∀ F, F ≤ l.cur → replayJ F l.queues js = some l.queues
  head_le : l.files.headD 0 ≤ l'.files.headD 0
  /-- its entries are touches located in files that stay -/
  touches : ∀ j ∈ js, l'.files.headD 0 ≤ j.loc ∧ ∃ n p, j.e = .touch n p
  /-- no file went, or every empty queue got its touch -/
  covered : l'.files.headD 0 = l.files.headD 0 ∨ ∀ n ∈ l.queues.emptyNames, ∃ j ∈ js, j.e.queue = n

theorem gcPass (g : Geom) (l2 : Log) (order : List Bytes) (h : HInv l2) :
    GcPass l2 (gcJ g l2 order) (runGc g l2 order).1 := by
  rcases runGc_shape g l2 order h.inv.1 with ⟨hj, hl⟩ | ⟨names, rem, del, hj, hl, hgc, hnames⟩
  · rw [hj, hl]
    exact ⟨h, rfl, Chunk.nil (Nat.le_refl _), fun _ _ => rfl, Nat.le_refl _, nofun, .inl rfl⟩
  · have hgrow := writeTouches_grow g names l2 h.files
    obtain ⟨hsplit, hdel, _⟩ := gcFiles_spec _ _ _ _ hgc
    have hsorted3 := hgrow.wf.sorted
    rw [hsplit] at hsorted3
    have hrem_sorted : rem.Pairwise (· < ·) := (List.pairwise_append.mp hsorted3).2.1
    -- never deleted: the writer's file, the file that was current when the pass began, and any
    -- file a handle refers to
    have hkeep : ∀ f ∈ (writeTouches g l2 names).1.files,
        (f = (writeTouches g l2 names).1.cur ∨ f = l2.cur ∨
          (writeTouches g l2 names).1.queues.refsFile f = true) → f ∈ rem := by
      intro f hf hc
      rw [hsplit] at hf
      rcases List.mem_append.mp hf with hd | hr
      · have := hdel f hd
        unfold canDelete at this
        simp only [Bool.and_eq_true, bne_iff_ne, ne_eq, Bool.not_eq_eq_eq_not, Bool.not_true] at this
        rcases hc with hc | hc | hc
        · exact absurd hc this.1.1
        · exact absurd hc this.1.2
        · rw [hc] at this; exact absurd this.2 (by simp)
      · exact hr
    have hcur_rem : (writeTouches g l2 names).1.cur ∈ rem := hkeep _ hgrow.wf.cur_mem (Or.inl rfl)
    have hpin_rem : l2.cur ∈ rem := hkeep _ (hgrow.mem h.files.cur_mem) (Or.inr (Or.inl rfl))
    have hq3 : (writeTouches g l2 names).1.queues = l2.queues := hgrow.queues
    rw [hl, hj]
    refine ⟨⟨⟨hrem_sorted, hcur_rem⟩, Inv.of_queues hq3 h.inv, ?_⟩, hq3,
      touchesJ_chunk g names l2 h.files, ?_, ?_, ?_, .inr ?_⟩
    · show HandlesIn (· ∈ rem) (writeTouches g l2 names).1.queues
      intro kv hkv r hr f hf
      have hkv2 : kv ∈ l2.queues := by rw [← hq3]; exact hkv
      exact hkeep f (hgrow.mem (h.handles kv hkv2 r hr f hf))
        (Or.inr (Or.inr (refsFile_of_handle hkv hr hf)))
    · exact fun F hF => touches_replay g F names l2 h.files hF h.inv.1 (fun n hn => (hnames n).mp hn)
    · show l2.files.headD 0 ≤ rem.headD 0
      have hmem : rem.headD 0 ∈ (writeTouches g l2 names).1.files := by
        rw [hsplit]
        apply List.mem_append_right
        cases rem with
        | nil => cases hcur_rem
        | cons a as => exact List.mem_cons_self
      rw [← hgrow.head h.files]
      exact head_le_of_mem hgrow.wf.sorted hmem
    · intro j hjm
      have hb := (touchesJ_chunk g names l2 h.files).bounds j hjm
      have hle : rem.headD 0 ≤ l2.cur := head_le_of_mem hrem_sorted hpin_rem
      refine ⟨?_, (touchesJ_entries g names l2).2 j hjm⟩
      exact Nat.le_trans hle (Nat.le_trans hb.1 hb.2.1)
    · intro n hn
      have hn' : n ∈ names := (hnames n).mpr hn
      rw [← (touchesJ_entries g names l2).1] at hn'
      obtain ⟨j, hjm, hjq⟩ := List.mem_map.mp hn'
      exact ⟨j, hjm, hjq⟩

end Log
end MRL

namespace MRL.C01J
open Log C05

/-- the invariant carried along a history -/
structure JInv (l : Log) (J : List JE) : Prop where
  /-- files ascending, current file tracked, handles on tracked files, queue invariant -/
  h : HInv l
  /-- journal ordered by location, `attr ≤ loc ≤ cur`, appends well formed -/
  chunk : Chunk 0 J l.cur
  rep : ∃ qs, replayJ (l.files.headD 0) [] J = some qs ∧ QsEquiv qs l.queues ∧ QsWF qs

theorem jinv_init (policy : Policy) :
    JInv { files := [0], cur := 0, off := 0, queues := [], policy := policy } [] := by
  refine ⟨⟨⟨by simp, by simp⟩, ⟨List.Pairwise.nil, nofun⟩, ?_⟩, Chunk.nil (Nat.le_refl _),
    [], rfl, QsEquiv.refl _, QsWF.nil⟩
  intro kv hkv; cases hkv

theorem replay_je (g : Geom) (l : Log) (e : Entry) (qs' : MemQueues) (F : Nat) (hF : F ≤ l.cur)
    (hre : replayEntry l.queues l.cur e = some qs') :
    replayJ F l.queues [l.je g e] = some qs' := by
  have h1 := nextLoc_ge g l
  have hloc : ¬ (l.je g e).loc < F := by simp only [je]; omega
  have hmax : max (l.je g e).attr F = l.cur := by simp only [je]; omega
  simp only [replayJ, hloc, if_false, hmax]
  show (replayEntry l.queues l.cur e).bind _ = _
  rw [hre]; rfl

theorem extend_rep {l : Log} {J js : List JE} {qs qs' : MemQueues} {F : Nat}
    (hinv : Inv l) (hrep : replayJ F [] J = some qs) (heq : QsEquiv qs l.queues) (hwf : QsWF qs)
    (hjs : replayJ F l.queues js = some qs') :
    ∃ qs1, replayJ F [] (J ++ js) = some qs1 ∧ QsEquiv qs1 qs' ∧ QsWF qs1 := by
  obtain ⟨qs1, h1, he⟩ := replayJ_congr F js heq.symm (QsWF.of_inv hinv) hwf hjs
  refine ⟨qs1, ?_, he.symm, replayJ_wf F js hwf h1⟩
  rw [replayJ_append, hrep]
  exact h1

/-- the first tracked file is the same and the replay is extended by the entry -/
theorem jinv_write (g : Geom) {l : Log} {J : List JE} (hJ : JInv l J) (e : Entry) (qs' : MemQueues)
    (hewf : EntryWF e) (hre : replayEntry l.queues l.cur e = some qs') :
    JInv ({ (Log.writeEntry g l e).1 with queues := qs' } : Log) (J ++ [l.je g e]) := by
  obtain ⟨h, chunk, qs, hrep, heq, hwf⟩ := hJ
  have hF : l.files.headD 0 ≤ l.cur := head_le_of_mem h.files.sorted h.files.cur_mem
  refine ⟨write_hinv g l e qs' h hre, chunk.append (je_chunk g l e h.files hewf), ?_⟩
  show ∃ qs, replayJ ((Log.writeEntry g l e).1.files.headD 0) [] (J ++ [l.je g e]) = some qs ∧ _
  rw [(writeEntry_grow g l e h.files).head h.files]
  exact extend_rep h.inv hrep heq hwf (replay_je g l e qs' _ hF hre)

/-- **A GC pass and the replay.** From every file `Fo` between the first tracked file before the pass
    and the one after it, the journal with the entries of the pass replays to the queues in memory:
    at the old first file because the touches change nothing, beyond it by `suffix_lemma`, whose
    hypotheses are the fields of `GcPass`. -/
theorem gc_replay {l l' : Log} {J js : List JE} (hJ : JInv l J) (P : GcPass l js l') (Fo : Nat)
    (h1 : l.files.headD 0 ≤ Fo) (h2 : Fo ≤ l'.files.headD 0) :
    ∃ qo, replayJ Fo [] (J ++ js) = some qo ∧ QsEquiv qo l.queues ∧ QsWF qo := by
  obtain ⟨h, chunk, qs, hrep, heq, hwf⟩ := hJ
  have hF : l.files.headD 0 ≤ l.cur := head_le_of_mem h.files.sorted h.files.cur_mem
  obtain ⟨qs1, r1, r2, r3⟩ := extend_rep h.inv hrep heq hwf (P.noop _ hF)
  rcases Nat.eq_or_lt_of_le h1 with rfl | hlt
  · exact ⟨qs1, r1, r2, r3⟩
  have hchunk' := chunk.append P.chunk
  rcases P.covered with hsame | hempty
  · omega
  obtain ⟨qb, b1, b2⟩ := suffix_lemma _ _ hlt J js hchunk'.mono
    (fun j hj => ⟨(hchunk'.bounds j hj).2.1, hchunk'.wf j hj⟩)
    (fun j hj => ⟨Nat.le_trans h2 (P.touches j hj).1, (P.touches j hj).2⟩) qs1 r1
    (by
      intro n x hx r hr f hf
      obtain ⟨y, hy, hxy⟩ := r2.get_some hx
      rw [hxy.1] at hr
      rw [← P.queues] at hy
      exact Nat.le_trans h2
        (head_le_of_mem P.hinv.files.sorted (P.hinv.handles (n, y) (AL.get?_mem hy) r hr f hf)))
    (by
      intro n x hx hxe
      obtain ⟨y, hy, hxy⟩ := r2.get_some hx
      exact hempty n ((mem_emptyNames h.inv.1 n).mpr ⟨y, hy, by rw [← hxy.1]; exact hxe⟩))
  exact ⟨qb, b1, b2.trans r2, replayJ_wf _ _ QsWF.nil b1⟩

theorem jinv_gc {l l' : Log} {J js : List JE} (hJ : JInv l J) (P : GcPass l js l') : JInv l' (J ++ js) := by
  obtain ⟨qo, r1, r2, r3⟩ := gc_replay hJ P _ P.head_le (Nat.le_refl _)
  exact ⟨P.hinv, hJ.chunk.append P.chunk, qo, r1, by rw [P.queues]; exact r2, r3⟩

theorem jinv_step (g : Geom) {l : Log} {J : List JE} (c : Call) (tick : Bool) (order : List Bytes)
    (hJ : JInv l J) : JInv (l.step g c tick order).1 (J ++ l.stepJ g c order) := by
  rcases H.step_full g l c tick order with
    ⟨hj, hl, _⟩ | ⟨e, qs', _, hewf, hre, _, (⟨hj, hl, _⟩ | ⟨hj, hl, _⟩)⟩ <;> rw [hj, hl]
  · rw [List.append_nil]; exact hJ
  · exact jinv_write g hJ e qs' hewf.wf hre
  · have h2 := jinv_write g hJ e qs' hewf.wf hre
    rw [← List.singleton_append, ← List.append_assoc]
    exact jinv_gc h2 (gcPass g _ order h2.h)

end MRL.C01J
