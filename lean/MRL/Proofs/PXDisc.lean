/-
The effects of every call and of `open` obey the power-loss discipline `PX.pd`, also when ONE
tracked file lies beyond the current one (the file pre-created by an interrupted roll-over): the
roll-over then goes into it (`flush, fsync(old), fsync(dir)` THEN `open, ensureLen, write`).
-/
import MRL.Proofs.PXSem
import MRL.Proofs.PDisc

namespace MRL.PX
open Log P

/-- the discipline state matches the log: the current file is the one written, it is not empty; at
    most one tracked file beyond it -/
structure PDLX (σ : PDX) (l : Log) : Prop where
  wf : σ.wf = l.cur
  wrt : σ.wrt = true
  nxt : σ.nxt = nextFile l.files l.cur
  one : ∀ f ∈ l.files, l.cur < f → σ.nxt = some f
  fw : FilesWF l

theorem PDLX.congr {σ : PDX} {l l' : Log} (h : PDLX σ l) (hf : l'.files = l.files) (hc : l'.cur = l.cur) : PDLX σ l' :=
  ⟨by rw [hc]; exact h.wf, h.wrt, by rw [hf, hc]; exact h.nxt, by rw [hf, hc]; exact h.one,
    ⟨by rw [hf]; exact h.fw.sorted, by rw [hf, hc]; exact h.fw.cur_mem⟩⟩

def Obeys (fb : Nat) : Log → List Effect → Log → Prop := Disc.Obeys (pd1 fb) PDLX

theorem pd_persist (fb : Nat) (l : Log) (a : PersistAction) (σ : PDX) (h : PDLX σ l) :
    ∃ σ', pd fb σ (l.persistEffects a) = some σ' ∧ PDLX σ' l ∧ σ'.clean = true ∧
      (a = .flushAndFsync → σ'.dirty = false ∧ σ'.named = true) := by
  obtain ⟨hw, hwrt, hnx, hone, hfw⟩ := h
  cases a with
  | flush =>
    exact ⟨{ σ with clean := true }, rfl, ⟨hw, hwrt, hnx, hone, hfw⟩, rfl,
      fun hx => by cases hx⟩
  | flushAndFsync =>
    exact ⟨{ σ with clean := true, dirty := false, named := true }, by simp [persistEffects, pd, Disc.run, pd1, hw, hwrt],
      ⟨hw, hwrt, hnx, hone, hfw⟩, rfl, fun _ => ⟨rfl, rfl⟩⟩

/-- the write path; a roll-over first does `flush, fsync(file), fsync(dir)`, then goes into the
    tracked file beyond the current one, or creates `cur + 1` -/
theorem pd_write (g : Geom) : Step.Along g fun l es _ l' => Obeys g.fileBytes l es l' :=
  .of_shapes (fun _ σ h => ⟨σ, rfl, h⟩) Disc.Obeys.trans
    (fun l buf hb _ σ ⟨hw, _, hnx, hone, hfw⟩ =>
      ⟨{ σ with dirty := true, wrt := true, clean := false },
        by simp only [Disc.run, pd1, hw, ne_eq, hb, not_false_eq_true, and_self, if_true, Option.bind_some],
        hw, rfl, hnx, hone, ⟨hfw.sorted, hfw.cur_mem⟩⟩)
    (fun l buf nf hb hn σ h => by
      obtain ⟨σ2, q2, ⟨hw2, _, hnx2, hone2, hfw⟩, c2, a2⟩ := pd_persist g.fileBytes l .flushAndFsync σ h
      obtain ⟨hd2, hn2⟩ := a2 rfl
      have q2 : pd g.fileBytes σ [.flush, .fsyncFile l.cur, .fsyncDir] = some σ2 := q2
      have hlt := (nextFile_some hn).2
      have hσn : σ2.nxt = some nf := hnx2.trans hn
      have hbey : ∀ f ∈ l.files, ¬ nf < f := by
        intro f hf hlt2
        cases Option.some.inj (hσn.symm.trans (hone2 f hf (Nat.lt_trans hlt hlt2)))
        exact Nat.lt_irrefl _ hlt2
      refine ⟨{ σ2 with wf := nf, nxt := none, dirty := true, wrt := true, clean := false }, ?_, rfl, rfl,
        ((nextFile_none_iff _ _).mpr hbey).symm, fun f hf hlt2 => absurd hlt2 (hbey f hf),
        ⟨hfw.sorted, (nextFile_some hn).1⟩⟩
      show pd g.fileBytes σ ([.flush, .fsyncFile l.cur, .fsyncDir] ++ [_, _, _]) = _
      rw [pd_append, q2]
      simp only [pd, Disc.run, pd1, hw2, hd2, hn2, c2, hσn, ne_eq, hb, not_false_eq_true, Option.bind_some, and_self, if_true,
        Nat.not_le.mpr hlt, if_false])
    (fun l buf hb hn σ h => by
      obtain ⟨σ2, q2, ⟨hw2, _, hnx2, _, hfw⟩, c2, a2⟩ := pd_persist g.fileBytes l .flushAndFsync σ h
      obtain ⟨hd2, hn2⟩ := a2 rfl
      have q2 : pd g.fileBytes σ [.flush, .fsyncFile l.cur, .fsyncDir] = some σ2 := q2
      have hσn : σ2.nxt = none := hnx2.trans hn
      refine ⟨{ σ2 with wf := l.cur + 1, dirty := true, named := false, wrt := true, clean := false }, ?_, rfl, rfl,
        hσn.trans ((nextFile_none_iff _ _).mpr (roll_none hn)).symm, fun f hf hlt => absurd hlt (roll_none hn f hf),
        hfw.rollNew hn _⟩
      show pd g.fileBytes σ ([.flush, .fsyncFile l.cur, .fsyncDir] ++ [_, _, _]) = _
      rw [pd_append, q2]
      simp only [pd, Disc.run, pd1, hw2, hd2, hn2, c2, hσn, ne_eq, hb, not_false_eq_true, Option.bind_some, and_self, if_true,
        Nat.lt_add_one])

theorem pd_unlinks (fb : Nat) (fs : List Nat) (σ : PDX) (hlt : ∀ f ∈ fs, f < σ.wf) (hd : σ.dirty = false)
    (hn : σ.named = true) (hc : σ.clean = true) : pd fb σ (fs.map Effect.unlink) = some σ := by
  induction fs with
  | nil => rfl
  | cons f fs ih =>
    simp only [List.map_cons, pd, Disc.run, pd1]
    rw [if_pos ⟨hlt f List.mem_cons_self, hd, hn, hc⟩]
    exact ih (fun f' hf' => hlt f' (List.mem_cons_of_mem _ hf'))

/-- the discipline is followed along a call; at the end of a GC pass everything is durable when the
    unlinks come, the files released are older than the current one, and the next file stays -/
theorem along_obeys (g : Geom) : Step.AlongCall g fun l es _ l' => Obeys g.fileBytes l es l' where
  nil := (pd_write g).nil
  app := Disc.Obeys.trans
  entry := (pd_write g).writeEntry
  sync := fun l a σ h => by obtain ⟨σ', h1, h2, _⟩ := pd_persist g.fileBytes l a σ h; exact ⟨σ', h1, h2⟩
  queues := fun _ _ σ h => ⟨σ, rfl, h.congr rfl rfl⟩
  unlinks := fun l pinned σ h => by
    obtain ⟨σ2, q2, p2, c2, a2⟩ := pd_persist g.fileBytes l .flushAndFsync σ h
    obtain ⟨hd, hn⟩ := a2 rfl
    rcases hg : gcFiles (l.canDelete pinned) l.files with ⟨rem, del⟩
    have hsplit : l.files = del ++ rem := by
      have := Step.gcFiles_split (l.canDelete pinned) l.files; rw [hg] at this; exact this.symm
    have hcan : ∀ f ∈ del, l.canDelete pinned f = true := by
      have := Step.gcFiles_deleted (l.canDelete pinned) l.files; rw [hg] at this; exact this
    have hsorted := p2.fw.sorted
    rw [hsplit, List.pairwise_append] at hsorted
    have hcur_rem : l.cur ∈ rem := by
      have := p2.fw.cur_mem
      rw [hsplit] at this
      rcases List.mem_append.mp this with hm | hm
      · have := hcan _ hm
        simp [canDelete] at this
      · exact hm
    have hdel : ∀ f ∈ del, f < σ2.wf := by
      intro f hf
      rw [p2.wf]
      exact hsorted.2.2 f hf _ hcur_rem
    have hnext : nextFile l.files l.cur = nextFile rem l.cur := by
      rw [hsplit]
      unfold nextFile
      rw [List.find?_append]
      have : del.find? (fun x => decide (l.cur < x)) = none := by
        rw [List.find?_eq_none]
        intro f hf hd
        exact Nat.lt_asymm (hsorted.2.2 f hf _ hcur_rem) (of_decide_eq_true hd)
      rw [this]; rfl
    refine ⟨σ2, ?_, ⟨p2.wf, p2.wrt, ?_, ?_, ⟨hsorted.2.1, hcur_rem⟩⟩⟩
    · rw [Disc.run_append, show Disc.run _ σ _ = some σ2 from q2]
      exact pd_unlinks _ del σ2 hdel hd hn c2
    · show σ2.nxt = nextFile rem l.cur
      rw [← hnext]; exact p2.nxt
    · intro f hf hlt
      exact p2.one f (by rw [hsplit]; exact List.mem_append_right _ hf) hlt

theorem pd_runGc (g : Geom) (l : Log) (order : List Bytes) (σ : PDX) (h : PDLX σ l) :
    ∃ σ', pd g.fileBytes σ (runGc g l order).2.1 = some σ' ∧ PDLX σ' (runGc g l order).1 :=
  (along_obeys g).runGc l order σ h

theorem pd_step (g : Geom) (l : Log) (c : Call) (tick : Bool) (order : List Bytes) (σ : PDX) (h : PDLX σ l) :
    ∃ σ', pd g.fileBytes σ (l.step g c tick order).2.2 = some σ' ∧ PDLX σ' (l.step g c tick order).1 :=
  (along_obeys g).step l c tick order σ h

/-- **`open`** after dropping the log: `flush` (the drop), `ensureLen` on the first file, the GC pass;
    `lp` is the log read back from the disk, which tracks the same files as `l` -/
theorem pd_reopen (g : Geom) (l lp : Log) (order : List Bytes) (σ : PDX) (h : PDLX σ l)
    (hf : lp.files = l.files) (hc : lp.cur = l.cur) :
    ∃ σ', pd g.fileBytes σ (Effect.flush :: ([Effect.ensureLen (lp.files.headD 0) g.fileBytes] ++
        (runGc g lp order).2.1)) = some σ' ∧ PDLX σ' (runGc g lp order).1 := by
  have hp : PDLX { σ with clean := true } lp :=
    PDLX.congr (l := l) ⟨h.wf, h.wrt, h.nxt, h.one, h.fw⟩ hf hc
  obtain ⟨σ', q, p⟩ := pd_runGc g lp order _ hp
  refine ⟨σ', ?_, p⟩
  have hle : lp.files.headD 0 ≤ σ.wf := by
    rw [h.wf, ← hc]
    exact head_le_of_mem hp.fw.sorted hp.fw.cur_mem
  simp only [pd, Disc.run, pd1, Option.bind_some, List.cons_append, List.nil_append]
  rw [if_pos hle, if_pos ⟨h.wrt, trivial, trivial⟩]
  exact q

theorem pd_triple_end (fb : Nat) (σ σ' : PDX) (pre : List Effect) (f : Nat)
    (h : pd fb σ (pre ++ [.flush, .fsyncFile f, .fsyncDir]) = some σ') :
    σ'.dirty = false ∧ σ'.named = true ∧ σ'.clean = true := by
  rw [pd_append] at h
  cases h1 : pd fb σ pre with
  | none => rw [h1] at h; cases h
  | some σ1 =>
    rw [h1] at h
    simp only [Option.bind_some, pd, Disc.run, pd1] at h
    split at h
    · simp only [Option.bind_some] at h
      split at h
      · rename_i hc
        simp only [Option.bind_some, Option.some.injEq] at h
        subst h
        exact ⟨rfl, rfl, rfl⟩
      · cases h
    · cases h

end MRL.PX
