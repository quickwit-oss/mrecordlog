/-
The reader over a tape of items in ONE file: the blocks of the file are `blk1`, every tag is the file;
the tape is followed by zeros that cover the padding and one header (`Torn.read_tape1`, for C02 and
C09). `Codec.readFrom_layout` is the tape without junk, every frame as written: the reader of
`C07.C07_roundtrip`.
-/
import MRL.Proofs.LScanJ

namespace MRL.Torn
open Codec G L

theorem evsJ_tagC (f : Nat) (fs : List Frm) : evsJ (plain (tagC f fs)) = tagF f fs := by
  rw [evsJ_plain, evsOf_tagC]

theorem frs_tagC (f : Nat) (fs : List Frm) : frs (plain (tagC f fs)) = fs := by rw [frs_plain, untag_tagC]

/-- the reader stops at the next header position, which lies on the tape since the padding is shorter
    than the 7 zeros (`hD`) -/
theorem read_tape1 (g : Geom) (hB : g.B ≤ 65542) (f : Nat) (A : List AItm) (S : Bytes) (n c D : Nat)
    (hc : c < g.B) (hlen : S.length = (n + 1) * g.B) (hf : Fits g c (frs A))
    (hj : JOK g ((n + 1) * g.B) c A) (htag : ∀ a ∈ tfs A, a.1 = f)
    (hS : S.drop c = flatJ g c A ++ zeros D) (hD : 7 ≤ D) :
    ∃ e, readFrom g f S 0 n c = (evsJ A, e) ∧ e.file = f ∧
      e.idx * g.B + e.cursor = hdrPos g (endPos g c (frs A)) := by
  have h0 : 0 * g.B + c = c := by rw [Nat.zero_mul, Nat.zero_add]
  obtain ⟨ke, ce, evT, _, _, a3, a4, a5⟩ := scanFrom_tape g (blk1 g f 0 S) S (n + 1) (fun _ => rfl) hB hlen 0 c
    (Nat.succ_pos n) hc A hf (by rw [h0]; exact hj)
    (taggedB_const g _ f (fun _ => rfl) _ htag _) [] D 0 (by rw [h0, hS]; simp [zeros]) (Or.inl rfl)
  rw [h0] at a3
  -- the header position after the items lies on the tape
  have hlt : hdrPos g (endPos g c (frs A)) < (n + 1) * g.B := by
    have hE := flatJ_pos_length g A hj.rawLen c (by rw [Nat.mod_eq_of_lt hc]; exact hf)
    rw [Nat.mod_eq_of_lt hc] at hE
    have hl := congrArg List.length hS
    rw [List.length_drop, List.length_append, length_zeros, hlen] at hl
    have := hdrPos_le6 g (endPos g c (frs A))
    omega
  rw [stopPos_of_lt g hlt] at a3
  rcases a4 with ⟨_, rfl⟩ | ⟨h, _⟩
  · exact ⟨⟨f, 0 + ke, ce⟩, by rw [readFrom_eq_scanFrom, a5, List.append_nil]; rfl, rfl,
      by rw [Nat.zero_add]; exact a3⟩
  · exact absurd rfl h

end MRL.Torn

namespace MRL.Codec
open Torn G L

theorem readFrom_layout (g : Geom) (hB : g.B ≤ 65542) (f z : Nat) (hz : 7 ≤ z) (fs : List Frm)
    (T0 : Bytes) (n c : Nat) (hc : c < g.B) (hf : Fits g c fs) (hlen : T0.length = (n + 1) * g.B)
    (hT : T0.drop c = (layoutBufs g c fs).flatten ++ zeros z) :
    ∃ e, readFrom g f T0 0 n c = (tagF f fs, e) ∧ e.file = f ∧
      e.idx * g.B + e.cursor = finalPos g (c + totalLen (layoutBufs g c fs)) := by
  obtain ⟨e, e1, e2, e3⟩ := read_tape1 g hB f (plain (tagC f fs)) T0 n c z hc hlen (by rw [frs_tagC]; exact hf)
    (JOK_plain g _ _ _) (fun a ha => tagC_tag (by rwa [tfs_plain] at ha))
    (by rw [flatJ_plain, untag_tagC]; exact hT) hz
  refine ⟨e, by rw [e1, evsJ_tagC], e2, ?_⟩
  have := totalLen_layout_pos g fs c (by rw [Nat.mod_eq_of_lt hc]; exact hf)
  rw [Nat.mod_eq_of_lt hc] at this
  rw [e3, frs_tagC, this]; rfl

end MRL.Codec
