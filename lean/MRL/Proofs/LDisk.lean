/-
The relaxed disk invariant with its witnesses (`XInvX`) and what a reader needs of a disk (`DiskX`;
`ITape`, `TapeD`), over tapes of ITEMS: frames as written and junk slots left by cut writes, plus,
possibly, a residue of at most 6 junk bytes where the writer stands, in the very last block.
-/
import MRL.Proofs.GInv
import MRL.Proofs.LGroups
import MRL.Proofs.LLayout

namespace MRL.L
open Codec G

/-- the written bytes `P` are the bytes of the items `ais`, possibly followed by the padding up to
    the next block; `L` is the length of the tape -/
structure FLayJ (g : Geom) (F L : Nat) (P : Bytes) (ais : List AItm) : Prop where
  bytes : P = flatJ g 0 ais ++ zeros (P.length - endPos g 0 (frs ais))
  fits : Fits g 0 (frs ais)
  tagged : Tagged g F 0 (tfs ais)
  /-- the writer stands at the end of the items, or — resumed by `open`, whose reader skips a block tail
      shorter than a header — at the next header position -/
  len : P.length = endPos g 0 (frs ais) ∨ P.length = hdrPos g (endPos g 0 (frs ais))
  jok : JOK g L 0 ais

/-- an item tape: the full files `cs` hold the bytes of the items `ais`, `z0` zeros, the residue `res`, `z1`
    zeros; what the reader needs of a disk, whatever else is known of the items -/
structure ITape (g : Geom) (F : Nat) (cs : List Bytes) (ais : List AItm) (res : Bytes) (z0 z1 : Nat) : Prop where
  ne : cs ≠ []
  full : ∀ c ∈ cs, c.length = g.fileBytes
  flat : cs.flatten = flatJ g 0 ais ++ zeros z0 ++ res ++ zeros z1
  /-- the next header position lies in the last file: the reader ends there, so the recovered writer's
      current file is the last full-size one, never a file before it -/
  last : (cs.length - 1) * g.fileBytes ≤ hdrPos g (endPos g 0 (frs ais))
  fits : Fits g 0 (frs ais)
  tagged : Tagged g F 0 (tfs ais)
  jok : JOK g (cs.length * g.fileBytes) 0 ais
  resok : ResOK g (cs.length * g.fileBytes) (endPos g 0 (frs ais) + z0) (endPos g 0 (frs ais)) res

/-- disk-only invariant: `X` consists of the files of an item tape (the next one possibly there, empty);
    `S` is what is known of the items; a writer resuming after the items stands in the last file -/
def DiskXS (g : Geom) (X : Image) (F : Nat) (S : List AItm → Prop) : Prop :=
  ∃ (cs : List Bytes) (x : Bool) (ais : List AItm) (res : Bytes) (z0 z1 : Nat),
    ITape g F cs ais res z0 z1 ∧ X = imgOf F cs ++ xtra x (F + cs.length) ∧ S ais

/-- the items are lead frames and groups, the live ones being the retained entries of `J` -/
def DiskX (g : Geom) (X : Image) (F : Nat) (J : List JE) : Prop := DiskXS g X F (SegsX F J)

/-- `DiskX` with its witnesses: an item tape on the files of `X` (an empty next file if `x`) whose items
    `ais` = lead frames ++ groups are those of the journal -/
structure TapeD (g : Geom) (X : Image) (F : Nat) (J : List JE) (cs : List Bytes) (x : Bool)
    (ais lead : List AItm) (gs : List Grp) (res : Bytes) (z0 z1 : Nat) : Prop
    extends ITape g F cs ais res z0 z1, SegsW F J ais lead gs where
  img : X = imgOf F cs ++ xtra x (F + cs.length)

theorem ITape.diskXS {S : List AItm → Prop} {g : Geom} {X : Image} {F : Nat} {cs : List Bytes} {x : Bool}
    {ais : List AItm} {res : Bytes} {z0 z1 : Nat} (h : ITape g F cs ais res z0 z1)
    (hX : X = imgOf F cs ++ xtra x (F + cs.length)) (hS : S ais) : DiskXS g X F S :=
  ⟨cs, x, ais, res, z0, z1, h, hX, hS⟩

theorem DiskX.tapeD {g : Geom} {X : Image} {F : Nat} {J : List JE} (h : DiskX g X F J) :
    ∃ cs x ais lead gs res z0 z1, TapeD g X F J cs x ais lead gs res z0 z1 := by
  obtain ⟨cs, x, ais, res, z0, z1, ht, hX, lead, gs, h1, h2, h3, h4⟩ := h
  exact ⟨cs, x, ais, lead, gs, res, z0, z1, ht, ⟨h1, h2, h3, h4⟩, hX⟩

/-- the disk invariant over items, with a residue; a group (`GrpOK`) is live, dead or a junk slot.
    `G.XInv` is the case where every item is a frame as written and every group live, and where
    moreover `Chain` and `CurTag` hold (`of_xinv`, `to_xinv`). Without `Chain`: a junk slot between
    two entries changes the file the next one is attributed to; `read_diskX` therefore returns the
    journal with the reader's attributions. As in `TapeR`: `init` the contents of the full files before the
    current one, `t` the bytes written in the current file (`t.length = l.off`), `x` an empty next file exists -/
structure XInvX (g : Geom) (l : Log) (D : Image) (F : Nat) (J : List JE) (init : List Bytes) (t : Bytes)
    (x : Bool) (res : Bytes) (ais lead : List AItm) (gs : List Grp) : Prop where
  tape : TapeR g l D F init t x res
  lay : FLayJ g F ((init.length + 1) * g.fileBytes) (init.flatten ++ t) ais
  resok : ResOK g ((init.length + 1) * g.fileBytes) (init.flatten ++ t).length (endPos g 0 (frs ais)) res
  hais : ais = lead ++ gs.flatMap (·.2)
  hlead : ∀ a ∈ lead, a.2 = none ∧ a.1.2.1.isFirst = false
  hmap : (liveOf gs).map (·.1) = J.filter (fun j => decide (F ≤ j.loc))
  hok : ∀ y ∈ gs, GrpOK y

theorem XInvX.congr {g : Geom} {l l' : Log} {D : Image} {F : Nat} {J : List JE} {init : List Bytes}
    {t : Bytes} {x : Bool} {res : Bytes} {ais lead : List AItm} {gs : List Grp}
    (h : XInvX g l D F J init t x res ais lead gs)
    (hf : l'.files = l.files) (hc : l'.cur = l.cur) (ho : l'.off = l.off) :
    XInvX g l' D F J init t x res ais lead gs :=
  ⟨h.tape.congr hf hc ho, h.lay, h.resok, h.hais, h.hlead, h.hmap, h.hok⟩

theorem XInvX.segsW {g : Geom} {l : Log} {D : Image} {F : Nat} {J : List JE} {init : List Bytes}
    {t : Bytes} {x : Bool} {res : Bytes} {ais lead : List AItm} {gs : List Grp}
    (h : XInvX g l D F J init t x res ais lead gs) : SegsW F J ais lead gs := ⟨h.hais, h.hlead, h.hmap, h.hok⟩

theorem XInvX.segs {g : Geom} {l : Log} {D : Image} {F : Nat} {J : List JE} {init : List Bytes}
    {t : Bytes} {x : Bool} {res : Bytes} {ais lead : List AItm} {gs : List Grp}
    (h : XInvX g l D F J init t x res ais lead gs) :
    SegsX F J ais := h.segsW.segsX

theorem XInvX.tapeD_cs {g : Geom} {l : Log} {D : Image} {F : Nat} {J : List JE} {init : List Bytes}
    {t : Bytes} {x : Bool} {res : Bytes} {ais lead : List AItm} {gs : List Grp}
    (h : XInvX g l D F J init t x res ais lead gs) :
    ∃ z0 z1, TapeD g D F J (init ++ [t ++ (res ++ zeros (g.fileBytes - l.off - res.length))]) x ais lead gs res
      z0 z1 := by
  have hn : (init ++ [t ++ (res ++ zeros (g.fileBytes - l.off - res.length))]).length = init.length + 1 := by
    rw [List.length_append]; rfl
  have hPl := h.tape.P_length
  have hE : endPos g 0 (frs ais) ≤ (init.flatten ++ t).length := by
    rcases h.lay.len with h1 | h1
    · exact Nat.le_of_eq h1.symm
    · rw [h1]; exact le_hdrPos g _
  refine ⟨(init.flatten ++ t).length - endPos g 0 (frs ais), g.fileBytes - l.off - res.length,
    ⟨List.append_ne_nil_of_right_ne_nil _ (List.cons_ne_nil _ _), tapeR_chunks h.tape, ?_, ?_, h.lay.fits,
    h.lay.tagged, by rw [hn]; exact h.lay.jok, ?_⟩, h.segsW, ?_⟩
  · rw [List.flatten_append, List.flatten_singleton, ← List.append_assoc, ← List.append_assoc]
    conv => lhs; rw [h.lay.bytes]
  · rw [hn, Nat.add_sub_cancel]
    refine Nat.le_trans (hPl ▸ Nat.le_add_right _ _) ?_
    rcases h.lay.len with h1 | h1
    · rw [h1]; exact le_hdrPos g _
    · rw [h1]; exact Nat.le_refl _
  · rw [hn, Nat.add_sub_cancel' hE]; exact h.resok
  · rw [hn, ← Nat.add_assoc]; exact h.tape.img

theorem XInvX.tapeD {g : Geom} {l : Log} {D : Image} {F : Nat} {J : List JE} {init : List Bytes}
    {t : Bytes} {x : Bool} {res : Bytes} {ais lead : List AItm} {gs : List Grp}
    (h : XInvX g l D F J init t x res ais lead gs) :
    ∃ cs x' z0 z1, TapeD g D F J cs x' ais lead gs res z0 z1 := by
  obtain ⟨z0, z1, hd⟩ := h.tapeD_cs
  exact ⟨_, x, z0, z1, hd⟩

theorem XInvX.diskXS {S : List AItm → Prop} {g : Geom} {l : Log} {D : Image} {F : Nat} {J : List JE}
    {init : List Bytes} {t : Bytes} {x : Bool} {res : Bytes} {ais lead : List AItm} {gs : List Grp}
    (h : XInvX g l D F J init t x res ais lead gs) (hS : S ais) : DiskXS g D F S := by
  obtain ⟨cs, x', z0, z1, hd⟩ := h.tapeD
  exact hd.toITape.diskXS hd.img hS

theorem XInvX.diskX {g : Geom} {l : Log} {D : Image} {F : Nat} {J : List JE} {init : List Bytes}
    {t : Bytes} {x : Bool} {res : Bytes} {ais lead : List AItm} {gs : List Grp}
    (h : XInvX g l D F J init t x res ais lead gs) :
    DiskX g D F J := h.diskXS h.segs

theorem flay_appendJ (g : Geom) (F L L' : Nat) (P : Bytes) (ais : List AItm) (h : FLayJ g F L P ais) (hL : L ≤ L')
    (fs : List Frm) (hne : fs ≠ []) (hf : Fits g (P.length % g.B) fs) :
    FLayJ g F L' (P ++ (layoutBufs g (P.length % g.B) fs).flatten)
      (ais ++ plain (tagFrom g F (endPos g 0 (frs ais)) fs)) ∧
    (P ++ (layoutBufs g (P.length % g.B) fs).flatten).length = endPos g 0 (frs ais ++ fs) := by
  have hE := flatJ0_len g ais h.jok.rawLen h.fits
  have hbytes : (layoutBufs g (endPos g 0 (frs ais) % g.B) fs).flatten =
      zeros (P.length - endPos g 0 (frs ais)) ++ (layoutBufs g (P.length % g.B) fs).flatten := by
    rcases h.len with h1 | h1
    · rw [h1]; simp [zeros]
    · rw [h1]; exact layout_hdrPos g _ fs hne
  have hfits : Fits g (endPos g 0 (frs ais) % g.B) fs := by
    rcases h.len with h1 | h1
    · rw [← h1]; exact hf
    · rw [h1] at hf; exact Fits_hdrPos g _ fs hne hf
  have hend : endPos g P.length fs = endPos g (endPos g 0 (frs ais)) fs := by
    rcases h.len with h1 | h1
    · rw [h1]
    · rw [h1, endPos_hdrPos g _ fs hne]
  have hlen : (P ++ (layoutBufs g (P.length % g.B) fs).flatten).length = endPos g 0 (frs ais ++ fs) := by
    rw [List.length_append, ← totalLen_eq, totalLen_layout_pos g fs _ hf, hend, endPos_append]
  have hcur : endCursor g 0 (frs ais) = endPos g 0 (frs ais) % g.B := endCursor_frs g ais h.fits
  have hfrs : frs (ais ++ plain (tagFrom g F (endPos g 0 (frs ais)) fs)) = frs ais ++ fs := by
    rw [frs_append, frs_plain, untag_tagFrom]
  refine ⟨⟨?_, ?_, ?_, ?_, ?_⟩, hlen⟩
  · rw [hfrs, hlen, Nat.sub_self]
    simp only [zeros, List.replicate_zero, List.append_nil]
    rw [flatJ_append, hcur, flatJ_plain, untag_tagFrom, hbytes, ← List.append_assoc, ← h.bytes]
  · rw [hfrs, Fits_append, hcur]; exact ⟨h.fits, hfits⟩
  · rw [tfs_append, tfs_plain, Tagged_append]; exact ⟨h.tagged, Tagged_tagFrom g F fs _⟩
  · left; rw [hlen, hfrs]
  · rw [JOK_append]; exact ⟨h.jok.mono hL, JOK_plain g L' _ _⟩

theorem XInvX.of_xinv {g : Geom} {l : Log} {D : Image} {F : Nat} {J : List JE} {init : List Bytes} {t : Bytes}
    {afs lead : List TFrm} {segs : List Seg} (x0 : XInv g l D F J init t afs lead segs) :
    XInvX g l D F J init t false [] (plain afs) (plain lead) (plainG segs) := by
  refine ⟨x0.tape.tapeR, ⟨?_, ?_, ?_, ?_, JOK_plain g _ _ _⟩, Or.inl rfl, ?_, ?_, ?_, ?_⟩
  · rw [flatJ_plain, frs_plain]; exact x0.lay.bytes
  · rw [frs_plain]; exact x0.lay.fits
  · rw [tfs_plain]; exact x0.lay.tagged
  · rw [frs_plain]; exact x0.lay.len
  · rw [plainG_flatMap, ← plain_append, x0.hafs]
  · intro a ha
    refine ⟨mem_plain ha, ?_⟩
    simp only [plain, List.mem_map] at ha
    obtain ⟨b, hb, rfl⟩ := ha
    exact x0.hlead b hb
  · rw [liveOf_plainG]; exact x0.hmap
  · intro y hy
    obtain ⟨s, hs, rfl⟩ := List.mem_map.mp hy
    exact ⟨by rw [tfs_plain]; exact x0.hsok s hs, fun a ha => mem_plain ha⟩

theorem XInvX.to_xinv {g : Geom} {l : Log} {D : Image} {F : Nat} {J : List JE} {init : List Bytes} {t : Bytes}
    {afs lead : List TFrm} {segs : List Seg}
    (x : XInvX g l D F J init t false [] (plain afs) (plain lead) (plainG segs)) (hch : Chain segs)
    (hcur : CurTag afs l.cur) : XInv g l D F J init t afs lead segs := by
  have hl := x.lay
  refine ⟨x.tape.to_tapeX.to_tape, ⟨?_, ?_, ?_, ?_⟩, ?_, ?_, ?_, ?_, hch, hcur⟩
  · have := hl.bytes; rwa [flatJ_plain, frs_plain] at this
  · have := hl.fits; rwa [frs_plain] at this
  · have := hl.tagged; rwa [tfs_plain] at this
  · have := hl.len; rwa [frs_plain] at this
  · apply plain_inj; rw [plain_append, ← plainG_flatMap]; exact x.hais
  · intro a ha
    exact (x.hlead (a, none) (List.mem_map_of_mem (f := fun a : TFrm => ((a, none) : AItm)) ha)).2
  · have := x.hmap; rwa [liveOf_plainG] at this
  · intro s hs
    have := (x.hok (some s.1, plain s.2) (List.mem_map_of_mem (f := fun s : Seg => ((some s.1, plain s.2) : Grp)) hs)).1
    rwa [tfs_plain] at this

end MRL.L
