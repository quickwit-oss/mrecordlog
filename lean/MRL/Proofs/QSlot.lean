/-
`replayEntry` changes one slot of the queue map, by a function of that slot alone (`Entry.slot`),
and leaves every other slot as it is. Stated on lookups (`replayEntry_get?`, `replayEntry_of_slot`)
and on members (`mem_replayEntry`, no `Nodup` needed). What is kept by replay is read off from
here: a property of every (name, queue) pair (`Rec.replayEntry_all`, `Rec.replay_all`), a relation
between two maps kept key by key (`replayEntry_rel_slot`), the distinctness of the names.
-/
import MRL.Model.Recovery
import MRL.Proofs.QMemQueue

namespace MRL

/-- what replaying the entry does to the queue it addresses (`none` inside: no such queue);
    outer `none`: `open` fails -/
def Entry.slot (f : Nat) : Entry → Option MemQueue → Option (Option MemQueue)
  | .append _ pos recs, u => (Log.appendAll (u.getD (MemQueue.withNextPosition pos)) f recs).map some
  | .truncate _ p, u => some (u.map fun y => (y.truncateHead p).1)
  | .touch _ p, _ => some (some (MemQueue.withNextPosition p))
  | .delete _ _, _ => some none

theorem replayEntry_append (qs : MemQueues) (f : Nat) (q : Bytes) (pos : Nat)
    (recs : List (Nat × Bytes)) :
    replayEntry qs f (.append q pos recs) =
      (Log.appendAll ((qs.get? q).getD (MemQueue.withNextPosition pos)) f recs).map
        fun mq' => (if qs.contains q then qs else qs.ackPosition q pos).set q mq' := by
  simp only [replayEntry, MemQueues.get?_ensure]

theorem Rec.replayEntry_truncate (qs : MemQueues) (file : Nat) (q : Bytes) (p : Nat) :
    replayEntry qs file (.truncate q p) =
      some (match qs.get? q with | some mq => qs.set q (mq.truncateHead p).1 | none => qs) := by
  simp only [replayEntry]
  cases qs.get? q <;> rfl

theorem replayEntry_get? {qs qs' : MemQueues} {f : Nat} {e : Entry} (h : replayEntry qs f e = some qs') :
    e.slot f (qs.get? e.queue) = some (qs'.get? e.queue) ∧ ∀ n, n ≠ e.queue → qs'.get? n = qs.get? n := by
  cases e with
  | touch q p =>
    cases h
    exact ⟨by simp [Entry.slot, Entry.queue, MemQueues.get?_ackPosition_same],
      fun n hn => MemQueues.get?_ackPosition_other _ _ _ _ hn⟩
  | delete q p =>
    cases h
    exact ⟨by simp [Entry.slot, Entry.queue, MemQueues.get?_remove_same],
      fun n hn => MemQueues.get?_remove_other _ _ _ hn⟩
  | truncate q p =>
    rw [Rec.replayEntry_truncate] at h
    cases h
    cases hg : qs.get? q with
    | none => exact ⟨by simp [Entry.slot, Entry.queue, hg], fun _ _ => rfl⟩
    | some mq =>
      exact ⟨by simp [Entry.slot, Entry.queue, hg, MemQueues.get?_set_same],
        fun n hn => MemQueues.get?_set_other _ _ _ _ hn⟩
  | append q pos recs =>
    rw [replayEntry_append] at h
    obtain ⟨mq', ha, rfl⟩ := Option.map_eq_some_iff.mp h
    refine ⟨by simp [Entry.slot, Entry.queue, ha, MemQueues.get?_set_same], fun n hn => ?_⟩
    have hn' : n ≠ q := hn
    rw [MemQueues.get?_set_other _ _ _ _ hn', MemQueues.get?_ensure_other _ _ _ _ hn']

theorem replayEntry_of_slot {qs : MemQueues} {f : Nat} {e : Entry} {r : Option MemQueue}
    (h : e.slot f (qs.get? e.queue) = some r) :
    ∃ qs', replayEntry qs f e = some qs' ∧ qs'.get? e.queue = r ∧ ∀ n, n ≠ e.queue → qs'.get? n = qs.get? n := by
  have key : ∃ qs', replayEntry qs f e = some qs' := by
    cases e with
    | touch q p => exact ⟨_, rfl⟩
    | delete q p => exact ⟨_, rfl⟩
    | truncate q p => rw [Rec.replayEntry_truncate]; exact ⟨_, rfl⟩
    | append q pos recs =>
      simp only [Entry.slot, Entry.queue] at h
      rw [replayEntry_append]
      cases ha : Log.appendAll ((qs.get? q).getD (MemQueue.withNextPosition pos)) f recs with
      | none => rw [ha] at h; cases h
      | some mq' => exact ⟨_, rfl⟩
  obtain ⟨qs', hqs⟩ := key
  obtain ⟨h1, h2⟩ := replayEntry_get? hqs
  rw [h] at h1
  exact ⟨qs', hqs, (Option.some.inj h1).symm, h2⟩

theorem mem_replayEntry {qs qs' : MemQueues} {f : Nat} {e : Entry} (h : replayEntry qs f e = some qs')
    {kv : Bytes × MemQueue} (hkv : kv ∈ qs') :
    kv ∈ qs ∨ (kv.1 = e.queue ∧ e.slot f (qs.get? e.queue) = some (some kv.2)) := by
  have hack : ∀ (q : Bytes) (p : Nat), kv ∈ qs.ackPosition q p →
      kv ∈ qs ∨ kv = (q, MemQueue.withNextPosition p) := by
    intro q p hm
    rcases MemQueues.ackPosition_cases qs q p with e | e <;> rw [e] at hm
    · exact .inl hm
    · exact mem_set hm
  cases e with
  | touch q p =>
    cases h
    rcases hack q p hkv with h | rfl
    · exact .inl h
    · exact .inr ⟨rfl, rfl⟩
  | delete q p => cases h; exact .inl (mem_remove hkv)
  | truncate q p =>
    rw [Rec.replayEntry_truncate] at h
    cases h
    cases hg : qs.get? q with
    | none => rw [hg] at hkv; exact .inl hkv
    | some mq =>
      rw [hg] at hkv
      rcases mem_set hkv with h | rfl
      · exact .inl h
      · exact .inr ⟨rfl, by simp [Entry.slot, Entry.queue, hg]⟩
  | append q pos recs =>
    rw [replayEntry_append] at h
    obtain ⟨mq', ha, rfl⟩ := Option.map_eq_some_iff.mp h
    rcases mem_set_ne hkv with ⟨h, hne⟩ | rfl
    · left
      by_cases hc : qs.contains q = true
      · rwa [if_pos hc] at h
      · rw [if_neg hc] at h
        rcases hack q pos h with h | rfl
        · exact h
        · exact absurd rfl hne
    · exact .inr ⟨rfl, by simp [Entry.slot, Entry.queue, ha]⟩

theorem replayEntry_keys_nodup {qs qs' : MemQueues} {f : Nat} {e : Entry}
    (h : replayEntry qs f e = some qs') (hn : (qs.map (·.1)).Nodup) : (qs'.map (·.1)).Nodup := by
  have hack : ∀ (q : Bytes) (p : Nat), ((qs.ackPosition q p).map (·.1)).Nodup := by
    intro q p
    rcases MemQueues.ackPosition_cases qs q p with e | e <;> rw [e]
    · exact hn
    · exact set_keys_nodup _ _ _ hn
  cases e with
  | touch q p => cases h; exact hack q p
  | delete q p => cases h; exact remove_keys_nodup _ _ hn
  | truncate q p =>
    rw [Rec.replayEntry_truncate] at h
    cases h
    cases qs.get? q with
    | none => exact hn
    | some mq => exact set_keys_nodup _ _ _ hn
  | append q pos recs =>
    rw [replayEntry_append] at h
    obtain ⟨mq', _, rfl⟩ := Option.map_eq_some_iff.mp h
    refine set_keys_nodup _ _ _ ?_
    split
    · exact hn
    · exact hack q pos

section
variable {P : Bytes × MemQueue → Prop}

theorem all_set {qs : MemQueues} (h : ∀ kv ∈ qs, P kv) {n : Bytes} {q : MemQueue} (hq : P (n, q)) :
    ∀ kv ∈ qs.set n q, P kv := fun kv hkv => (mem_set hkv).elim (h kv) fun e => e ▸ hq

theorem all_remove {qs : MemQueues} (h : ∀ kv ∈ qs, P kv) (n : Bytes) : ∀ kv ∈ qs.remove n, P kv :=
  fun kv hkv => h kv (mem_remove hkv)

theorem all_get {qs : MemQueues} (h : ∀ kv ∈ qs, P kv) {n : Bytes} {q : MemQueue}
    (hg : qs.get? n = some q) : P (n, q) := h _ (AL.get?_mem hg)

theorem all_ack {qs : MemQueues} (h : ∀ kv ∈ qs, P kv) {n : Bytes} {next : Nat}
    (hq : P (n, MemQueue.withNextPosition next)) : ∀ kv ∈ qs.ackPosition n next, P kv := by
  rcases MemQueues.ackPosition_cases qs n next with e | e <;> rw [e]
  · exact h
  · exact all_set h hq

theorem replayEntry_all_slot {qs qs' : MemQueues} {f : Nat} {e : Entry}
    (hr : replayEntry qs f e = some qs') (h : ∀ kv ∈ qs, P kv)
    (hop : ∀ x', e.slot f (qs.get? e.queue) = some (some x') → P (e.queue, x')) :
    ∀ kv ∈ qs', P kv := by
  intro kv hkv
  rcases mem_replayEntry hr hkv with h1 | ⟨h1, h2⟩
  · exact h kv h1
  · have := hop kv.2 h2
    rwa [← h1] at this

end

theorem Entry.slot_pres {P : MemQueue → Prop} {e : Entry} {f : Nat} {u : Option MemQueue} {x' : MemQueue}
    (hnew : ∀ p, P (MemQueue.withNextPosition p))
    (happ : ∀ mq mq' recs, P mq → (∃ pos, e = .append e.queue pos recs) →
      Log.appendAll mq f recs = some mq' → P mq')
    (htr : ∀ mq p, P mq → e = .truncate e.queue p → P (mq.truncateHead p).1)
    (hu : ∀ x, u = some x → P x) (h : e.slot f u = some (some x')) : P x' := by
  cases e with
  | touch q p => cases h; exact hnew p
  | delete q p => cases h
  | truncate q p =>
    cases u with
    | none => cases h
    | some x => cases h; exact htr x p (hu x rfl) rfl
  | append q pos recs =>
    simp only [Entry.slot] at h
    obtain ⟨y, hy, hy'⟩ := Option.map_eq_some_iff.mp h
    cases hy'
    refine happ _ _ recs ?_ ⟨pos, rfl⟩ hy
    cases u with
    | none => exact hnew pos
    | some x => exact hu x rfl

namespace Rec
variable {P : Bytes × MemQueue → Prop}

theorem replayEntry_all {qs qs' : MemQueues} {file : Nat} {e : Entry} (hr : replayEntry qs file e = some qs')
    (h : ∀ kv ∈ qs, P kv) (hnew : ∀ p, P (e.queue, MemQueue.withNextPosition p))
    (happ : ∀ mq mq' recs, P (e.queue, mq) → (∃ pos, e = .append e.queue pos recs) →
      Log.appendAll mq file recs = some mq' → P (e.queue, mq'))
    (htr : ∀ mq p, P (e.queue, mq) → e = .truncate e.queue p → P (e.queue, (mq.truncateHead p).1)) :
    ∀ kv ∈ qs', P kv :=
  replayEntry_all_slot hr h fun _ hs =>
    Entry.slot_pres (P := fun q => P (e.queue, q)) hnew happ htr (fun _ hx => all_get h hx) hs

theorem replay_all (evs : List RecEv) : ∀ (qs qs' : MemQueues), replay qs evs = some qs' → (∀ kv ∈ qs, P kv) →
    (∀ file bytes e, RecEv.entry file bytes ∈ evs → Entry.decode bytes = some e →
      (∀ p, P (e.queue, MemQueue.withNextPosition p)) ∧
      (∀ mq mq' recs, P (e.queue, mq) → (∃ pos, e = .append e.queue pos recs) →
        Log.appendAll mq file recs = some mq' → P (e.queue, mq')) ∧
      (∀ mq p, P (e.queue, mq) → e = .truncate e.queue p → P (e.queue, (mq.truncateHead p).1))) →
    ∀ kv ∈ qs', P kv := by
  induction evs with
  | nil => intro qs qs' hr h _; cases hr; exact h
  | cons ev evs ih =>
    intro qs qs' hr h hev
    have hev' := fun file bytes e hm => hev file bytes e (List.mem_cons_of_mem _ hm)
    cases ev with
    | corrupt => exact ih qs qs' hr h hev'
    | entry file bytes =>
      cases hd : Entry.decode bytes with
      | none => simp only [replay, hd] at hr; exact ih qs qs' hr h hev'
      | some e =>
        simp only [replay, hd] at hr
        cases hre : replayEntry qs file e with
        | none => rw [hre] at hr; cases hr
        | some qs1 =>
          rw [hre] at hr
          obtain ⟨a1, a2, a3⟩ := hev file bytes e List.mem_cons_self hd
          exact ih qs1 qs' hr (replayEntry_all hre h a1 a2 a3) hev'

/-- queue-map invariant: distinct names, every queue sorted and above its `start`
    (`C05.Inv l` is `QsInv l.queues`) -/
def QsInv (qs : MemQueues) : Prop := (qs.map (·.1)).Nodup ∧ ∀ kv ∈ qs, C05.QInv kv.2

theorem QsInv_nil : QsInv [] := ⟨List.nodup_nil, fun _ h => by cases h⟩

theorem QsInv.remove {qs : MemQueues} (h : QsInv qs) (n : Bytes) : QsInv (qs.remove n) :=
  ⟨remove_keys_nodup _ _ h.1, all_remove h.2 n⟩

theorem QsInv_replayEntry {qs qs' : MemQueues} {file : Nat} {e : Entry}
    (h : replayEntry qs file e = some qs') (hI : QsInv qs) : QsInv qs' :=
  ⟨replayEntry_keys_nodup h hI.1,
   replayEntry_all (P := fun kv => C05.QInv kv.2) h hI.2 QInv_withNextPosition
     (fun _ _ recs hx _ ha => appendAll_inv file recs hx ha) (fun _ p hx _ => truncateHead_inv hx p)⟩

end Rec

theorem C05.Inv.replayEntry {l l' : Log} {file : Nat} {e : Entry} (hI : C05.Inv l)
    (h : replayEntry l.queues file e = some l'.queues) : C05.Inv l' :=
  Rec.QsInv_replayEntry h hI

/-- the two replays may attribute the entry to different files `f`, `f'` -/
theorem replayEntry_rel_slot {R : Option MemQueue → Option MemQueue → Prop} {f f' : Nat} {e : Entry}
    {a b a' : MemQueues} (h : ∀ n, R (a.get? n) (b.get? n))
    (hop : ∀ u', e.slot f (a.get? e.queue) = some u' →
      ∃ v', e.slot f' (b.get? e.queue) = some v' ∧ R u' v')
    (hr : replayEntry a f e = some a') :
    ∃ b', replayEntry b f' e = some b' ∧ ∀ n, R (a'.get? n) (b'.get? n) := by
  obtain ⟨ha1, ha2⟩ := replayEntry_get? hr
  obtain ⟨v', hv, hR⟩ := hop _ ha1
  obtain ⟨b', hb, hb1, hb2⟩ := replayEntry_of_slot hv
  refine ⟨b', hb, fun n => ?_⟩
  by_cases hn : n = e.queue
  · rw [hn, hb1]; exact hR
  · rw [ha2 n hn, hb2 n hn]; exact h n

end MRL
