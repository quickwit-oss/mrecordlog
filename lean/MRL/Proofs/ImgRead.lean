/-
Reading a damaged image (C08/C12 about `recover`). What `replay` acts on, without file attribution
(`decodedE`, `recordsOfE`); the stream of an image (`streamOf`) and the images of the same shape
(`SameShape`: same file numbers, same file lengths). The core of the damaged-read theorems, for both
reachability levels (`recover_delivered`): given a `Gen.Located` list of genuine frames — lead frames,
then live and dead groups — such that every location of the damaged stream where the reader's
acceptance test passes holds one of them (`Gen.NoAcc`), a successful `recover` replays a sub-sequence
of the entries of the live groups.
-/
import MRL.Proofs.GenStream
import MRL.Proofs.GReadLog

namespace MRL.Img
open Codec Gen G L

def recordsOfE : List Entry → List (Bytes × Nat × Bytes)
  | [] => []
  | .append q _ recs :: es => recs.map (fun r => (q, r.1, r.2)) ++ recordsOfE es
  | .truncate _ _ :: es => recordsOfE es
  | .touch _ _ :: es => recordsOfE es
  | .delete _ _ :: es => recordsOfE es

theorem recordsOfE_eq_flatMap (l : List Entry) : recordsOfE l = l.flatMap Rec.recsOf := by
  induction l with
  | nil => rfl
  | cons e l ih => cases e <;> simp only [recordsOfE, Rec.recsOf, List.flatMap_cons, List.nil_append, ih]

theorem recordsOf_eq (l : List (Nat × Entry)) : Rec.recordsOf l = recordsOfE (l.map (·.2)) := by
  rw [Rec.recordsOf_eq_flatMap, recordsOfE_eq_flatMap, List.flatMap_map]

theorem mem_recordsOfE {x : Bytes × Nat × Bytes} {l : List Entry} :
    x ∈ recordsOfE l ↔ ∃ e ∈ l, x ∈ Rec.recsOf e := by
  rw [recordsOfE_eq_flatMap, List.mem_flatMap]

theorem recordsOfE_subset {l' l : List Entry} (h : ∀ e ∈ l', e ∈ l) : ∀ x ∈ recordsOfE l', x ∈ recordsOfE l :=
  fun _ hx => let ⟨e, he, hx'⟩ := mem_recordsOfE.mp hx; mem_recordsOfE.mpr ⟨e, h e he, hx'⟩

theorem recordsOfE_sublist {l' l : List Entry} (h : List.Sublist l' l) :
    ∀ x ∈ recordsOfE l', x ∈ recordsOfE l := recordsOfE_subset fun _ he => h.subset he

def decodedE (bs : List Bytes) : List Entry := bs.filterMap Entry.decode

theorem decoded_snd (l : List RecEv) : (Rec.decoded l).map (·.2) = decodedE (bytesOf l) := by
  induction l with
  | nil => rfl
  | cons ev l ih =>
    cases ev with
    | corrupt => simp only [Rec.decoded, bytesOf_cons_corrupt]; exact ih
    | entry a b =>
      simp only [Rec.decoded, bytesOf_cons_entry, decodedE, List.filterMap_cons]
      cases Entry.decode b with
      | none => exact ih
      | some e => simp only [List.map_cons]; rw [ih]; rfl

theorem decodedE_encoded (l : List Entry) (h : ∀ e ∈ l, Entry.decode e.encode = some e) :
    decodedE (l.map Entry.encode) = l := by
  induction l with
  | nil => rfl
  | cons e l ih =>
    simp only [decodedE, List.map_cons, List.filterMap_cons, h e List.mem_cons_self]
    congr 1
    exact ih fun e' he' => h e' (List.mem_cons_of_mem _ he')

def streamOf (W : Image) : Bytes := (W.map (·.2)).flatten

def SameShape (W W' : Image) : Prop :=
  W'.map (fun kv => (kv.1, kv.2.length)) = W.map (fun kv => (kv.1, kv.2.length))

/-- `fs` is a frame layout of the tape of `W`: the stream is the layout of `fs` from position 0,
    then zeros -/
def TapeLayout (g : Geom) (W : Image) (fs : List Frm) : Prop :=
  Fits g 0 fs ∧ ∃ z, streamOf W = (layoutBufs g 0 fs).flatten ++ zeros z

/-- **the collision clause for images**: wherever the reader's acceptance test passes on the stream
    of `W'`, the tape of `W` has that very frame (type and payload) at that very location -/
def NoAccidentalFrameImg (g : Geom) (W W' : Image) : Prop :=
  ∀ fs, TapeLayout g W fs → NoAcc g (locs g 0 fs) (streamOf W')

theorem streamOf_imgOf : ∀ (cs : List Bytes) (F : Nat), streamOf (imgOf F cs) = cs.flatten
  | [], _ => rfl
  | c :: cs, F => by
    have := streamOf_imgOf cs (F + 1)
    simp only [streamOf] at this ⊢
    simp [imgOf, this]

theorem sameShape_imgOf : ∀ (cs : List Bytes) (F : Nat) (W' : Image), SameShape (imgOf F cs) W' →
    W' = imgOf F (W'.map (·.2)) ∧ (W'.map (·.2)).map List.length = cs.map List.length
  | [], F, W', h => by
    unfold SameShape at h
    simp only [imgOf, List.map_nil, List.map_eq_nil_iff] at h
    subst h; exact ⟨rfl, rfl⟩
  | c :: cs, F, W', h => by
    unfold SameShape at h
    cases W' with
    | nil => simp [imgOf] at h
    | cons kv W' =>
      simp only [imgOf, List.map_cons, List.cons.injEq, Prod.mk.injEq] at h
      obtain ⟨⟨h1, h2⟩, h3⟩ := h
      obtain ⟨i1, i2⟩ := sameShape_imgOf cs (F + 1) W' h3
      obtain ⟨k, v⟩ := kv
      simp only at h1 h2
      subst h1
      refine ⟨?_, by simp [h2, i2]⟩
      simp only [List.map_cons, imgOf]
      rw [← i1]

theorem streamOf_append (A B : Image) : streamOf (A ++ B) = streamOf A ++ streamOf B := by
  simp [streamOf]

theorem sameShape_append (A B W' : Image) (h : SameShape (A ++ B) W') :
    ∃ A' B', W' = A' ++ B' ∧ SameShape A A' ∧ SameShape B B' := by
  unfold SameShape at h
  rw [List.map_append] at h
  exact List.map_eq_append_iff.mp h

theorem sameShape_empty : ∀ (E B' : Image), (∀ kv ∈ E, kv.2 = []) → SameShape E B' → B' = E
  | [], B', _, h => by simpa [SameShape] using h
  | kv :: E, [], _, h => by simp [SameShape] at h
  | kv :: E, kv' :: B', hE, h => by
    simp only [SameShape, List.map_cons, List.cons.injEq, Prod.mk.injEq] at h
    obtain ⟨⟨h1, h2⟩, h3⟩ := h
    rw [hE kv List.mem_cons_self, List.length_nil] at h2
    rw [sameShape_empty E B' (fun x hx => hE x (List.mem_cons_of_mem _ hx)) h3]
    exact congrArg (· :: E) (Prod.ext h1 ((List.eq_nil_of_length_eq_zero h2).trans (hE kv List.mem_cons_self).symm))

theorem xtra_empty (x : Bool) (f : Nat) : ∀ kv ∈ xtra x f, kv.2 = [] := by
  cases x
  · intro kv h; cases h
  · intro kv h; rw [List.mem_singleton.mp h]

theorem streamOf_xtra (x : Bool) (f : Nat) : streamOf (xtra x f) = [] := by
  cases x <;> rfl

theorem sameShape_tape (g : Geom) (F : Nat) (cs : List Bytes) (E W' : Image) (hne : cs ≠ [])
    (hfull : ∀ c ∈ cs, c.length = g.fileBytes) (hE : ∀ kv ∈ E, kv.2 = [])
    (h : SameShape (imgOf F cs ++ E) W') :
    ∃ cs', W' = imgOf F cs' ++ E ∧ cs' ≠ [] ∧ (∀ c ∈ cs', c.length = g.fileBytes) ∧
      cs'.length = cs.length ∧ streamOf W' = cs'.flatten := by
  obtain ⟨A', B', rfl, hsA, hsB⟩ := sameShape_append _ _ W' h
  obtain ⟨hA', hlens⟩ := sameShape_imgOf cs F A' hsA
  have hB' := sameShape_empty E B' hE hsB
  subst hB'
  refine ⟨A'.map (·.2), by rw [← hA'], ?_, ?_, by simpa using congrArg List.length hlens, ?_⟩
  · intro hn
    rw [hn] at hlens
    exact hne (List.map_eq_nil_iff.mp hlens.symm)
  · intro c hc
    have : c.length ∈ (A'.map (·.2)).map List.length := List.mem_map_of_mem hc
    rw [hlens] at this
    obtain ⟨c0, hc0, he⟩ := List.mem_map.mp this
    rw [← he]; exact hfull c0 hc0
  · have : streamOf B' = [] := List.flatten_eq_nil_iff.mpr fun l hl => by
      obtain ⟨kv, hkv, rfl⟩ := List.mem_map.mp hl
      exact hE kv hkv
    rw [streamOf_append, this, List.append_nil]; rfl

theorem tapeLayout_of_flay {g : Geom} {l : Log} {D : Image} {F : Nat} {init : List Bytes} {t : Bytes}
    {afs : List TFrm} (hT : Tape g l D F init t) (hL : FLay g F (init.flatten ++ t) afs) :
    TapeLayout g D (untag afs) := by
  refine ⟨hL.fits, (init.flatten ++ t).length - endPos g 0 (untag afs) + (g.fileBytes - l.off), ?_⟩
  rw [hT.img, streamOf_imgOf, List.flatten_append, List.flatten_singleton, ← List.append_assoc]
  conv => lhs; rw [hL.bytes]
  rw [List.append_assoc, ← zeros_add]

theorem delivered_of_noAcc (g : Geom) (F : Nat) (S : Bytes) (m : Nat) (hlen : (m + 1) * g.B = S.length)
    (LL : List (Nat × Frm)) (hL : Located g LL) (hN : NoAcc g LL S) (es : List Bytes)
    (hshape : Shape (LL.map (·.2)) es) (trail : Nat) (rdEvs : List RdEv) (e : EndPos) (io : Nat)
    (hs : scanBlocks g none trail (blkAt g F S 0).cost (blkAt g F S 0) 0 (blksFrom g F S 1 m) = some (rdEvs, e, io))
    (a : Nat) : List.Sublist (bytesOf (assemble { within := false, buf := [], attr := a } rdEvs)) es := by
  obtain ⟨io', hio⟩ := scanBlocks_eq_scanB g trail (blkAt g F S 0).cost (blkAt g F S 0) 0 (blksFrom g F S 1 m)
  rw [hs] at hio
  simp only [Option.some.injEq, Prod.mk.injEq] at hio
  obtain ⟨hev, _, _⟩ := hio
  -- the events form a trace of the located frames
  have htr := trace_blocks g LL hL S hN (blkAt g F S) (m + 1) (fun _ => rfl) hlen.symm m 0 0 rfl (Nat.zero_le _) false
    (fun h => by cases h)
  simp only [Nat.zero_mul, Nat.zero_add] at htr
  rw [ahead_eq_self fun _ _ => Nat.zero_le _] at htr
  rw [hev]
  exact (asm_trace htr _).1 rfl _ hshape

theorem recover_delivered (g : Geom) (F : Nat) (S : Bytes) (m : Nat) (hlen : (m + 1) * g.B = S.length)
    (LL : List (Nat × Frm)) (hL : Located g LL) (hN : NoAcc g LL S) (ents : List Entry)
    (hwf : ∀ e ∈ ents, Entry.decode e.encode = some e) (hshape : Shape (LL.map (·.2)) (ents.map Entry.encode))
    (W' : Image) (trail : Nat)
    (hb : blocksOf g (prepareImage g W').1 1 = (blkAt g F S 0 :: blksFrom g F S 1 m, trail))
    (policy : Policy) (order : List Bytes) (r : Recovered) (hr : recover g W' policy order none = .ok r) :
    ∃ L : List (Nat × Entry), Rec.replayEntries [] L = some r.log.queues ∧ List.Sublist (L.map (·.2)) ents := by
  obtain ⟨b0, rest, trail', rdEvs, e, io, hb', hs, hrep⟩ := Rec.recover_ok_scan_replay hr
  rw [hb] at hb'
  simp only [Prod.mk.injEq, List.cons.injEq] at hb'
  obtain ⟨⟨rfl, rfl⟩, rfl⟩ := hb'
  refine ⟨Rec.decoded (assemble { within := false, buf := [], attr := (blkAt g F S 0).file } rdEvs),
    by rw [← Rec.replay_eq]; exact hrep, ?_⟩
  rw [decoded_snd, ← decodedE_encoded ents hwf]
  exact (delivered_of_noAcc g F S m hlen LL hL hN _ hshape trail rdEvs e io hs _).filterMap _

end MRL.Img
