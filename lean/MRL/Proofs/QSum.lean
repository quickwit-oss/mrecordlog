/-
Sums over a queue map with distinct names: `(qs.map (cost f)).sum`, `cost f (n, q) = n.length + f q`
(`MemQueues.usedBytes msz` is the case `f = MemQueue.size msz`). The sum does not depend on the order
of the list (`sum_congr`), and when one slot changes it changes by the cost of that slot (`sum_slot`):
with the slot view of `replayEntry` (`replayEntry_get?`) a bound on what the replay of an entry does to
the sum is a bound on what `Entry.slot` does to one queue (`replayEntry_sum`).
-/
import MRL.Proofs.QSlot

namespace MRL
namespace MemQueues

variable (f : MemQueue → Nat)

def cost (kv : Bytes × MemQueue) : Nat := kv.1.length + f kv.2

def slotCost (n : Bytes) : Option MemQueue → Nat
  | none => 0
  | some q => n.length + f q

theorem usedBytes_eq (msz : Nat) (qs : MemQueues) :
    usedBytes msz qs = (qs.map (cost (MemQueue.size msz))).sum := rfl

theorem get?_none_iff_not_mem (qs : MemQueues) (n : Bytes) : qs.get? n = none ↔ n ∉ qs.map (·.1) := by
  rw [← contains_iff_mem_keys, contains_isSome]
  cases qs.get? n <;> simp

theorem remove_of_not_mem (qs : MemQueues) (n : Bytes) (h : n ∉ qs.map (·.1)) : qs.remove n = qs := by
  unfold MemQueues.remove
  rw [List.filter_eq_self]
  intro kv hkv
  simp only [bne_iff_ne, ne_eq]
  intro e
  exact h (List.mem_map.mpr ⟨kv, hkv, e⟩)

theorem sum_remove (qs : MemQueues) (hnd : (qs.map (·.1)).Nodup) (k : Bytes) (v : MemQueue)
    (hg : qs.get? k = some v) :
    (qs.map (cost f)).sum = cost f (k, v) + ((qs.remove k).map (cost f)).sum := by
  induction qs with
  | nil => cases hg
  | cons kv qs ih =>
    obtain ⟨k0, v0⟩ := kv
    rw [List.map_cons, List.nodup_cons] at hnd
    rw [MemQueues.get?_eq, AL.get?_cons] at hg
    by_cases hk : k0 = k
    · subst hk
      rw [if_pos rfl] at hg
      cases hg
      have : MemQueues.remove ((k0, v0) :: qs) k0 = qs :=
        (List.filter_cons_of_neg (by simp)).trans (remove_of_not_mem qs k0 hnd.1)
      rw [this]; rfl
    · rw [if_neg hk] at hg
      have hrem : MemQueues.remove ((k0, v0) :: qs) k = (k0, v0) :: MemQueues.remove qs k :=
        List.filter_cons_of_pos (by simpa using hk)
      rw [hrem, List.map_cons, List.sum_cons, List.map_cons, List.sum_cons, ih hnd.2 hg]
      exact Nat.add_left_comm _ _ _

theorem sum_split (qs : MemQueues) (hnd : (qs.map (·.1)).Nodup) (n : Bytes) :
    (qs.map (cost f)).sum = slotCost f n (qs.get? n) + ((qs.remove n).map (cost f)).sum := by
  cases hg : qs.get? n with
  | some v => exact sum_remove f qs hnd n v hg
  | none =>
    rw [remove_of_not_mem qs n ((get?_none_iff_not_mem qs n).mp hg)]
    exact (Nat.zero_add _).symm

theorem sum_congr (a : MemQueues) : ∀ b : MemQueues, (a.map (·.1)).Nodup → (b.map (·.1)).Nodup →
    (∀ n, (a.get? n).map f = (b.get? n).map f) → (a.map (cost f)).sum = (b.map (cost f)).sum := by
  induction a with
  | nil =>
    intro b _ _ h
    cases b with
    | nil => rfl
    | cons kv b =>
      have := h kv.1
      rw [MemQueues.get?_eq _ kv.1, MemQueues.get?_eq _ kv.1, AL.get?_cons, if_pos rfl] at this
      cases this
  | cons kv a ih =>
    intro b ha hb h
    obtain ⟨k, v⟩ := kv
    simp only [List.map_cons, List.nodup_cons] at ha
    have hk := h k
    have hak : MemQueues.get? ((k, v) :: a) k = some v := by rw [MemQueues.get?_eq, AL.get?_cons, if_pos rfl]
    rw [hak] at hk
    cases hbk : b.get? k with
    | none => rw [hbk] at hk; cases hk
    | some v' =>
      rw [hbk] at hk
      simp only [Option.map_some, Option.some.injEq] at hk
      rw [sum_remove f b hb k v' hbk]
      have hrec := ih (b.remove k) ha.2 (remove_keys_nodup b k hb) (by
        intro n
        by_cases hn : n = k
        · subst hn
          rw [(get?_none_iff_not_mem a n).mpr ha.1, MemQueues.get?_remove_same]
        · rw [MemQueues.get?_remove_other b k n hn, ← h n]
          have : MemQueues.get? ((k, v) :: a) n = MemQueues.get? a n := by
            rw [MemQueues.get?_eq, AL.get?_cons, if_neg (Ne.symm hn)]; rfl
          rw [this])
      simp only [List.map_cons, List.sum_cons, hrec, cost, hk]

theorem sum_slot {a b : MemQueues} (ha : (a.map (·.1)).Nodup) (hb : (b.map (·.1)).Nodup) (n : Bytes)
    (h : ∀ m, m ≠ n → b.get? m = a.get? m) :
    (b.map (cost f)).sum + slotCost f n (a.get? n) = (a.map (cost f)).sum + slotCost f n (b.get? n) := by
  have hrest : ((b.remove n).map (cost f)).sum = ((a.remove n).map (cost f)).sum :=
    sum_congr f _ _ (remove_keys_nodup b n hb) (remove_keys_nodup a n ha) fun m => by
      by_cases hm : m = n
      · rw [hm, MemQueues.get?_remove_same, MemQueues.get?_remove_same]
      · rw [MemQueues.get?_remove_other _ n m hm, MemQueues.get?_remove_other _ n m hm, h m hm]
  rw [sum_split f a ha n, sum_split f b hb n, hrest]
  omega

theorem used_set (msz : Nat) (qs : MemQueues) (hnd : (qs.map (·.1)).Nodup) (n : Bytes) (q : MemQueue) :
    usedBytes msz (qs.set n q) + slotCost (MemQueue.size msz) n (qs.get? n) =
      usedBytes msz qs + (n.length + q.size msz) := by
  have := sum_slot (MemQueue.size msz) hnd (set_keys_nodup qs n q hnd) n
    fun m hm => get?_set_other qs n m q hm
  rwa [get?_set_same] at this

end MemQueues

theorem replayEntry_sum (f : MemQueue → Nat) {qs qs' : MemQueues} {file : Nat} {e : Entry}
    (h : replayEntry qs file e = some qs') (hn : (qs.map (·.1)).Nodup) :
    e.slot file (qs.get? e.queue) = some (qs'.get? e.queue) ∧
    (qs'.map (MemQueues.cost f)).sum + MemQueues.slotCost f e.queue (qs.get? e.queue) =
      (qs.map (MemQueues.cost f)).sum + MemQueues.slotCost f e.queue (qs'.get? e.queue) :=
  ⟨(replayEntry_get? h).1,
    MemQueues.sum_slot f hn (replayEntry_keys_nodup h hn) e.queue (replayEntry_get? h).2⟩

end MRL
