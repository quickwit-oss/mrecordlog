/-
`open` under a fault plan `failAt = some n` against the fault-free run (C11): the scan of an image
(`scanImage_fault`), `recoverPre`, `recover`; and the bound on the number of I/O calls.
-/
import MRL.Proofs.RecIo

namespace MRL.Rec

theorem scanBlocks_none_some (g : Geom) (trail : Nat) (rest : List Blk) :
    ∀ (io : Nat) (cur : Blk) (c : Nat), ∃ r, scanBlocks g none trail io cur c rest = some r := by
  induction rest with
  | nil =>
    intro io cur c
    rcases hsb : scanBlock g cur.data c with ⟨fe, be⟩
    cases be with
    | zeroHeader c' => exact ⟨_, scanBlocks_zero g none trail io cur c [] fe c' hsb⟩
    | needNext c' => rw [scanBlocks_next_nil g none trail io cur c fe c' hsb]; simp [ioFails_none]
  | cons b rest ih =>
    intro io cur c
    rcases hsb : scanBlock g cur.data c with ⟨fe, be⟩
    cases be with
    | zeroHeader c' => exact ⟨_, scanBlocks_zero g none trail io cur c _ fe c' hsb⟩
    | needNext c' =>
      obtain ⟨r, h⟩ := ih (io + b.cost) b 0
      rw [scanBlocks_next_cons g none trail io cur c b rest fe c' hsb]
      simp [ioFails_none, h]

theorem scanBlocks_fault_zero {g : Geom} {trail n io : Nat} {cur : Blk} {c : Nat}
    {rest : List Blk} {fe : List FrameEv} {c' : Nat} {evs : List RdEv} {e : EndPos} {io' : Nat}
    (hsb : scanBlock g cur.data c = (fe, .zeroHeader c'))
    (h : scanBlocks g none trail io cur c rest = some (evs, e, io')) :
    io ≤ io' ∧ io' ≤ io + (rest.map (·.cost)).sum + trail ∧
    (io ≤ n → n < io' → scanBlocks g (some n) trail io cur c rest = none) ∧
    (n < io ∨ io' ≤ n → scanBlocks g (some n) trail io cur c rest = some (evs, e, io')) := by
  rw [scanBlocks_zero g _ trail io cur c rest fe c' hsb] at h
  cases h
  exact ⟨Nat.le_refl _, Nat.le_add_right_of_le (Nat.le_add_right _ _),
    fun h1 h2 => absurd h2 (Nat.not_lt_of_le h1),
    fun _ => scanBlocks_zero g _ trail io cur c rest fe c' hsb⟩

theorem scanBlocks_fault (g : Geom) (trail n : Nat) (rest : List Blk) :
    ∀ (io : Nat) (cur : Blk) (c : Nat) (evs : List RdEv) (e : EndPos) (io' : Nat),
      scanBlocks g none trail io cur c rest = some (evs, e, io') →
      io ≤ io' ∧ io' ≤ io + (rest.map (·.cost)).sum + trail ∧
      (io ≤ n → n < io' → scanBlocks g (some n) trail io cur c rest = none) ∧
      (n < io ∨ io' ≤ n → scanBlocks g (some n) trail io cur c rest = some (evs, e, io')) := by
  induction rest with
  | nil =>
    intro io cur c evs e io' h
    rcases hsb : scanBlock g cur.data c with ⟨fe, be⟩
    cases be with
    | zeroHeader c' => exact scanBlocks_fault_zero hsb h
    | needNext c' =>
      rw [scanBlocks_next_nil g _ trail io cur c fe c' hsb] at h ⊢
      cases h
      refine ⟨Nat.le_add_right _ _, Nat.le_refl _, fun k1 k2 => ?_, fun k => ?_⟩
      · rw [ioFails_true_of k1 k2]; rfl
      · rw [ioFails_false_of k]; rfl
  | cons b rest ih =>
    intro io cur c evs e io' h
    rcases hsb : scanBlock g cur.data c with ⟨fe, be⟩
    cases be with
    | zeroHeader c' => exact scanBlocks_fault_zero hsb h
    | needNext c' =>
      rw [scanBlocks_next_cons g _ trail io cur c b rest fe c' hsb] at h ⊢
      obtain ⟨⟨evs2, e2, io2⟩, hr⟩ := scanBlocks_none_some g trail rest (io + b.cost) b 0
      rw [hr] at h
      cases h
      obtain ⟨m1, m0, m2, m3⟩ := ih (io + b.cost) b 0 evs2 e io' hr
      refine ⟨Nat.le_trans (Nat.le_add_right _ _) m1, ?_, fun k1 k2 => ?_, fun k => ?_⟩
      · rw [List.map_cons, List.sum_cons, ← Nat.add_assoc]; exact m0
      · by_cases hk : n < io + b.cost
        · rw [ioFails_true_of k1 hk]; rfl
        · rw [ioFails_false_of (Or.inr (Nat.le_of_not_lt hk)), m2 (Nat.le_of_not_lt hk) k2]; rfl
      · rw [ioFails_false_of (k.imp_right (Nat.le_trans m1)),
          m3 (k.imp_left fun hlt => Nat.lt_add_right _ hlt)]; rfl

def fullBlocks (g : Geom) (img : Image) : Nat := (img.map fun fc => fc.2.length / g.B).sum

theorem fullBlocks_cons (g : Geom) (f : Nat) (content : Bytes) (img : Image) :
    fullBlocks g ((f, content) :: img) = content.length / g.B + fullBlocks g img := rfl

theorem fileBlocks_cost_pos (g : Geom) (f : Nat) (fc : Nat) (n : Nat) :
    ∀ (content : Bytes) (i : Nat), 0 < i → ((fileBlocks g f content fc i n).map (·.cost)).sum = n := by
  induction n with
  | zero => intro content i _; rfl
  | succ n ih =>
    intro content i hi
    simp only [fileBlocks, List.map_cons, List.sum_cons, Nat.ne_of_gt hi, if_false,
      ih _ (i + 1) (Nat.succ_pos i)]
    exact Nat.add_comm 1 n

theorem fileBlocks_cost_zero (g : Geom) (f : Nat) (fc : Nat) (n : Nat) (content : Bytes) :
    ((fileBlocks g f content fc 0 (n + 1)).map (·.cost)).sum = fc + n := by
  simp only [fileBlocks, List.map_cons, List.sum_cons, if_true, fileBlocks_cost_pos g f fc n _ 1 Nat.one_pos]

/-- all calls of `next_block` over an image: 2 per file (open, read), 1 per full block,
    plus the calls pending at the start -/
theorem blocksOf_cost (g : Geom) (img : Image) :
    ∀ pending, (((blocksOf g img pending).1.map (·.cost)).sum + (blocksOf g img pending).2
      = pending + 2 * img.length + fullBlocks g img) := by
  induction img with
  | nil => intro pending; simp [blocksOf, fullBlocks]
  | cons fc img ih =>
    intro pending
    obtain ⟨f, content⟩ := fc
    simp only [blocksOf]
    by_cases hn : content.length / g.B = 0
    · simp only [hn, if_true, ih, fullBlocks_cons, List.length_cons]
      omega
    · obtain ⟨m, hm⟩ : ∃ m, content.length / g.B = m + 1 := Nat.exists_eq_succ_of_ne_zero hn
      have := ih 1
      simp only [Nat.succ_ne_zero m, if_false, hm, List.map_append, List.sum_append,
        fileBlocks_cost_zero, fullBlocks_cons, List.length_cons] at this ⊢
      omega

theorem scanImage_fault (g : Geom) (img1 : Image) (n : Nat) {f0 : Nat} {evs : List RdEv} {e : EndPos} {io : Nat}
    (h : scanImage g img1 none = some (f0, evs, e, io)) :
    io ≤ 1 + 2 * img1.length + fullBlocks g img1 ∧
    (n < io → scanImage g img1 (some n) = none) ∧
    (io ≤ n → scanImage g img1 (some n) = some (f0, evs, e, io)) := by
  have hc := blocksOf_cost g img1 1
  unfold scanImage at h ⊢
  rcases hb : blocksOf g img1 1 with ⟨bs, trail⟩
  rw [hb] at h hc
  cases bs with
  | nil => cases h
  | cons b0 rest =>
    simp only [ioFails_none, Bool.false_eq_true, if_false] at h ⊢
    obtain ⟨⟨evs1, e1, io1⟩, hs⟩ := scanBlocks_none_some g trail rest b0.cost b0 0
    obtain ⟨m1, m0, m2, m3⟩ := scanBlocks_fault g trail n rest b0.cost b0 0 evs1 e1 io1 hs
    rw [hs] at h
    cases h
    refine ⟨Nat.le_trans m0 (Nat.le_of_eq (by rw [← hc, List.map_cons, List.sum_cons, Nat.add_assoc])), fun hn => ?_, fun hn => ?_⟩
    · by_cases h0 : n < b0.cost
      · rw [ioFails_true_of (Nat.zero_le _) h0]; rfl
      · rw [ioFails_false_of (Or.inr (Nat.le_of_not_lt h0)), m2 (Nat.le_of_not_lt h0) hn]; rfl
    · rw [ioFails_false_of (Or.inr (Nat.le_trans m1 hn)), m3 (Or.inr hn)]; rfl

/-- a scan that fails without a fault has no block to read: it fails under every plan -/
theorem scanImage_fault_none (g : Geom) (img1 : Image) (n : Nat) (h : scanImage g img1 none = none) :
    scanImage g img1 (some n) = none := by
  unfold scanImage at h ⊢
  rcases hb : blocksOf g img1 1 with ⟨bs, trail⟩
  rw [hb] at h
  cases bs with
  | nil => rfl
  | cons b0 rest =>
    obtain ⟨r, hs⟩ := scanBlocks_none_some g trail rest b0.cost b0 0
    simp [ioFails_none, hs] at h

theorem recoverPre_fault_ok (g : Geom) (img : Image) (policy : Policy) (n : Nat)
    (l : Log) (e0 : List Effect) (io : Nat) (h : recoverPre g img policy none = .ok (l, e0, io)) :
    (n < io → recoverPre g img policy (some n) = .error .io) ∧
    (io ≤ n → recoverPre g img policy (some n) = .ok (l, e0, io)) := by
  rw [recoverPre_eq] at h ⊢
  cases hs : scanImage g (prepareImage g img).1 none with
  | none => rw [hs] at h; cases h
  | some x =>
    obtain ⟨f0, evs, e, io1⟩ := x
    rw [hs] at h
    obtain ⟨_, m2, m3⟩ := scanImage_fault g _ n hs
    obtain ⟨_, rfl⟩ := finishPre_ok _ _ _ _ _ _ _ _ _ _ _ h
    exact ⟨fun hn => by rw [m2 hn], fun hn => by rw [m3 hn]; exact h⟩

theorem recoverPre_fault_err (g : Geom) (img : Image) (policy : Policy) (n : Nat) (err : OpenErr)
    (h : recoverPre g img policy none = .error err) :
    recoverPre g img policy (some n) = .error .io ∨ recoverPre g img policy (some n) = .error err := by
  rw [recoverPre_eq] at h ⊢
  cases hs : scanImage g (prepareImage g img).1 none with
  | none => left; rw [scanImage_fault_none g _ n hs]
  | some x =>
    obtain ⟨f0, evs, e, io1⟩ := x
    rw [hs] at h
    obtain ⟨_, m2, m3⟩ := scanImage_fault g _ n hs
    by_cases h1 : n < io1
    · left; rw [m2 h1]
    · right; rw [m3 (Nat.le_of_not_lt h1)]; exact h

theorem recover_fault_ok (g : Geom) (img : Image) (policy : Policy) (order : List Bytes) (n : Nat)
    (r : Recovered) (h : recover g img policy order none = .ok r) :
    (n < r.ioCalls → recover g img policy order (some n) = .error .io) ∧
    (r.ioCalls ≤ n → recover g img policy order (some n) = .ok r) := by
  rw [recover_none] at h
  rw [recover_eq g img policy order (some n)]
  cases h0 : recoverPre g img policy none with
  | error e => rw [h0] at h; cases h
  | ok x =>
    obtain ⟨l, e0, io⟩ := x
    rw [h0] at h
    simp only [Except.ok.injEq] at h
    subst h
    obtain ⟨p1, p2⟩ := recoverPre_fault_ok g img policy n l e0 io h0
    simp only
    refine ⟨fun hn => ?_, fun hn => ?_⟩
    · by_cases h1 : n < io
      · rw [p1 h1]
      · rw [p2 (Nat.le_of_not_lt h1)]
        simp only
        rw [ioFails_true_of (Nat.le_of_not_lt h1) hn]; rfl
    · rw [p2 (Nat.le_trans (Nat.le_add_right _ _) hn)]
      simp only
      rw [ioFails_false_of (Or.inr hn)]; rfl

theorem recover_fault_err (g : Geom) (img : Image) (policy : Policy) (order : List Bytes) (n : Nat)
    (err : OpenErr) (h : recover g img policy order none = .error err) :
    recover g img policy order (some n) = .error .io ∨ recover g img policy order (some n) = .error err := by
  rw [recover_none] at h
  rw [recover_eq g img policy order (some n)]
  cases h0 : recoverPre g img policy none with
  | ok x => obtain ⟨l, e0, io⟩ := x; rw [h0] at h; cases h
  | error e =>
    rw [h0] at h
    simp only [Except.error.injEq] at h
    subst h
    rcases recoverPre_fault_err g img policy n e h0 with h1 | h1 <;> rw [h1] <;> simp

theorem countOpen_prepare (g : Geom) (img : Image) : countOpen (prepareImage g img).2 = 0 := by
  unfold prepareImage
  cases img with
  | nil => rfl
  | cons fc rest =>
    obtain ⟨f, content⟩ := fc
    simp only
    split <;> rfl

theorem countOpen_append (a b : List Effect) : countOpen (a ++ b) = countOpen a + countOpen b := by
  simp [countOpen]

theorem recoverPre_io_le (g : Geom) (img : Image) (policy : Policy) (l : Log) (e0 : List Effect) (io : Nat)
    (h : recoverPre g img policy none = .ok (l, e0, io)) :
    io ≤ 1 + 2 * (prepareImage g img).1.length + fullBlocks g (prepareImage g img).1 ∧
    e0 = (prepareImage g img).2 := by
  rw [recoverPre_eq] at h
  cases hs : scanImage g (prepareImage g img).1 none with
  | none => rw [hs] at h; cases h
  | some x =>
    obtain ⟨f0, evs, e, io1⟩ := x
    rw [hs] at h
    obtain ⟨he, rfl⟩ := finishPre_ok _ _ _ _ _ _ _ _ _ _ _ h
    exact ⟨(scanImage_fault g _ 0 hs).1, he⟩

end MRL.Rec
