/-
C12 over crash-reachable states and arbitrary in-place damage — "no restart ever exposes a batch
with a hole or a missing tail".

`C02W.ReachXW g cap l img b W`: the states reachable by calls, restarts and crashes at any point,
with the list `W` of every entry handed to the writer by the history. `W₀ := flushDisk img b`.

* `C12_crash_damage`: there is a journal `J` (`L.CInvX g l J W₀`, serialisable, every entry in
  `W`) such that for ANY image `W'` of the same shape satisfying the collision clause
  `Img.NoAccidentalFrameImgX g W₀ W'`, what a successful `recover g W' …` returns is `Exposed`: its
  queues are the replay of a list `L` of delivered entries — a SUB-SEQUENCE of the retained entries of
  `J`, all of them entries of `W` — with `C12C.AllOrSuffix L r.log.queues` (MRL/Props/C12Compose.lean).
  That clause quantifies over every item layout of `W₀`, the empty one included, and holds of no `W'` on which a
  position passes the acceptance test (`CD.old_clause_forces_none`, `CD.old_clause_not_refl`): the statements under
  it, `C12_crash_no_hole` too, say nothing of an image that holds a frame. Those that do are
  `CD.C12_crash_damage_clean`, `CD.C12_crash_no_hole_clean` (MRL/Props/CrashDamageClean.lean).
* `C12_crash_restart`: no damage, no hypothesis: the same for `recover g W₀ …`, `L` being ALL the
  retained entries of `J`.
* `C12_crash_damage_reachX`: the same stated on `C02U.ReachX` (`∃ W`).
* On records, as the property says it (`no_hole`, `undelivered_nothing`, and their instances
  `C12_crash_no_hole`): for a delivered batch `b` whose records are not records of another
  delivered append of the same queue (the incarnation caveat: after `delete`/re-create the same
  position and payload may be appended again), the records of `b` present in the recovered queue
  `q`, IN THE ORDER OF `b`, are exactly a suffix of `b`:
      b.filter (· ∈ plain q) = b.drop k,
  with `k = 0 ∨ b.length ≤ k` when no delivered truncate of the queue follows; and a record that
  no delivered append carries is in no recovered queue.
-/
import MRL.Props.C08Crash

namespace MRL.C12X
open Img Rec

/-- what a successful `recover` exposes of the batches: the queues are the replay of a list `L` of
    entries of `W`, a sub-sequence of the retained entries of `J`, and every batch of `L` is
    all-or-suffix -/
def Exposed (J : List JE) (F : Nat) (W : List Entry) (r : Recovered) : Prop :=
  ∃ L : List (Nat × Entry),
    List.Sublist (L.map (·.2)) ((J.filter fun j => decide (F ≤ j.loc)).map (·.e)) ∧
    (∀ fe ∈ L, fe.2 ∈ W) ∧
    replayEntries [] L = some r.log.queues ∧
    C12C.AllOrSuffix L r.log.queues

theorem exposed_of (J : List JE) (F : Nat) (W : List Entry) (hJW : ∀ j ∈ J, j.e ∈ W) (r : Recovered)
    (L : List (Nat × Entry)) (hL1 : replayEntries [] L = some r.log.queues)
    (hL2 : List.Sublist (L.map (·.2)) ((J.filter fun j => decide (F ≤ j.loc)).map (·.e))) :
    Exposed J F W r := by
  refine ⟨L, hL2, ?_, hL1, C12C.allOrSuffix_of_replay L _ hL1⟩
  intro fe hfe
  have : fe.2 ∈ L.map (·.2) := List.mem_map_of_mem (f := (·.2)) hfe
  obtain ⟨j, hj, he⟩ := List.mem_map.mp (hL2.subset this)
  rw [← he]
  exact hJW j (List.mem_filter.mp hj).1

theorem Exposed.of_genuine {J : List JE} {F : Nat} {W : List Entry} (hJW : ∀ j ∈ J, j.e ∈ W) {r : Recovered}
    (h : C08X.Genuine J F r) : Exposed J F W r :=
  let ⟨_, _, L, hL1, hL2⟩ := h
  exposed_of J F W hJW r L hL1 hL2

theorem C12_crash_damage (g : Geom) (hB : g.B ≤ 65542) (cap : Nat) (l : Log) (img : Image) (b : BufSt)
    (W : List Entry) (h : C02W.ReachXW g cap l img b W) :
    ∃ J : List JE, L.CInvX g l J (C02U.flushDisk img b) ∧ (∀ j ∈ J, C07.WF j.e) ∧ (∀ j ∈ J, j.e ∈ W) ∧
      ∀ W', SameShape (C02U.flushDisk img b) W' → NoAccidentalFrameImgX g (C02U.flushDisk img b) W' →
      ∀ (policy : Policy) (order : List Bytes) (r : Recovered), recover g W' policy order none = .ok r →
        Exposed J (l.files.headD 0) W r := by
  obtain ⟨J, hc, hw, hJW, hall⟩ := C08X.C08_crash_genuine g hB cap l img b W h
  exact ⟨J, hc, hw, hJW, fun W' hshape hN policy order r hr =>
    Exposed.of_genuine hJW (hall W' hshape hN policy order r hr).1⟩

/-- No damage, no collision hypothesis: `L` is all the retained entries of `J`. -/
theorem C12_crash_restart (g : Geom) (hB : g.B ≤ 65542) (cap : Nat) (l : Log) (img : Image) (b : BufSt)
    (W : List Entry) (h : C02W.ReachXW g cap l img b W) :
    ∃ J : List JE, L.CInvX g l J (C02U.flushDisk img b) ∧ (∀ j ∈ J, C07.WF j.e) ∧ (∀ j ∈ J, j.e ∈ W) ∧
      ∀ (policy : Policy) (order : List Bytes) (r : Recovered),
        recover g (C02U.flushDisk img b) policy order none = .ok r →
        Exposed J (l.files.headD 0) W r := by
  obtain ⟨J, hc, hw, hJW⟩ := C02W.reachXW_journal g hB cap h
  refine ⟨J, hc, hw, hJW, ?_⟩
  intro policy order r hr
  obtain ⟨L, hL1, hL2⟩ := C08X.restart_delivered g hB hc hw policy order r hr
  exact exposed_of J _ W hJW r L hL1 (by rw [hL2]; exact List.Sublist.refl _)

theorem C12_crash_damage_reachX (g : Geom) (hB : g.B ≤ 65542) (cap : Nat) (l : Log) (img : Image) (b : BufSt)
    (h : C02U.ReachX g cap l img b) :
    ∃ W : List Entry, C02W.ReachXW g cap l img b W ∧
    ∃ J : List JE, L.CInvX g l J (C02U.flushDisk img b) ∧ (∀ j ∈ J, C07.WF j.e) ∧ (∀ j ∈ J, j.e ∈ W) ∧
      ∀ W', SameShape (C02U.flushDisk img b) W' → NoAccidentalFrameImgX g (C02U.flushDisk img b) W' →
      ∀ (policy : Policy) (order : List Bytes) (r : Recovered), recover g W' policy order none = .ok r →
        Exposed J (l.files.headD 0) W r := by
  obtain ⟨W, hW⟩ := C02W.ReachXW.ofReachX h
  exact ⟨W, hW, C12_crash_damage g hB cap l img b W hW⟩

theorem filter_mem_drop (b : List (Nat × Bytes)) (hn : b.Nodup) (k : Nat) :
    b.filter (fun r => decide (r ∈ b.drop k)) = b.drop k := by
  have hdis : ∀ r ∈ b.take k, r ∉ b.drop k := by
    rw [← List.take_append_drop k b, List.nodup_append] at hn
    exact fun r h1 h2 => hn.2.2 r h1 r h2 rfl
  conv => lhs; arg 2; rw [← List.take_append_drop k b]
  rw [List.filter_append, List.filter_eq_nil_iff.mpr (fun r hr => by simpa using hdis r hr),
    List.filter_eq_self.mpr (fun r hr => by simpa using hr), List.nil_append]

/-- **no hole, no missing tail.** A delivered batch whose records are not records of another
    delivered append of its queue: the records of the batch present in the recovered queue, in
    the order of the batch, are a suffix of it. -/
theorem no_hole (L : List (Nat × Entry)) (qs : MemQueues) (h : replayEntries [] L = some qs)
    (es₁ es₂ : List (Nat × Entry)) (f : Nat) (name : Bytes) (p : Nat) (b : List (Nat × Bytes))
    (hL : L = es₁ ++ [(f, Entry.append name p b)] ++ es₂)
    (hfresh : ∀ r ∈ b, (name, r.1, r.2) ∉ recordsOf es₁ ∧ (name, r.1, r.2) ∉ recordsOf es₂)
    (q : MemQueue) (hq : qs.get? name = some q) :
    ∃ k, b.filter (fun r => decide (r ∈ plain q)) = b.drop k ∧
      (noTrunc name es₂ = true → k = 0 ∨ b.length ≤ k) := by
  subst hL
  -- the batch itself was appended successfully: strictly increasing positions
  have hnodup : b.Nodup := by
    obtain ⟨_, _, _, _, _, ha, _⟩ := replayEntries_batch h
    have hs := (appendAll_sorted f b ha).1
    rw [List.pairwise_map] at hs
    exact hs.imp (fun hab he => by rw [he] at hab; exact Nat.lt_irrefl _ hab)
  obtain ⟨k, hk1, hk2⟩ := C12.batch_suffix_fresh es₁ es₂ f name p b qs q h hq hfresh
  refine ⟨k, ?_, hk2⟩
  rw [← filter_mem_drop b hnodup k]
  apply List.filter_congr
  intro r hr
  simp only [decide_eq_decide]
  exact hk1 r hr

/-- the freshness hypothesis of `no_hole` (the incarnation caveat) cannot be dropped from the
    all-or-nothing clause: after `delete` and re-creation at position 1 the same record `(1, b)`
    is appended again; of the first batch `[(0, a), (1, b)]` exactly the proper suffix `[(1, b)]` is
    (as a value) in the queue, although no truncate follows. -/
example :
    let n : Bytes := [1]
    let bt : List (Nat × Bytes) := [(0, [10]), (1, [11])]
    let es₂ : List (Nat × Entry) := [(0, Entry.delete n 0), (0, Entry.append n 1 [(1, [11])])]
    ∃ qs q, replayEntries [] ([] ++ [(0, Entry.append n 0 bt)] ++ es₂) = some qs ∧
      qs.get? n = some q ∧ noTrunc n es₂ = true ∧
      bt.filter (fun r => decide (r ∈ plain q)) = bt.drop 1 := by
  refine ⟨_, _, rfl, rfl, rfl, ?_⟩
  decide

/-- a record that no delivered append carries is in no recovered queue -/
theorem undelivered_nothing (L : List (Nat × Entry)) (qs : MemQueues) (h : replayEntries [] L = some qs)
    (name : Bytes) (r : Nat × Bytes) (hnot : (name, r.1, r.2) ∉ recordsOf L)
    (q : MemQueue) (hq : qs.get? name = some q) : r ∉ plain q := by
  intro hr
  unfold plain at hr
  obtain ⟨rec, hrec, he⟩ := List.mem_map.mp hr
  have := C08.replay_records_subset L qs h (name, q) (AL.get?_mem hq) rec hrec
  rw [← he] at hnot
  exact hnot this

theorem Exposed.no_hole {J : List JE} {F : Nat} {W : List Entry} {r : Recovered} (h : Exposed J F W r) :
    ∃ L : List (Nat × Entry), (∀ fe ∈ L, fe.2 ∈ W) ∧ replayEntries [] L = some r.log.queues ∧
      (∀ es₁ es₂ f name p bt, L = es₁ ++ [(f, Entry.append name p bt)] ++ es₂ →
        (∀ rc ∈ bt, (name, rc.1, rc.2) ∉ recordsOf es₁ ∧ (name, rc.1, rc.2) ∉ recordsOf es₂) →
        ∀ q, r.log.queues.get? name = some q →
          ∃ k, bt.filter (fun rc => decide (rc ∈ plain q)) = bt.drop k ∧
            (noTrunc name es₂ = true → k = 0 ∨ bt.length ≤ k)) ∧
      (∀ name rc, (name, rc.1, rc.2) ∉ recordsOf L →
        ∀ q, r.log.queues.get? name = some q → rc ∉ plain q) :=
  let ⟨L, _, hLW, hL1, _⟩ := h
  ⟨L, hLW, hL1, fun es₁ es₂ f name p bt hL hfresh q hq => C12X.no_hole L _ hL1 es₁ es₂ f name p bt hL hfresh q hq,
    fun name rc hnot q hq => undelivered_nothing L _ hL1 name rc hnot q hq⟩

/-- `Exposed.no_hole` without its replay conjunct, for the damaged images on which no position passes the
    acceptance test (`NoAccidentalFrameImgX`, see the head of this file); the statement for images that hold
    frames is `CD.C12_crash_no_hole_clean`. -/
theorem C12_crash_no_hole (g : Geom) (hB : g.B ≤ 65542) (cap : Nat) (l : Log) (img : Image) (b : BufSt)
    (W : List Entry) (h : C02W.ReachXW g cap l img b W) :
    ∀ W', SameShape (C02U.flushDisk img b) W' → NoAccidentalFrameImgX g (C02U.flushDisk img b) W' →
    ∀ (policy : Policy) (order : List Bytes) (r : Recovered), recover g W' policy order none = .ok r →
      ∃ L : List (Nat × Entry), (∀ fe ∈ L, fe.2 ∈ W) ∧
        (∀ es₁ es₂ f name p bt, L = es₁ ++ [(f, Entry.append name p bt)] ++ es₂ →
          (∀ rc ∈ bt, (name, rc.1, rc.2) ∉ recordsOf es₁ ∧ (name, rc.1, rc.2) ∉ recordsOf es₂) →
          ∀ q, r.log.queues.get? name = some q →
            ∃ k, bt.filter (fun rc => decide (rc ∈ plain q)) = bt.drop k ∧
              (noTrunc name es₂ = true → k = 0 ∨ bt.length ≤ k)) ∧
        (∀ name rc, (name, rc.1, rc.2) ∉ recordsOf L →
          ∀ q, r.log.queues.get? name = some q → rc ∉ plain q) := by
  obtain ⟨J, _, _, _, hall⟩ := C12_crash_damage g hB cap l img b W h
  intro W' hshape hN policy order r hr
  obtain ⟨L, hLW, _, h1, h2⟩ := (hall W' hshape hN policy order r hr).no_hole
  exact ⟨L, hLW, h1, h2⟩

end MRL.C12X
