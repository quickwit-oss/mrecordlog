/-
The read accessors see nothing but the abstraction. `range`, `last_position`, `last_record`,
`next_position` of a queue are functions of `MemQueue.abs` (positions, payloads, next position):
two states related by `AbsEq` — as delivered by crash atomicity (C02), restart exactness (C01) and
durability — are indistinguishable to the user. No invariant is needed. C13 says that a rejected
or no-op call leaves the observable state untouched; this file is what gives "observable" its
meaning: whatever the read API can return is determined by the abstraction.
-/
import MRL.Proofs.HAbs

namespace MRL.C13Acc

/-- `range` computed on the abstract records -/
def rangeP (rs : List (Nat × Bytes)) (lo hi : MemQueue.Bound) : List (Nat × Bytes) :=
  let startIdx := match lo with
    | .unbounded => 0
    | .incl n => (rs.takeWhile (·.1 < n)).length
    | .excl n => (rs.takeWhile (·.1 ≤ n)).length
  (rs.drop startIdx).takeWhile fun r => lo.okLo r.1 && hi.okHi r.1

theorem range_abs (q : MemQueue) (lo hi : MemQueue.Bound) : q.range lo hi = rangeP q.abs.recs lo hi := by
  have hlen : ∀ P : Nat → Bool, (q.recs.takeWhile fun r => P r.pos).length =
      ((q.recs.map fun r => (r.pos, r.payload)).takeWhile fun x => P x.1).length := by
    intro P
    rw [List.takeWhile_map, List.length_map]
    rfl
  have key : ∀ k, ((q.recs.drop k).takeWhile fun r => lo.okLo r.pos && hi.okHi r.pos).map
      (fun r => (r.pos, r.payload)) =
      ((q.recs.map fun r => (r.pos, r.payload)).drop k).takeWhile fun r => lo.okLo r.1 && hi.okHi r.1 := by
    intro k
    rw [← List.map_drop, List.takeWhile_map]
    rfl
  unfold MemQueue.range rangeP MemQueue.abs
  cases lo with
  | unbounded => exact key 0
  | incl n => simp only; rw [hlen (fun x => decide (x < n))]; exact key _
  | excl n => simp only; rw [hlen (fun x => decide (x ≤ n))]; exact key _

theorem lastRecord_abs (q : MemQueue) : q.lastRecord = q.abs.recs.getLast? := by
  unfold MemQueue.lastRecord MemQueue.abs
  rw [List.getLast?_map]

theorem lastPosition_abs (q : MemQueue) :
    q.lastPosition = if q.abs.next = 0 then none else some (q.abs.next - 1) := rfl

theorem nextPosition_abs (q : MemQueue) : q.nextPosition = q.abs.next := rfl

/-- **queues with the same abstraction answer every read the same way** -/
theorem accessors_of_abs (a b : MemQueue) (h : a.abs = b.abs) :
    (∀ lo hi, a.range lo hi = b.range lo hi) ∧ a.lastRecord = b.lastRecord ∧
    a.lastPosition = b.lastPosition ∧ a.nextPosition = b.nextPosition := by
  refine ⟨fun lo hi => by rw [range_abs, range_abs, h], by rw [lastRecord_abs, lastRecord_abs, h],
    by rw [lastPosition_abs, lastPosition_abs, h], by rw [nextPosition_abs, nextPosition_abs, h]⟩

/-- **`AbsEq` states are indistinguishable through the read API**: same queue names, and for each
    queue the same `range` (every bound shape), `last_record`, `last_position`, `next_position`. -/
theorem accessors_of_absEq (x y : MemQueues) (h : H.AbsEq x y) (name : Bytes) :
    (x.contains name = y.contains name) ∧
    (∀ lo hi, (x.get? name).map (·.range lo hi) = (y.get? name).map (·.range lo hi)) ∧
    (x.get? name).map (·.lastRecord) = (y.get? name).map (·.lastRecord) ∧
    (x.get? name).map (·.lastPosition) = (y.get? name).map (·.lastPosition) ∧
    (x.get? name).map (·.nextPosition) = (y.get? name).map (·.nextPosition) := by
  have hn := h name
  refine ⟨H.AbsEq.contains h name, ?_⟩
  cases hx : x.get? name with
  | none =>
    rw [hx] at hn
    cases hy : y.get? name with
    | none => exact ⟨fun _ _ => rfl, rfl, rfl, rfl⟩
    | some b => rw [hy] at hn; cases hn
  | some a =>
    rw [hx] at hn
    cases hy : y.get? name with
    | none => rw [hy] at hn; cases hn
    | some b =>
      rw [hy] at hn
      simp only [Option.map_some, Option.some.injEq] at hn
      obtain ⟨h1, h2, h3, h4⟩ := accessors_of_abs a b hn
      exact ⟨fun lo hi => by simp [h1 lo hi], by simp [h2], by simp [h3], by simp [h4]⟩

/-- non-vacuity: two different representations (different `start`, different file handles) of
    the same abstract queue -/
example : let a : MemQueue := { start := 0, recs := [⟨3, [1], some 0⟩, ⟨4, [2, 2], some 1⟩] }
    let b : MemQueue := { start := 3, recs := [⟨3, [1], none⟩, ⟨4, [2, 2], some 7⟩] }
    a ≠ b ∧ a.abs = b.abs ∧ a.range (.excl 3) .unbounded = [(4, [2, 2])] := by
  decide

end MRL.C13Acc
