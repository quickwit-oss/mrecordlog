/-
Non-vacuity of further crash-level theorems on history 1 (`NonVacuityHistory.lean`: `reach5`, the second
crash `X2`/`R2`, the state `S*` = `reachS`), hypotheses discharged and conclusions evaluated
(`decide +kernel` after rewriting with the equations of `MRL/Proofs/EvalTwin.lean`).

 * `nv3_C04` (+ `_eval`): `CX.C04X_crash_then_append_fresh` on the second crash of history 1;
   `nv3_C18` (+ `_eval`): `CX.C18X_crash_projection` after a third crash, with a second queue "b".
 * `nv3_C06` (+ `_eval`): `C06X.C06_crash_recover` on the crash between two unlinks;
   `nv3_C13`: `C13C.rejected_iff`.
The other declarations of the namespace `NV3` stand with the state they speak of: `reachTF`, `nv3_C07_inv`,
`nv3_C01`, `nv3_C10R` in `NonVacuity2.lean` (the crash-free history), `nv3_C10MF` in `NonVacuity.lean`
(the damaged image), `nv3_C03PD*` in `NonVacuityDir.lean`.
-/
import MRL.Props.NonVacuityHistory
import MRL.Props.C04C18Crash
import MRL.Props.C13Complete

namespace MRL.NV3

def u1 : Log × Outcome × List Effect :=
  ({ files := [5, 6, 7, 8, 9, 10, 11, 12], cur := 12, off := 26, queues := [([97], { start := 2, recs := [{ pos := 2, payload := [5], file := none }, { pos := 3, payload := [6], file := some 5 }, { pos := 4, payload := [7], file := none }, { pos := 5, payload := [8], file := some 8 }] }), ([98], { start := 0, recs := [] })], policy := MRL.Policy.doNothing }, MRL.Outcome.created 32, [MRL.Effect.write 11 26 [0, 0, 0, 0, 0, 0],
    MRL.Effect.flush,
    MRL.Effect.fsyncFile 11,
    MRL.Effect.fsyncDir,
    MRL.Effect.create 12,
    MRL.Effect.setLen 12 32,
    MRL.Effect.write 12 0 [205, 144, 137, 201, 9, 0, 2, 2, 0, 0, 0, 0, 0, 0, 0, 0],
    MRL.Effect.write 12 16 [8, 34, 88, 12, 3, 0, 4, 1, 0, 98],
    MRL.Effect.flush,
    MRL.Effect.fsyncFile 12,
    MRL.Effect.fsyncDir])

def km1 : Image :=
  [(5, [66, 185, 127, 9, 9, 0, 3, 0, 0, 0, 0, 0, 0, 1, 0, 0, 215, 181, 37, 255, 2, 0, 4, 0, 4, 161, 142, 12, 60, 0, 0, 2]),
    (6, [4, 133, 116, 23, 9, 0, 3, 4, 2, 0, 0, 0, 0, 0, 0, 0, 108, 33, 207, 127, 9, 0, 3, 1, 0, 97, 2, 0, 0, 0, 0, 0]),
    (7, [233, 73, 44, 131, 9, 0, 3, 0, 0, 1, 0, 0, 0, 5, 3, 0, 66, 185, 127, 9, 9, 0, 3, 0, 0, 0, 0, 0, 0, 1, 0, 0]),
    (8, [251, 212, 43, 17, 2, 0, 4, 0, 6, 161, 142, 12, 60, 0, 0, 2, 131, 140, 27, 209, 9, 0, 3, 4, 4, 0, 0, 0, 0, 0, 0, 0]),
    (9, [113, 194, 150, 169, 9, 0, 3, 1, 0, 97, 4, 0, 0, 0, 0, 0, 1, 58, 242, 214, 9, 0, 3, 0, 0, 1, 0, 0, 0, 7, 5, 0]),
    (10, [66, 185, 127, 9, 9, 0, 3, 0, 0, 0, 0, 0, 0, 1, 0, 0, 252, 249, 147, 246, 2, 0, 4, 0, 8, 161, 142, 12, 60, 0, 0, 2]),
    (11, [168, 199, 108, 211, 9, 0, 3, 1, 1, 0, 0, 0, 0, 0, 0, 0, 178, 115, 81, 149, 3, 0, 4, 1, 0, 97, 0, 0, 0, 0, 0, 0]),
    (12, [205, 144, 137, 201, 9, 0, 2, 2, 0, 0, 0, 0, 0, 0, 0, 0, 8, 34, 88, 12, 3, 0, 4, 1, 0, 98, 0, 0, 0, 0, 0, 0])]

def u2 : Log × Outcome × List Effect :=
  ({ files := [5, 6, 7, 8, 9, 10, 11, 12, 13, 14, 15], cur := 15, off := 9, queues := [([97], { start := 2, recs := [{ pos := 2, payload := [5], file := none }, { pos := 3, payload := [6], file := some 5 }, { pos := 4, payload := [7], file := none }, { pos := 5, payload := [8], file := some 8 }, { pos := 6, payload := [9], file := none }, { pos := 7, payload := [10], file := some 12 }] }), ([98], { start := 0, recs := [] })], policy := MRL.Policy.doNothing }, MRL.Outcome.appended (some 7) 79, [MRL.Effect.write 12 26 [0, 0, 0, 0, 0, 0],
    MRL.Effect.flush,
    MRL.Effect.fsyncFile 12,
    MRL.Effect.fsyncDir,
    MRL.Effect.create 13,
    MRL.Effect.setLen 13 32,
    MRL.Effect.write 13 0 [192, 224, 252, 124, 9, 0, 2, 4, 6, 0, 0, 0, 0, 0, 0, 0],
    MRL.Effect.write 13 16 [122, 99, 94, 228, 9, 0, 3, 1, 0, 97, 6, 0, 0, 0, 0, 0],
    MRL.Effect.flush,
    MRL.Effect.fsyncFile 13,
    MRL.Effect.fsyncDir,
    MRL.Effect.create 14,
    MRL.Effect.setLen 14 32,
    MRL.Effect.write 14 0 [137, 117, 90, 238, 9, 0, 3, 0, 0, 1, 0, 0, 0, 9, 7, 0],
    MRL.Effect.write 14 16 [66, 185, 127, 9, 9, 0, 3, 0, 0, 0, 0, 0, 0, 1, 0, 0],
    MRL.Effect.flush,
    MRL.Effect.fsyncFile 14,
    MRL.Effect.fsyncDir,
    MRL.Effect.create 15,
    MRL.Effect.setLen 15 32,
    MRL.Effect.write 15 0 [208, 152, 157, 24, 2, 0, 4, 0, 10]])

def Y : Image :=
  [(5, [66, 185, 127, 9, 9, 0, 3, 0, 0, 0, 0, 0, 0, 1, 0, 0, 215, 181, 37, 255, 2, 0, 4, 0, 4, 161, 142, 12, 60, 0, 0, 2]),
    (6, [4, 133, 116, 23, 9, 0, 3, 4, 2, 0, 0, 0, 0, 0, 0, 0, 108, 33, 207, 127, 9, 0, 3, 1, 0, 97, 2, 0, 0, 0, 0, 0]),
    (7, [233, 73, 44, 131, 9, 0, 3, 0, 0, 1, 0, 0, 0, 5, 3, 0, 66, 185, 127, 9, 9, 0, 3, 0, 0, 0, 0, 0, 0, 1, 0, 0]),
    (8, [251, 212, 43, 17, 2, 0, 4, 0, 6, 161, 142, 12, 60, 0, 0, 2, 131, 140, 27, 209, 9, 0, 3, 4, 4, 0, 0, 0, 0, 0, 0, 0]),
    (9, [113, 194, 150, 169, 9, 0, 3, 1, 0, 97, 4, 0, 0, 0, 0, 0, 1, 58, 242, 214, 9, 0, 3, 0, 0, 1, 0, 0, 0, 7, 5, 0]),
    (10, [66, 185, 127, 9, 9, 0, 3, 0, 0, 0, 0, 0, 0, 1, 0, 0, 252, 249, 147, 246, 2, 0, 4, 0, 8, 161, 142, 12, 60, 0, 0, 2]),
    (11, [168, 199, 108, 211, 9, 0, 3, 1, 1, 0, 0, 0, 0, 0, 0, 0, 178, 115, 81, 149, 3, 0, 4, 1, 0, 97, 0, 0, 0, 0, 0, 0]),
    (12, [205, 144, 137, 201, 9, 0, 2, 2, 0, 0, 0, 0, 0, 0, 0, 0, 8, 34, 88, 12, 3, 0, 4, 1, 0, 98, 0, 0, 0, 0, 0, 0]),
    (13, [192, 224, 252, 124, 9, 0, 2, 4, 6, 0, 0, 0, 0, 0, 0, 0, 122, 99, 94, 228, 9, 0, 3, 1, 0, 0, 0, 0, 0, 0, 0, 0])]

def RY : Recovered :=
  { log := { files := [5, 6, 7, 8, 9, 10, 11, 12, 13], cur := 13, off := 32, queues := [([97], { start := 2, recs := [{ pos := 2, payload := [5], file := none }, { pos := 3, payload := [6], file := some 5 }, { pos := 4, payload := [7], file := none }, { pos := 5, payload := [8], file := some 8 }] }), ([98], { start := 0, recs := [] })], policy := MRL.Policy.doNothing }, effects := [MRL.Effect.ensureLen 5 32], ioCalls := 37 }

open Log Twin Codec NV

theorem crashDisk2 : Crash.crashDisk g 0 s5.1 img5 {} c6 false [] 10 0 = X2 := e_X2.symm

theorem next5 : C04.nextOf s5.1 [97] = some 6 := by decide +kernel

theorem out9 : (Log.step g R2.log (.append [97] none [[9]]) false []).2.1 = .appended (some 6) 52 := by
  rw [step_twin]; decide +kernel

/-- the theorem applies: the truncate cut between two unlinks, `open`, then an append — the queue's
    next position was 6 before the crash; the append lands at `p ≥ 6`, contiguously -/
theorem nv3_C04 : ∃ mq mq' p, R2.log.queues.get? [97] = some mq ∧
    (Log.step g R2.log (.append [97] none [[9]]) false []).1.queues.get? [97] = some mq' ∧
    6 ≤ p ∧ mq'.abs.recs = mq.abs.recs ++ numberFrom p [[9]] ∧
    (numberFrom p [[9]]).map (·.1) = List.range' p 1 ∧ 6 + 1 = mq'.nextPosition :=
  CX.C04X_crash_then_append_fresh g (by decide) 0 s5.1 img5 {} reach5.toReachX rfl c6 false [] wf6 torn6 10 0
    .doNothing [] [97] 6 (by unfold c6; intro h; cases h) next5 R2 (by rw [crashDisk2]; exact e_R2) false [] none [[9]] 6 52 out9

/-- evaluated: the new record is at position 6 exactly -/
theorem nv3_C04_eval :
    ((Log.step g R2.log (.append [97] none [[9]]) false []).1.queues.get? [97]).map MemQueue.abs =
      some ⟨7, [(2, [5]), (3, [6]), (4, [7]), (5, [8]), (6, [9])]⟩ := by
  rw [step_twin]; decide +kernel

/-! ### `CX.C18X_crash_projection` with a second queue

From `S*`: `create_queue "b"` (completed), then `append "a" [[9],[10]]` CRASHES after 6 OS operations,
9 bytes into the 7th (a Middle frame torn in its payload). -/

def cq : Call := .create [98]
def ca : Call := .append [97] none [[9],[10]]

theorem e_u1 : R2.log.step g cq false [] = u1 := by rw [step_twin]; decide +kernel
theorem e_km1 : applyOsOps img6 (toOsOps 0 {} u1.2.2).2 = km1 ∧ (toOsOps 0 {} u1.2.2).1 = {} := by decide +kernel
theorem wfq : ∀ j ∈ R2.log.stepJ g cq [], C07.WF j.e := by rw [stepJ_twin]; decide +kernel

theorem reachU : C02U.ReachX g 0 u1.1 km1 {} := by
  have h := C02U.ReachX.step cq false [] reachS.toReachX wfq
  rw [e_u1, e_km1.1, e_km1.2] at h
  exact h

theorem e_u2 : u1.1.step g ca false [] = u2 := by rw [step_twin]; decide +kernel
theorem wfa : ∀ j ∈ u1.1.stepJ g ca [], C07.WF j.e := by rw [stepJ_twin]; decide +kernel
theorem tornA : C02A.TornStep g u1.1 ca false [] := by
  show H.TornEffs (u1.1.step g ca false []).2.2
  rw [e_u2]
  exact C06X.tornEffs_check _ (by decide +kernel)
theorem crashDiskY : Crash.crashDisk g 0 u1.1 km1 {} ca false [] 6 9 = Y := by
  unfold Crash.crashDisk; rw [e_u2]; decide +kernel
theorem e_RY : recover g Y .doNothing [] none = .ok RY := by rw [recover_twin]; decide +kernel

/-- the later history on the recovered log, and its projection on queue "b" run on a fresh log that
    only has the (empty) queue "b" -/
def cs₁ : List (Call × Bool × List Bytes) :=
  [(.append [98] none [[1]], false, []), (.append [97] none [[2]], false, []), (.append [98] none [[3], [4]], false, []),
   (.truncate [98] 0, false, [])]
def cs₂ : List (Call × Bool × List Bytes) :=
  [(.append [98] none [[1]], true, []), (.append [98] none [[3], [4]], true, []), (.truncate [98] 0, true, [])]
def lB : Log := { files := [0], cur := 0, off := 0, queues := [([98], {})], policy := .doNothing }
def g64 : Geom := { B := 64, K := 4, hB := by decide, hK := by decide }

theorem invB : C05.Inv lB := ⟨by decide, by
  intro kv hkv
  simp only [lB, List.mem_singleton] at hkv
  subst hkv
  exact ⟨List.Pairwise.nil, fun _ h => by cases h⟩⟩

/-- `C18X_crash_projection` applies (the interrupted call is addressed to "a", the projection is on
    "b"; the second log has another geometry and other clock bits) -/
theorem nv3_C18 : ∃ rec, recover g (Crash.crashDisk g 0 u1.1 km1 {} ca false [] 6 9) .doNothing [] none = .ok rec ∧
    C18.view (C05.run g rec.log cs₁) [98] = C18.view (C05.run g64 lB cs₂) [98] ∧
    (C18.qOutcomes [98] (cs₁.map (·.1)) (C05.outcomes g rec.log cs₁)).map Outcome.logical =
      (C05.outcomes g64 lB cs₂).map Outcome.logical :=
  CX.C18X_crash_projection g g64 (by decide) 0 u1.1 km1 {} reachU rfl ca false [] wfa tornA 6 9 .doNothing [] [98]
    (by decide) lB invB (by decide +kernel) cs₁ cs₂ rfl

/-- evaluated: the recovered log is `RY` (queue "a" as before the append, queue "b" untouched), and
    after the later history queue "b" holds the payloads `[3]`, `[4]` at positions 1, 2 (next position 3),
    as the run on the fresh log does by `nv3_C18` -/
theorem nv3_C18_eval :
    recover g (Crash.crashDisk g 0 u1.1 km1 {} ca false [] 6 9) .doNothing [] none = .ok RY ∧
    C18.view RY.log [98] = some ⟨0, []⟩ ∧
    C18.view (C05.run g RY.log cs₁) [98] = some ⟨3, [(1, [3]), (2, [4])]⟩ := by
  refine ⟨by rw [crashDiskY]; exact e_RY, by decide +kernel, ?_⟩
  simp only [cs₁, C05.run, step_twin]
  decide +kernel

/-- `C06X.C06_crash_recover` on the second crash of history 1 (cut between two unlinks) -/
theorem nv3_C06 : C06X.FilesOkX P2.1 ∧ C06X.After P2.1 R2.log ∧ R2.log.diskUsed g = R2.log.files.length * g.fileBytes ∧
    (∀ f₀, R2.log.files.head? = some f₀ → P2.1.cur ≤ f₀ ∨ R2.log.queues.refsFile f₀ = true) ∧
    (∀ f, Effect.unlink f ∈ R2.effects → R2.log.queues.refsFile f = false ∧ f ≠ R2.log.cur ∧ f ∉ R2.log.files) :=
  C06X.C06_crash_recover (g := g) (by decide) 0 reach5.toReachX rfl c6 false [] wf6 torn6 10 0 .doNothing [] P2.1 P2.2.1
    P2.2.2 R2 (by rw [← e_X2]; exact e_P2) (by rw [← e_X2]; exact e_R2)

/-- evaluated: the `open` after the crash tracked `wal-3 … wal-11` (the two files the interrupted GC
    pass had not unlinked yet included) and its own GC pass released `wal-3`, `wal-4` -/
theorem nv3_C06_eval : P2.1.files = [3, 4, 5, 6, 7, 8, 9, 10, 11] ∧ R2.log.files = [5, 6, 7, 8, 9, 10, 11] ∧
    Step.unlinked R2.effects = [3, 4] ∧ R2.log.queues.refsFile 5 = true := by decide +kernel

/-- `C13C.rejected_iff` on `S*`: creating the existing queue "a" is rejected — both sides hold -/
theorem nv3_C13 : C13C.IsRejection (step g R2.log (.create [97]) false []).2.1 ∧
    C13.Rejected R2.log (.create [97]) (step g R2.log (.create [97]) false []).2.1 := by
  have h : C13C.IsRejection (step g R2.log (.create [97]) false []).2.1 := by
    rw [step_twin]
    have : (stepT g R2.log (.create [97]) false []).2.1 = .alreadyExists := by decide +kernel
    rw [this]; trivial
  exact ⟨h, (C13C.rejected_iff g R2.log (.create [97]) false []).mp h⟩


end MRL.NV3
