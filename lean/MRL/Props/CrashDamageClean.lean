/-
C08 / C12 over crash-reachable states and arbitrary in-place damage, under a collision clause that
an image holding frames can satisfy.

The clause `Img.NoAccidentalFrameImgX g W W'` of `C08X.C08_crash_genuine(_partial)`,
`C12X.C12_crash_damage`, `C12X.C12_crash_no_hole` quantifies over every item layout of `W`, the
empty one included (`Img.itemTape_nil`): it forces that NO position of `W'` passes the reader's
acceptance test (`old_clause_forces_none`), so it never holds for `W' = W` when `W` holds a frame
(`old_clause_not_refl`). The no-damage statements (`C08_crash_restart`, `C12_crash_restart`) and
`C09X.C09_crash_one_frame` do not use it.

Here the same conclusions are proved under `Img.CleanDamage g W₀ W'` (MRL/Proofs/ImgClean.lean),
a clause on bytes only, checkable by evaluation on concrete images:
* the stream of `W₀` has no valid frame besides those the reader reads on it (no more positions
  pass the acceptance test than frames are read), and
* wherever the test passes on `W'` it passes on `W₀` at the same position for the same frame.
It holds for `W' = W₀` as soon as `W₀` is clean (`cleanDamage_refl`), and for damage that breaks
checksums without forging one.
-/
import MRL.Props.C12CrashDamage
import MRL.Proofs.ImgClean

namespace MRL.CD
open Img Rec Gen

theorem old_clause_forces_none (g : Geom) (W W' : Image) (h : NoAccidentalFrameImgX g W W') :
    ∀ k x t p, ¬ Accepts g (streamOf W') k x t p := by
  intro k x t p hacc
  have := h [] (itemTape_nil g W) k x t p hacc
  simp [glocs] at this

theorem old_clause_not_refl (g : Geom) (W : Image) (k x : Nat) (t : FrameType) (p : Bytes)
    (h : Accepts g (streamOf W) k x t p) : ¬ NoAccidentalFrameImgX g W W :=
  fun hN => old_clause_forces_none g W W hN k x t p h

theorem cleanDamage_refl (g : Geom) (W : Image)
    (hclean : (accepted g (streamOf W) ((streamOf W).length / g.B)).length ≤
      frameCount g ((W.map (·.1)).headD 0) (streamOf W) ((streamOf W).length / g.B))
    (hlen : (streamOf W).length % g.B = 0) : CleanDamage g W W := by
  refine ⟨hclean, fun k x t p hacc => mem_accepted g _ _ k x t p (accepts_block_lt hacc ?_) hacc⟩
  have hdm := Nat.div_add_mod (streamOf W).length g.B
  rw [hlen, Nat.add_zero, Nat.mul_comm] at hdm
  omega

/-- C08 for crash-reachable states: `C08X.crash_damaged_read` under `Img.CleanDamage`. -/
theorem C08_crash_genuine_clean (g : Geom) (hB : g.B ≤ 65542) (cap : Nat) (l : Log) (img : Image) (b : BufSt)
    (W : List Entry) (h : C02W.ReachXW g cap l img b W) :
    ∃ J : List JE, L.CInvX g l J (C02U.flushDisk img b) ∧ (∀ j ∈ J, C07.WF j.e) ∧ (∀ j ∈ J, j.e ∈ W) ∧
      ∀ W', SameShape (C02U.flushDisk img b) W' → CleanDamage g (C02U.flushDisk img b) W' →
      ∀ (policy : Policy) (order : List Bytes) (r : Recovered), recover g W' policy order none = .ok r →
        C08X.Genuine J (l.files.headD 0) r ∧
        ∀ kv ∈ r.log.queues, ∀ rec ∈ kv.2.recs, (kv.1, rec.pos, rec.payload) ∈ recordsOfE W := by
  obtain ⟨J, cs, x, ais, lead, gs, res, z0, z1, hc, hw, hJW, hd, hall⟩ := C08X.crash_damaged_read g hB cap l img b W h
  exact ⟨J, hc, hw, hJW, fun W' hshape hN => hall W' hshape (noAcc_of_clean g hB hd W' hN)⟩

/-- C12 for crash-reachable states, on delivered entries (`C12X.Exposed`), under `Img.CleanDamage`. -/
theorem C12_crash_damage_clean (g : Geom) (hB : g.B ≤ 65542) (cap : Nat) (l : Log) (img : Image) (b : BufSt)
    (W : List Entry) (h : C02W.ReachXW g cap l img b W) :
    ∃ J : List JE, L.CInvX g l J (C02U.flushDisk img b) ∧ (∀ j ∈ J, C07.WF j.e) ∧ (∀ j ∈ J, j.e ∈ W) ∧
      ∀ W', SameShape (C02U.flushDisk img b) W' → CleanDamage g (C02U.flushDisk img b) W' →
      ∀ (policy : Policy) (order : List Bytes) (r : Recovered), recover g W' policy order none = .ok r →
        C12X.Exposed J (l.files.headD 0) W r := by
  obtain ⟨J, hc, hw, hJW, hall⟩ := C08_crash_genuine_clean g hB cap l img b W h
  exact ⟨J, hc, hw, hJW, fun W' hshape hN policy order r hr =>
    C12X.Exposed.of_genuine hJW (hall W' hshape hN policy order r hr).1⟩

/-- C12 on records. The last two conjuncts hold of every `L` whose replay succeeds (`C12X.no_hole`,
    `C12X.undelivered_nothing`), and freshness is relative to that `L`: what is said of the image is that such an
    `L` exists among the entries of `W` — membership only; `C12_crash_damage_clean` keeps that `L` is a
    sub-sequence of the retained journal. -/
theorem C12_crash_no_hole_clean (g : Geom) (hB : g.B ≤ 65542) (cap : Nat) (l : Log) (img : Image) (b : BufSt)
    (W : List Entry) (h : C02W.ReachXW g cap l img b W) :
    ∀ W', SameShape (C02U.flushDisk img b) W' → CleanDamage g (C02U.flushDisk img b) W' →
    ∀ (policy : Policy) (order : List Bytes) (r : Recovered), recover g W' policy order none = .ok r →
      ∃ L : List (Nat × Entry), (∀ fe ∈ L, fe.2 ∈ W) ∧ replayEntries [] L = some r.log.queues ∧
        (∀ es₁ es₂ f name p bt, L = es₁ ++ [(f, Entry.append name p bt)] ++ es₂ →
          (∀ rc ∈ bt, (name, rc.1, rc.2) ∉ recordsOf es₁ ∧ (name, rc.1, rc.2) ∉ recordsOf es₂) →
          ∀ q, r.log.queues.get? name = some q →
            ∃ k, bt.filter (fun rc => decide (rc ∈ plain q)) = bt.drop k ∧
              (noTrunc name es₂ = true → k = 0 ∨ bt.length ≤ k)) ∧
        (∀ name rc, (name, rc.1, rc.2) ∉ recordsOf L →
          ∀ q, r.log.queues.get? name = some q → rc ∉ plain q) := by
  obtain ⟨J, _, _, _, hall⟩ := C12_crash_damage_clean g hB cap l img b W h
  exact fun W' hshape hN policy order r hr => (hall W' hshape hN policy order r hr).no_hole

end MRL.CD
