/-
C12 composed — after any crash (`C12_crash`) or any in-place damage (`C12_damage`), the recovered
records of one batch are all of it or none of it, apart from a leading part legitimately removed
by truncation.

Both statements have the same shape. The reader delivers some list `L` of the API-level entries
(a prefix `entries.take j` after a crash — C02; a sub-sequence after damage — C08G); `replay`
acts on exactly `L`. Whenever the replay succeeds, for EVERY way of writing
`L = es₁ ++ [(file, append name p b)] ++ es₂` — i.e. for every batch `b` that was delivered — and
the final state `q` of queue `name` (if it still exists):

    plain q = pre ++ b.drop k' ++ post

the surviving records of the batch are a CONTIGUOUS SUFFIX `b.drop k'` of it, preceded only by
records of earlier delivered appends to `name` (`pre`, empty as soon as `0 < k'`), followed only
by records of later delivered appends (`post`); and unless a delivered `truncate name` follows,
`k' = 0` (whole batch) or `b.length ≤ k'` (nothing of it). A batch that was NOT delivered
contributes nothing: every record of every queue is a record of a delivered append
(`records_from_delivered`).
-/
import MRL.Props.C08Genuine
import MRL.Props.C12

namespace MRL.C12C
open Torn Gen Rec

def BatchSuffix (b : List (Nat × Bytes)) (name : Bytes) (es₁ es₂ : List (Nat × Entry)) (q : MemQueue) : Prop :=
  ∃ pre k' post, plain q = pre ++ b.drop k' ++ post ∧ (0 < k' → pre = []) ∧
    (∀ r ∈ pre, (name, r.1, r.2) ∈ recordsOf es₁) ∧ (∀ r ∈ post, (name, r.1, r.2) ∈ recordsOf es₂) ∧
    (noTrunc name es₂ = true → k' = 0 ∨ b.length ≤ k')

def AllOrSuffix (L : List (Nat × Entry)) (qs : MemQueues) : Prop :=
  (∀ es₁ es₂ f name p b, L = es₁ ++ [(f, Entry.append name p b)] ++ es₂ →
    ∀ q, qs.get? name = some q → BatchSuffix b name es₁ es₂ q) ∧
  (∀ kv ∈ qs, ∀ rec ∈ kv.2.recs, (kv.1, rec.pos, rec.payload) ∈ recordsOf L)

theorem allOrSuffix_of_replay (L : List (Nat × Entry)) (qs : MemQueues) (h : replayEntries [] L = some qs) :
    AllOrSuffix L qs := by
  refine ⟨?_, C08.replay_records_subset L qs h⟩
  intro es₁ es₂ f name p b hL q hq
  subst hL
  have hW := C12.replay_batch_suffix es₁ es₂ f name p b qs h
  rw [hq] at hW
  exact hW

theorem records_from_delivered {L : List (Nat × Entry)} {qs : MemQueues} (h : AllOrSuffix L qs) :
    ∀ kv ∈ qs, ∀ rec ∈ kv.2.recs, (kv.1, rec.pos, rec.payload) ∈ recordsOf L := h.2

/-- After a crash at ANY byte offset `k` (setting of `C02_torn_tail`, API-level
    entries): the reader delivers the prefix `entries.take j` (`j = m` or `m + 1`), and whenever the
    replay succeeds every delivered batch is all-or-suffix. -/
theorem C12_crash (g : Geom) (hB : g.B ≤ 65542) (c : Nat) (hc : c < g.B) (entries : List Entry)
    (hwf : ∀ e ∈ entries, C07.WF e) (file : Nat)
    (hT : C02.TornOK g c hc (entries.map Entry.encode)) (k z : Nat)
    (hk : k ≤ (C07.writeEntriesBufs g c hc (entries.map Entry.encode)).flatten.length) (hz : g.B + 7 ≤ z) :
    let es := entries.map Entry.encode
    let stream := zeros c ++ (C07.writeEntriesBufs g c hc es).flatten.take k ++ zeros z
    let m := C02.wholeCount g c hc es k
    stream.length % g.B = 0 →
    ∃ b0 rest evs e io j,
      fileBlocks g file stream 1 0 (stream.length / g.B) = b0 :: rest ∧
      scanBlocks g none 1 0 b0 c rest = some (evs, e, io) ∧
      (j = m ∨ j = m + 1) ∧
      decoded (assemble { within := false, buf := [], attr := file } evs) =
        (entries.take j).map (fun en => (file, en)) ∧
      ∀ qs, replay [] (assemble { within := false, buf := [], attr := file } evs) = some qs →
        AllOrSuffix ((entries.take j).map fun en => (file, en)) qs := by
  intro es stream m hmod
  obtain ⟨b0, rest, evs, e, io, j, h1, h2, h3, h4, _, _⟩ :=
    C02.C02_torn_tail g hB c hc es file hT k z hk hz hmod
  have hdec : decoded (assemble { within := false, buf := [], attr := file } evs) =
      (entries.take j).map (fun en => (file, en)) := by
    rw [← decoded_entriesOf]
    have : C02.entriesOf (assemble { within := false, buf := [], attr := file } evs) =
        (entries.take j).map (fun en => RecEv.entry file en.encode) := by
      rw [h3]; simp [es, List.map_take]; rfl
    rw [show entriesOf _ = _ from this]
    exact decoded_encoded file _ (fun en he => C07.decode_encode en (hwf en (List.mem_of_mem_take he)))
  refine ⟨b0, rest, evs, e, io, j, h1, h2, h4, hdec, ?_⟩
  intro qs hq
  rw [replay_eq, hdec] at hq
  exact allOrSuffix_of_replay _ qs hq

/-- After ANY in-place damage (setting of `C08_genuine_entries`, API-level
    entries, `NoAccidentalFrame`): the reader delivers a sub-sequence `l'` of `entries`, and
    whenever the replay succeeds every delivered batch is all-or-suffix. -/
theorem C12_damage (g : Geom) (c : Nat) (hc : c < g.B) (entries : List Entry)
    (hwf : ∀ e ∈ entries, C07.WF e) (file z : Nat) (hz : 7 ≤ z) (W' : Bytes)
    (hN : C08G.NoAccidentalFrame g c hc (entries.map Entry.encode) W') :
    let es := entries.map Entry.encode
    let W := zeros c ++ (C07.writeEntriesBufs g c hc es).flatten ++ zeros z
    W.length % g.B = 0 → W'.length = W.length →
    ∃ b0 rest evs e io l',
      fileBlocks g file W' 1 0 (W'.length / g.B) = b0 :: rest ∧
      scanBlocks g none 1 0 b0 c rest = some (evs, e, io) ∧
      List.Sublist l' entries ∧
      decoded (assemble { within := false, buf := [], attr := file } evs) = l'.map (fun en => (file, en)) ∧
      ∀ qs, replay [] (assemble { within := false, buf := [], attr := file } evs) = some qs →
        AllOrSuffix (l'.map fun en => (file, en)) qs := by
  intro es W hmod hsame
  obtain ⟨b0, rest, evs, e, io, h1, h2, ⟨l', hl, hd⟩, _⟩ :=
    C08G.C08_genuine_records g c hc entries hwf file z hz W' hN hmod hsame
  refine ⟨b0, rest, evs, e, io, l', h1, h2, hl, hd, ?_⟩
  intro qs hq
  rw [replay_eq, hd] at hq
  exact allOrSuffix_of_replay _ qs hq

/-- what a replay evaluates to is reached by some queues, and these are all-or-suffix -/
theorem exists_of_replay_map {L : List (Nat × Entry)} {α : Type} {f : MemQueues → α} {a : α}
    (h : (replayEntries [] L).map f = some a) : ∃ qs, replayEntries [] L = some qs ∧ f qs = a ∧ AllOrSuffix L qs := by
  cases hqs : replayEntries [] L with
  | none => rw [hqs] at h; cases h
  | some qs => rw [hqs] at h; exact ⟨qs, rfl, Option.some.inj h, allOrSuffix_of_replay _ qs hqs⟩

/-- a delivered list with a batch of three records followed by a truncation: the batch survives
    as its suffix `drop 1` -/
example : ∃ qs, replayEntries []
      ([(0, .touch [1] 0), (0, .append [1] 0 [(0, [7])])] ++ [(0, Entry.append [1] 1 [(1, [8]), (2, [9]), (3, [10])])] ++
        [(0, .truncate [1] 1)]) = some qs ∧
    (qs.get? [1]).map plain = some [(2, [9]), (3, [10])] ∧
    AllOrSuffix ([(0, .touch [1] 0), (0, .append [1] 0 [(0, [7])])] ++
      [(0, Entry.append [1] 1 [(1, [8]), (2, [9]), (3, [10])])] ++ [(0, .truncate [1] 1)]) qs :=
  exists_of_replay_map (f := fun qs => (qs.get? [1]).map plain) (by decide)

end MRL.C12C
