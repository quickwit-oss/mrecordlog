/-
C15: `wal_bytes_written` reported by a call equals the number of bytes the call actually handed to
the WAL writer — frame headers and block padding included, GC touch entries included — and those
bytes form one contiguous run starting at the writer's cursor.
-/
import MRL.Proofs.StepLemmas
import MRL.Proofs.EvalTwin

namespace MRL.C15
open MRL.Log MRL.Step

def isWrite : Effect → Bool
  | .write _ _ _ => true
  | _ => false

def effBytes : Effect → Nat
  | .write _ _ data => data.length
  | _ => 0

/-- total number of bytes handed to the WAL writer by a list of effects -/
def writtenBytes (es : List Effect) : Nat := (es.map effBytes).sum

/-- `wal_bytes_written` reported by an outcome -/
def walBytes : Outcome → Nat
  | .created n | .deleted n | .appended _ n | .truncated _ n => n
  | _ => 0

/-- running write cursor `(file, offset)`: every write continues the current file where the
    previous one ended, or starts a *different* file at offset 0 -/
def cursorAfter : (Nat × Nat) → List Effect → Option (Nat × Nat)
  | c, [] => some c
  | c, .write f off data :: es =>
    if (f = c.1 ∧ off = c.2) ∨ (f ≠ c.1 ∧ off = 0) then cursorAfter (f, off + data.length) es else none
  | c, _ :: es => cursorAfter c es

def WritesNonempty (es : List Effect) : Prop := ∀ f off data, Effect.write f off data ∈ es → data ≠ []

theorem walBytes_eq_outBytes (o : Outcome) : walBytes o = outBytes o := by cases o <;> rfl

@[simp] theorem writtenBytes_nil : writtenBytes [] = 0 := rfl

@[simp] theorem writtenBytes_append (a b : List Effect) :
    writtenBytes (a ++ b) = writtenBytes a + writtenBytes b := by
  simp [writtenBytes, List.map_append, List.sum_append]

@[simp] theorem writtenBytes_cons (e : Effect) (es : List Effect) :
    writtenBytes (e :: es) = effBytes e + writtenBytes es := by
  simp [writtenBytes]

theorem writtenBytes_persist (l : Log) (a : PersistAction) : writtenBytes (l.persistEffects a) = 0 := by
  cases a <;> simp [persistEffects, effBytes]

theorem writtenBytes_unlinks (fs : List Nat) : writtenBytes (fs.map Effect.unlink) = 0 := by
  induction fs with
  | nil => rfl
  | cons f fs ih => simp [effBytes, ih]

theorem cursorAfter_append (a b : List Effect) :
    ∀ c, cursorAfter c (a ++ b) = (cursorAfter c a).bind fun c' => cursorAfter c' b := by
  induction a with
  | nil => intro c; rfl
  | cons e es ih =>
    intro c
    cases e with
    | write f off d =>
      simp only [List.cons_append, cursorAfter, ih]
      split <;> rfl
    | _ => exact ih c

theorem cursorAfter_noWrite (es : List Effect) (h : es.all (fun e => !isWrite e) = true) :
    ∀ c, cursorAfter c es = some c := by
  induction es with
  | nil => intro c; rfl
  | cons e es ih =>
    intro c
    simp only [List.all_cons, Bool.and_eq_true] at h
    obtain ⟨h1, h2⟩ := h
    cases e <;> first | (simp [isWrite] at h1; done) | simp only [cursorAfter, ih h2]

theorem noWrite_persist (l : Log) (a : PersistAction) :
    (l.persistEffects a).all (fun e => !isWrite e) = true := by
  cases a <;> rfl

theorem noWrite_unlinks (fs : List Nat) : (fs.map Effect.unlink).all (fun e => !isWrite e) = true := by
  induction fs with
  | nil => rfl
  | cons f fs ih => exact ih

theorem WritesNonempty.append {a b : List Effect} (ha : WritesNonempty a) (hb : WritesNonempty b) :
    WritesNonempty (a ++ b) := by
  intro f off data h
  rcases List.mem_append.mp h with h | h
  · exact ha f off data h
  · exact hb f off data h

theorem writesNonempty_of_noWrite (es : List Effect) (h : es.all (fun e => !isWrite e) = true) :
    WritesNonempty es := by
  intro f off data hm
  have := List.all_eq_true.mp h _ hm
  simp [isWrite] at this

theorem effBytes_of_not_write {e : Effect} (h : isWrite e = false) : effBytes e = 0 := by
  cases e <;> first | rfl | cases h

theorem writtenBytes_eq_zero_iff (es : List Effect) (h : WritesNonempty es) :
    writtenBytes es = 0 ↔ es.all (fun e => !isWrite e) = true := by
  induction es with
  | nil => exact ⟨fun _ => rfl, fun _ => rfl⟩
  | cons e es ih =>
    have ih := ih fun f off data hm => h f off data (List.mem_cons_of_mem _ hm)
    rw [writtenBytes_cons, List.all_cons]
    cases hw : isWrite e with
    | false => rw [effBytes_of_not_write hw, Nat.zero_add]; exact ih
    | true =>
      -- a write carries at least one byte: both sides are false
      cases e with
      | write f off data =>
        have : data.length ≠ 0 := fun h0 => h f off data List.mem_cons_self (List.eq_nil_of_length_eq_zero h0)
        exact ⟨fun h0 => absurd (Nat.eq_zero_of_add_eq_zero_right h0) this, fun h0 => by cases h0⟩
      | _ => cases hw

/-- every buffer `write_frame` hands to the writer is non-empty: the padding is
    `B - c > 0` zero bytes, a frame has at least its 7 header bytes -/
theorem frameWrites_nonempty (g : Geom) (c : Nat) (hc : c < g.B) (t : FrameType) (p : Bytes) :
    ∀ b ∈ frameWrites g c t p, b ≠ [] := by
  intro b hb
  have hf : encodeFrame t p ≠ [] := encodeFrame_ne_nil t p
  unfold frameWrites at hb
  split at hb
  · simp only [List.mem_cons, List.not_mem_nil, or_false] at hb
    rcases hb with rfl | rfl
    · intro h
      have : (zeros (g.B - c)).length = 0 := by rw [h]; rfl
      simp [zeros] at this
      omega
    · exact hf
  · simp only [List.mem_cons, List.not_mem_nil, or_false] at hb
    subst hb
    exact hf

theorem frameWrites_totalLen_pos (g : Geom) (c : Nat) (t : FrameType) (p : Bytes) :
    0 < totalLen (frameWrites g c t p) := by
  have := Codec.length_encodeFrame t p
  unfold frameWrites
  split <;> simp [totalLen, this] <;> omega

theorem writeEntryBufs_nonempty (g : Geom) (c : Nat) (isFirst : Bool) (payload : Bytes) (hc : c < g.B) :
    ∀ b ∈ writeEntryBufs g c isFirst payload hc, b ≠ [] := by
  fun_induction writeEntryBufs g c isFirst payload hc with
  | case1 c isFirst payload hc n rest bufs hr =>
    exact frameWrites_nonempty g c hc _ _
  | case2 c isFirst payload hc n rest bufs hr ih =>
    intro b hb
    rcases List.mem_append.mp hb with hb | hb
    · exact frameWrites_nonempty g c hc _ _ b hb
    · exact ih b hb

theorem writeEntryBufs_totalLen_pos (g : Geom) (c : Nat) (isFirst : Bool) (payload : Bytes) (hc : c < g.B) :
    0 < totalLen (writeEntryBufs g c isFirst payload hc) := by
  unfold writeEntryBufs
  have := frameWrites_totalLen_pos g c
  dsimp only
  split
  · exact this _ _
  · simp only [totalLen, List.map_append, List.sum_append] at *
    exact Nat.lt_of_lt_of_le (this _ _) (Nat.le_add_right _ _)

theorem entryBufs_nonempty (g : Geom) (l : Log) (e : Entry) : ∀ b ∈ entryBufs g l e, b ≠ [] :=
  writeEntryBufs_nonempty g _ true _ _

section
variable (g : Geom)

theorem writeBuf_bytes (l : Log) (buf : Bytes) : writtenBytes (writeBuf g l buf).2 = buf.length := by
  rcases writeBuf_cases g l buf with ⟨hb, h⟩ | ⟨_, _, h⟩ | ⟨_, _, _, _, h⟩ | ⟨_, _, _, h⟩ <;> rw [h]
  · rw [hb]; rfl
  all_goals simp only [writtenBytes_cons, writtenBytes_nil, effBytes, Nat.zero_add, Nat.add_zero]

theorem writeBuf_nonempty (l : Log) (buf : Bytes) : WritesNonempty (writeBuf g l buf).2 := by
  intro f off data hm
  rcases writeBuf_cases g l buf with ⟨_, h⟩ | ⟨hb, _, h⟩ | ⟨hb, _, _, _, h⟩ | ⟨hb, _, _, h⟩ <;> rw [h] at hm
  · cases hm
  all_goals
    simp only [List.mem_cons, List.not_mem_nil, or_false, reduceCtorEq, false_or, Effect.write.injEq] at hm
    exact hm.2.2 ▸ hb

theorem writeBuf_cursor (l : Log) (buf : Bytes) :
    cursorAfter (l.cur, l.off) (writeBuf g l buf).2 = some ((writeBuf g l buf).1.cur, (writeBuf g l buf).1.off) := by
  rcases writeBuf_cases g l buf with ⟨_, h⟩ | ⟨_, _, h⟩ | ⟨_, _, nf, hn, h⟩ | ⟨_, _, _, h⟩ <;> rw [h]
  · rfl
  · exact if_pos (.inl ⟨rfl, rfl⟩)
  · exact (if_pos (.inr ⟨Nat.ne_of_gt (nextFile_some hn).2, rfl⟩)).trans (by rw [Nat.zero_add]; rfl)
  · exact (if_pos (.inr ⟨Nat.succ_ne_self _, rfl⟩)).trans (by rw [Nat.zero_add]; rfl)

/-- an entry always costs at least one frame header -/
theorem writeEntry_pos (l : Log) (e : Entry) : 0 < (l.writeEntry g e).2.2 := by
  rw [writeEntry_eq]
  exact writeEntryBufs_totalLen_pos g _ true _ _

theorem along_bytes : AlongCall g fun _ es n _ => writtenBytes es = n :=
  Along.call ⟨fun _ => rfl, fun h1 h2 => by rw [writtenBytes_append, h1, h2], writeBuf_bytes g⟩
    (sync := writtenBytes_persist) (queues := fun _ _ => rfl)
    (unlinks := fun l _ => by rw [writtenBytes_append, writtenBytes_persist, writtenBytes_unlinks])

/-- the writes of `es` are non-empty and run from the cursor of `l` to the cursor of `l'` -/
def Run (l : Log) (es : List Effect) (l' : Log) : Prop :=
  WritesNonempty es ∧ cursorAfter (l.cur, l.off) es = some (l'.cur, l'.off)

theorem Run.of_noWrite {l l' : Log} {es : List Effect} (h : es.all (fun e => !isWrite e) = true)
    (hc : l'.cur = l.cur) (ho : l'.off = l.off) : Run l es l' :=
  ⟨writesNonempty_of_noWrite es h, by rw [cursorAfter_noWrite es h, hc, ho]⟩

theorem along_run : AlongCall g fun l es _ l' => Run l es l' :=
  Along.call
    { nil := fun _ => .of_noWrite rfl rfl rfl
      app := fun h1 h2 => ⟨h1.1.append h2.1, by rw [cursorAfter_append, h1.2]; exact h2.2⟩
      buf := fun l b => ⟨writeBuf_nonempty g l b, writeBuf_cursor g l b⟩ }
    (sync := fun l a => .of_noWrite (noWrite_persist l a) rfl rfl)
    (queues := fun _ _ => .of_noWrite rfl rfl rfl)
    (unlinks := fun l _ =>
      .of_noWrite (by rw [List.all_append, noWrite_persist, noWrite_unlinks]; rfl) rfl rfl)

end

variable (g : Geom) (l : Log) (c : Call) (tick : Bool) (order : List Bytes)

/-- **C15.** The byte count reported by a call is exactly the number of bytes the call handed to
    the WAL writer (frame headers, block padding and GC touch entries included). -/
theorem C15_bytes_exact :
    let r := Log.step g l c tick order
    walBytes r.2.1 = writtenBytes r.2.2 := by
  intro r
  rw [walBytes_eq_outBytes]
  exact ((along_bytes g).step l c tick order).symm

theorem C15_writes_nonempty : WritesNonempty (Log.step g l c tick order).2.2 :=
  ((along_run g).step l c tick order).1

/-- **C15.** Zero reported bytes ⇔ the call did not write to the WAL at all. -/
theorem C15_zero_iff :
    let r := Log.step g l c tick order
    walBytes r.2.1 = 0 ↔ r.2.2.all (fun e => !isWrite e) = true := by
  intro r
  rw [show walBytes r.2.1 = writtenBytes r.2.2 from C15_bytes_exact g l c tick order]
  exact writtenBytes_eq_zero_iff _ (C15_writes_nonempty g l c tick order)

/-- **C15.** The writes of one call are contiguous: starting from the writer's cursor
    `(cur, off)`, each write continues the current file where the previous one ended or opens a
    different file at offset 0, and the run ends at the new cursor. -/
theorem C15_contiguous :
    let r := Log.step g l c tick order
    cursorAfter (l.cur, l.off) r.2.2 = some (r.1.cur, r.1.off) :=
  ((along_run g).step l c tick order).2

/-- a successful `create_queue` always reports a positive byte count (at least one frame header) -/
theorem C15_created_pos (q : Bytes) (h : l.queues.contains q = false) :
    0 < walBytes (Log.step g l (.create q) tick order).2.1 := by
  simp only [step, h, Bool.false_eq_true, if_false, walBytes]
  exact writeEntry_pos g l _

/-- geometry with 16-byte blocks, 4 blocks per file -/
def g16 : Geom := { B := 16, K := 4, hB := by decide, hK := by decide }

def l0 : Log :=
  { files := [0], cur := 0, off := 11, policy := .doNothing, queues := [([1], {})] }

/-- Appending a 1-byte payload (25 entry bytes) at in-block offset 11 of a 16-byte block: the 5
    bytes left cannot hold a header, so the call writes 5 padding bytes, then three frames of
    16, 16 and 14 bytes. All 51 bytes are reported, the padding included, and the first write
    effect is the padding at `(file 0, offset 11)`. -/
example :
    let r := Log.step g16 l0 (.append [1] none [[7]]) false []
    r.2.2.map effBytes = [5, 16, 16, 14] ∧ r.2.1 = .appended (some 0) 51 ∧
      r.2.2.head? = some (.write 0 11 (zeros 5)) := by
  rw [Twin.step_twin]; decide +kernel

/-- …and the general theorems apply to it: 51 = 5 + 16 + 16 + 14, contiguous from `(0, 11)` to `(0, 62)` -/
example :
    let r := Log.step g16 l0 (.append [1] none [[7]]) false []
    walBytes r.2.1 = writtenBytes r.2.2 ∧ cursorAfter (0, 11) r.2.2 = some (r.1.cur, r.1.off) :=
  ⟨C15_bytes_exact g16 l0 _ false [], C15_contiguous g16 l0 _ false []⟩

end MRL.C15
