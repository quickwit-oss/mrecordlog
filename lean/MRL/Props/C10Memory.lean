/-
C10, "never allocates without bound", for the RESULT of `open`, on EVERY image (arbitrary bytes,
arbitrary file lengths, any I/O fault plan).

`C10.recover_buf_bounded` bounds the reassembly buffer. Here: what the recovered queues hold.

The argument is a potential. Give every record a nominal overhead of `REC_HEADER_LEN = 12` bytes
(what it costs in an `AppendRecords` entry): `usedBytes 12 qs` = names + payloads + 12 per record.
* an entry of `n` bytes that decodes to `e` has `11 + entryCost 12 e ≤ n` (`decode_cost`): the name
  and every record header and payload are disjoint slices of it;
* replaying `e` raises the potential by at most `entryCost 12 e` (`replayEntry_used`; truncations
  and deletions only lower it);
* the entries `assemble` delivers are made of disjoint frame payloads: their total length is at
  most the payload bytes of the frames, which lie in the blocks, which lie in the prepared image
  (`C10.delivered_bytes`).
Distinctness of the delivered entries is therefore never needed: the bound is per delivered
entry and the delivered entries' total length is bounded by the stream.

`I := imageBytes (prepareImage g img).1` (the image as `open` reads it: an empty directory gets
`wal-0`, a first file shorter than a block is zero-extended to the nominal size — a frame may
reach into that padding, so `I` and not `imageBytes img` is the right bound; `I ≤ imageBytes img +
g.fileBytes`, `prepared_le`).
-/
import MRL.Props.C10
import MRL.Props.C16
import MRL.Proofs.QSum
import MRL.Proofs.RecReplay
import MRL.Proofs.EvalTwin

namespace MRL.C10M
open Consts C10 C16 Rec

/-- bytes of names, payloads and `msz` per record that replaying `e` can add -/
def entryCost (msz : Nat) : Entry → Nat
  | .append q _ recs => q.length + (recs.map (·.2.length)).sum + msz * recs.length
  | .touch q _ => q.length
  | .truncate _ _ => 0
  | .delete _ _ => 0

theorem decodeRecs_cost (bs : Bytes) : ∀ recs, Entry.decodeRecs bs = some recs →
    (recs.map (·.2.length)).sum + 12 * recs.length ≤ bs.length := by
  fun_induction Entry.decodeRecs bs with
  | case1 bs h => intro recs hr; cases hr; exact Nat.zero_le _
  | case2 => intro recs hr; cases hr
  | case3 => intro recs hr; cases hr
  | case4 bs _ hlen pos len rest hfit ih =>
    intro recs hr
    cases hd : Entry.decodeRecs (List.drop len rest) with
    | none => rw [hd] at hr; cases hr
    | some rs =>
      rw [hd] at hr
      cases hr
      have := ih rs hd
      simp only [List.length_drop, rest, REC_HEADER_LEN] at this hfit hlen
      simp only [List.map_cons, List.sum_cons, List.length_cons, List.length_take, List.length_drop, rest,
        REC_HEADER_LEN, Nat.min_eq_left (Nat.le_of_not_lt hfit)]
      omega

theorem decode_cost (bs : Bytes) (e : Entry) (h : Entry.decode bs = some e) :
    ENTRY_HEADER_LEN + entryCost 12 e ≤ bs.length := by
  obtain ⟨hle, hq, hrecs⟩ := decode_some h
  have hql : e.queue.length = leNat ((bs.drop 9).take 2) := by
    rw [hq, List.length_take, List.length_drop]; exact Nat.min_eq_left (Nat.le_sub_of_add_le' hle)
  rw [← hql] at hle
  cases e with
  | append q pos recs =>
    have := decodeRecs_cost _ recs (hrecs q pos recs rfl)
    rw [List.length_drop, List.length_drop, ← hql, Nat.sub_sub] at this
    have := Nat.add_le_of_le_sub' hle this
    rwa [Nat.add_assoc, ← Nat.add_assoc _ _ (12 * recs.length)] at this
  | touch q p => exact hle
  | truncate q p => exact Nat.le_trans (Nat.le_add_right _ _) hle
  | delete q p => exact Nat.le_trans (Nat.le_add_right _ _) hle

theorem sum_drop_le (f : Rec → Nat) (l : List Rec) (k : Nat) : ((l.drop k).map f).sum ≤ (l.map f).sum := by
  induction l generalizing k with
  | nil => simp
  | cons a l ih =>
    cases k with
    | zero => simp
    | succ k =>
      simp only [List.drop_succ_cons, List.map_cons, List.sum_cons]
      exact Nat.le_trans (ih k) (Nat.le_add_left _ _)

theorem truncateHead_size_le (msz : Nat) (q : MemQueue) (p : Nat) :
    (q.truncateHead p).1.size msz ≤ q.size msz := by
  unfold MemQueue.truncateHead
  by_cases h1 : q.start > p
  · rw [if_pos h1]; exact Nat.le_refl _
  · rw [if_neg h1]
    by_cases h2 : p + 1 ≥ q.nextPosition
    · rw [if_pos h2]; simp [MemQueue.size]
    · rw [if_neg h2]
      exact Nat.add_le_add (sum_drop_le _ q.recs _)
        (Nat.mul_le_mul_right msz (List.drop_sublist _ q.recs).length_le)

theorem size_withNext (msz p : Nat) : (MemQueue.withNextPosition p).size msz = 0 := by
  simp [MemQueue.size, MemQueue.withNextPosition]

theorem used_set_le (msz : Nat) (qs : MemQueues) (hnd : (qs.map (·.1)).Nodup) (n : Bytes) (q : MemQueue) :
    MemQueues.usedBytes msz (qs.set n q) ≤ MemQueues.usedBytes msz qs + n.length + q.size msz := by
  have := MemQueues.used_set msz qs hnd n q
  omega

theorem slot_cost_le (msz : Nat) {e : Entry} {file : Nat} {u u' : Option MemQueue}
    (h : e.slot file u = some u') :
    MemQueues.slotCost (MemQueue.size msz) e.queue u' ≤
      MemQueues.slotCost (MemQueue.size msz) e.queue u + entryCost msz e := by
  cases e with
  | append q pos recs =>
    obtain ⟨mq', ha, rfl⟩ := Option.map_eq_some_iff.mp h
    have h3 := C16.appendAll_size msz file recs _ mq' ha
    cases u with
    | none =>
      rw [Option.getD_none, size_withNext] at h3
      simp only [MemQueues.slotCost, entryCost, Entry.queue]; omega
    | some x =>
      rw [Option.getD_some] at h3
      simp only [MemQueues.slotCost, entryCost, Entry.queue]; omega
  | truncate q p =>
    cases h
    cases u with
    | none => exact Nat.le_refl _
    | some x => exact Nat.add_le_add_left (truncateHead_size_le msz x p) _
  | touch q p =>
    cases h
    simp only [MemQueues.slotCost, entryCost, Entry.queue, size_withNext]; omega
  | delete q p => cases h; exact Nat.zero_le _

/-- the sum changes by the cost of the addressed slot (`replayEntry_sum`) -/
theorem replayEntry_used (msz : Nat) {qs qs' : MemQueues} {file : Nat} {e : Entry}
    (h : replayEntry qs file e = some qs') (hn : (qs.map (·.1)).Nodup) :
    MemQueues.usedBytes msz qs' ≤ MemQueues.usedBytes msz qs + entryCost msz e := by
  obtain ⟨hs, hsum⟩ := replayEntry_sum (MemQueue.size msz) h hn
  have := slot_cost_le msz hs
  rw [MemQueues.usedBytes_eq, MemQueues.usedBytes_eq]
  omega

theorem replay_potential (evs : List RecEv) : ∀ (qs qs' : MemQueues), replay qs evs = some qs' →
    (qs.map (·.1)).Nodup →
    MemQueues.usedBytes 12 qs' ≤ MemQueues.usedBytes 12 qs + entryBytes evs := by
  induction evs with
  | nil => intro qs qs' h _; cases h; exact Nat.le_refl _
  | cons ev evs ih =>
    intro qs qs' h hI
    cases ev with
    | corrupt => exact ih qs qs' h hI
    | entry f bytes =>
      cases hd : Entry.decode bytes with
      | none =>
        simp only [replay, hd] at h
        exact Nat.le_trans (ih qs qs' h hI) (Nat.add_le_add_left (Nat.le_add_left _ _) _)
      | some e =>
        simp only [replay, hd] at h
        cases hr : replayEntry qs f e with
        | none => rw [hr] at h; cases h
        | some qs1 =>
          rw [hr] at h
          calc MemQueues.usedBytes 12 qs'
            _ ≤ MemQueues.usedBytes 12 qs1 + entryBytes evs := ih qs1 qs' h (replayEntry_keys_nodup hr hI)
            _ ≤ MemQueues.usedBytes 12 qs + entryCost 12 e + entryBytes evs :=
              Nat.add_le_add_right (replayEntry_used 12 hr hI) _
            _ ≤ MemQueues.usedBytes 12 qs + (bytes.length + entryBytes evs) := by
              rw [Nat.add_assoc]
              exact Nat.add_le_add_left (Nat.add_le_add_right
                (Nat.le_trans (Nat.le_add_left _ _) (decode_cost bytes e hd)) _) _

theorem prepared_le (g : Geom) (img : Image) :
    imageBytes (prepareImage g img).1 ≤ imageBytes img + g.fileBytes := by
  cases img with
  | nil => simp [prepareImage, imageBytes, zeros]
  | cons fc rest =>
    unfold prepareImage
    by_cases h : fc.2.length < g.B
    · simp only [if_pos h, imageBytes, List.map_cons, List.sum_cons, List.length_append, zeros, List.length_replicate]
      rw [Nat.add_right_comm _ _ g.fileBytes]
      exact Nat.add_le_add_right (Nat.add_le_add_left (Nat.sub_le _ _) _) _
    · simp only [if_neg h]; exact Nat.le_add_right _ _

theorem clip_le (g : Geom) (img : Image) : imageBytes (clipImage g img) ≤ imageBytes img := by
  unfold clipImage imageBytes
  induction img with
  | nil => simp
  | cons kv img ih =>
    simp only [List.map_cons, List.sum_cons, List.length_take] at ih ⊢
    exact Nat.add_le_add (Nat.min_le_right _ _) ih

theorem prepared_clip_le (g : Geom) (img : Image) :
    imageBytes (prepareImage g (clipImage g img)).1 ≤ imageBytes img + g.fileBytes :=
  Nat.le_trans (prepared_le g _) (Nat.add_le_add_right (clip_le g img) _)

/-- what a bound `I` on the potential gives: names + payloads, 12 bytes per record, and
    `memory_used_bytes` for a `RecordMeta` of `msz` bytes -/
theorem potential_bounds (msz : Nat) (qs : MemQueues) (I : Nat) (h : MemQueues.usedBytes 12 qs ≤ I) :
    nameBytes qs + totalPayload qs ≤ I ∧ 12 * totalRecords qs ≤ I ∧
    12 * MemQueues.usedBytes msz qs ≤ (12 + msz) * I := by
  rw [C16_used_split] at h ⊢
  generalize nameBytes qs + totalPayload qs = a at h ⊢
  generalize totalRecords qs = n at h ⊢
  have h0 : a ≤ I := Nat.le_trans (Nat.le_add_right a _) h
  have h1 : 12 * n ≤ I := Nat.le_trans (Nat.le_add_left _ a) h
  refine ⟨h0, h1, ?_⟩
  rw [Nat.mul_add, Nat.add_mul, Nat.mul_left_comm]
  exact Nat.add_le_add (Nat.mul_le_mul_left 12 h0) (Nat.mul_le_mul_left msz h1)

theorem recoverPre_potential (g : Geom) (img : Image) (policy : Policy) (failAt : Option Nat) (lp : Log)
    (e0 : List Effect) (io : Nat) (h : recoverPre g img policy failAt = .ok (lp, e0, io)) :
    MemQueues.usedBytes 12 lp.queues ≤ imageBytes (prepareImage g img).1 := by
  have h1 : _ ≤ 0 + entryBytes _ := replay_potential _ [] lp.queues (deliveredEvents_of_pre h) List.nodup_nil
  rw [Nat.zero_add] at h1
  exact Nat.le_trans h1 (delivered_bytes g img failAt)

/-- **names + payloads + 12 bytes per record ≤ the bytes read**, for every image and fault plan -/
theorem recover_potential (g : Geom) (img : Image) (policy : Policy) (order : List Bytes) (failAt : Option Nat)
    (r : Recovered) (h : recover g img policy order failAt = .ok r) :
    MemQueues.usedBytes 12 r.log.queues ≤ imageBytes (prepareImage g img).1 := by
  obtain ⟨lp, e0, io, hpre, _, _⟩ := Step.recover_ok g img policy order failAt r h
  rw [Step.recover_queues g hpre h]
  exact recoverPre_potential g img policy failAt lp e0 io hpre

/-- the queue names and the payloads held by the recovered queues fit in the image -/
theorem recover_payload_bounded (g : Geom) (img : Image) (policy : Policy) (order : List Bytes)
    (failAt : Option Nat) (r : Recovered) (h : recover g img policy order failAt = .ok r) :
    nameBytes r.log.queues + totalPayload r.log.queues ≤ imageBytes (prepareImage g img).1 :=
  (potential_bounds 0 _ _ (recover_potential g img policy order failAt r h)).1

/-- every recovered record cost at least its 12-byte header on disk -/
theorem recover_records_bounded (g : Geom) (img : Image) (policy : Policy) (order : List Bytes)
    (failAt : Option Nat) (r : Recovered) (h : recover g img policy order failAt = .ok r) :
    12 * totalRecords r.log.queues ≤ imageBytes (prepareImage g img).1 :=
  (potential_bounds 0 _ _ (recover_potential g img policy order failAt r h)).2.1

/-- `memory_used_bytes` of the recovered queues, `msz` = size of a `RecordMeta` -/
theorem recover_used_bounded (msz : Nat) (g : Geom) (img : Image) (policy : Policy) (order : List Bytes)
    (failAt : Option Nat) (r : Recovered) (h : recover g img policy order failAt = .ok r) :
    12 * MemQueues.usedBytes msz r.log.queues ≤ (12 + msz) * imageBytes (prepareImage g img).1 :=
  (potential_bounds msz _ _ (recover_potential g img policy order failAt r h)).2.2

theorem recover_used_bounded' (msz : Nat) (g : Geom) (img : Image) (policy : Policy) (order : List Bytes)
    (failAt : Option Nat) (r : Recovered) (h : recover g img policy order failAt = .ok r) :
    MemQueues.usedBytes msz r.log.queues ≤ (1 + msz) * imageBytes (prepareImage g img).1 := by
  have h1 := recover_used_bounded msz g img policy order failAt r h
  generalize imageBytes (prepareImage g img).1 = I at h1 ⊢
  generalize MemQueues.usedBytes msz r.log.queues = u at h1 ⊢
  have h2 : (12 + msz) * I ≤ 12 * ((1 + msz) * I) := by
    rw [← Nat.mul_assoc]
    exact Nat.mul_le_mul_right I (by omega)
  exact Nat.le_of_mul_le_mul_left (Nat.le_trans h1 h2) (by decide)

/-- with a `RecordMeta` of at most 12 bytes the memory used is at most the bytes read -/
theorem recover_used_small (msz : Nat) (hm : msz ≤ 12) (g : Geom) (img : Image) (policy : Policy)
    (order : List Bytes) (failAt : Option Nat) (r : Recovered)
    (h : recover g img policy order failAt = .ok r) :
    MemQueues.usedBytes msz r.log.queues ≤ imageBytes (prepareImage g img).1 := by
  have h1 := recover_potential g img policy order failAt r h
  rw [C16_used_split] at h1 ⊢
  exact Nat.le_trans (Nat.add_le_add_left (Nat.mul_le_mul_right (totalRecords r.log.queues) hm) _) h1

theorem recoverPre_bounded (msz : Nat) (g : Geom) (img : Image) (policy : Policy) (failAt : Option Nat)
    (lp : Log) (e0 : List Effect) (io : Nat) (h : recoverPre g img policy failAt = .ok (lp, e0, io)) :
    nameBytes lp.queues + totalPayload lp.queues ≤ imageBytes (prepareImage g img).1 ∧
    12 * totalRecords lp.queues ≤ imageBytes (prepareImage g img).1 ∧
    12 * MemQueues.usedBytes msz lp.queues ≤ (12 + msz) * imageBytes (prepareImage g img).1 :=
  potential_bounds msz _ _ (recoverPre_potential g img policy failAt lp e0 io h)

/-- **`open` on an arbitrary directory content** (`recoverC`: the clipped view): everything is
    bounded by the bytes of the directory plus one nominal file -/
theorem recoverC_bounded (msz : Nat) (g : Geom) (img : Image) (policy : Policy) (order : List Bytes)
    (failAt : Option Nat) (r : Recovered) (h : recoverC g img policy order failAt = .ok r) :
    nameBytes r.log.queues + totalPayload r.log.queues ≤ imageBytes img + g.fileBytes ∧
    12 * totalRecords r.log.queues ≤ imageBytes img + g.fileBytes ∧
    12 * MemQueues.usedBytes msz r.log.queues ≤ (12 + msz) * (imageBytes img + g.fileBytes) :=
  potential_bounds msz _ _
    (Nat.le_trans (recover_potential g (clipImage g img) policy order failAt r h) (prepared_clip_le g img))

/-! ### `I` cannot be replaced by the bytes of the directory

`open` zero-extends a first file shorter than a block to its nominal size (repair F2) before
reading it, and a frame may reach into that padding. A 27-byte `wal-0` — the header of a Full
frame of 123 bytes, the header of an `AppendRecords` entry and of one record announcing a payload
of 100 bytes — whose checksum is the one of the zero-extended frame: `open` succeeds and the
recovered queue holds a 100-byte payload (of zeros). The bound `imageBytes img + g.fileBytes`
(`prepared_le`) accounts for it. -/

def gPad : Geom := { B := 256, K := 1, hB := by decide, hK := by decide }

def imgPad : Image :=
  [(0, [193, 239, 226, 55, 123, 0, 1, 4, 0, 0, 0, 0, 0, 0, 0, 0, 0, 0, 0, 0, 0, 0, 0, 0, 0, 0, 100])]

def payloadOfResult (x : Except OpenErr Recovered) : Nat :=
  match x with
  | .ok r => totalPayload r.log.queues
  | .error _ => 0

/-- 27 bytes on disk, 100 payload bytes in memory (kernel evaluation, no compiler) -/
theorem padding_example :
    imageBytes imgPad = 27 ∧ payloadOfResult (recover gPad imgPad .doNothing [] none) = 100 := by
  rw [Twin.recover_twin]; decide +kernel

end MRL.C10M
