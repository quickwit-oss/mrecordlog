/-
C07 at file level, for EVERY reachable state — entries of any size round-trip through `open`
wherever they start.

For `h : C01R.ReachD g cap l J img b` (any history of calls and restarts, any roll-overs and file
deletions) with serialisable entries, `D := flushDisk img b`, `F := l.files.headD 0` (first tracked
file): `recoverPre` scans the blocks of `D` with no corrupt event, and the entries `assemble`
DELIVERS, decoded, in order, are exactly the journal entries located in the tracked files, each
attributed to the file the writer was in when it wrote it (`max attr F`):

    Rec.decoded (assemble … evs) = (J.filter (F ≤ ·.loc)).map fun j => (max j.attr F, j.e)

whatever the sizes of the entries and wherever each starts: at a block end, with fewer than 7 bytes
left in the block (zero padding), with exactly a header left (empty First frame), spanning several
blocks — and several FILES: an entry whose first frame lies in a deleted file is not among the
delivered ones, and its remaining frames at the start of the first tracked file (the `lead` frames
of the tape, Middle/Last) are read and skipped, never delivered. The recovered writer stands where
the tape ends (after the padding when fewer than 7 bytes remained in the block): `ResumeOK`.

This is the disk layer's `G.read_disk` at the level of events, the level property C07 speaks about
(`clean_delivered`); the single-stream form is `C07.C07_roundtrip`.
-/
import MRL.Proofs.ImgRead
import MRL.Proofs.GRestart
import MRL.Props.C01Restart

namespace MRL.C07V
open Codec Img G

/-- The disk of a clean state is a tape of items without junk; what `assemble` delivers over its groups
    is the retained entries with the attributions of `L.reattr`, which on a chained tape are the
    journal's. -/
theorem clean_delivered (g : Geom) (hB : g.B ≤ 65542) {l : Log} {D : Image} {J : List JE} {F : Nat}
    (h : DInvF g l D J F) (hwf : ∀ j ∈ J, C07.WF j.e)
    (hfirst : ∀ j, (J.filter (fun j => decide (F ≤ j.loc))).head? = some j → j.attr ≤ F) :
    ∃ b0 rest trail evs e io,
      blocksOf g (prepareImage g D).1 1 = (b0 :: rest, trail) ∧
      scanBlocks g none trail b0.cost b0 0 rest = some (evs, e, io) ∧
      (∀ ev ∈ evs, ∀ f, ev ≠ RdEv.corrupt f) ∧
      (∀ ev ∈ assemble { within := false, buf := [], attr := b0.file } evs, ev ≠ RecEv.corrupt) ∧
      Rec.decoded (assemble { within := false, buf := [], attr := b0.file } evs) =
        (J.filter fun j => decide (F ≤ j.loc)).map fun j => (max j.attr F, j.e) := by
  obtain ⟨init, t, afs, hT, hL, ⟨lead, segs, hafs, hlead, hmap, hsok, hchain⟩, hC, _⟩ := h
  have hA : AttrOK F F segs := attrOK_of g F afs hL.tagged segs (fun s hs x hx => by
      rw [hafs]; exact List.mem_append_right _ (List.mem_flatMap.mpr ⟨s, hs, hx⟩)) hsok hchain fun s hs =>
    hfirst s.1 (by rw [← hmap, List.head?_map, hs]; rfl)
  obtain ⟨z0, z1, hd⟩ :=
    (L.XInvX.of_xinv (⟨hT, hL, hafs, hlead, hmap, hsok, hchain, hC⟩ : XInv g l D F J init t afs lead segs)).tapeD_cs
  generalize init ++ [t ++ ([] ++ zeros (g.fileBytes - l.off - ([] : Bytes).length))] = cs at hd
  -- the blocks `open` reads are those of the tape; their scan gives the frames, no corrupt event
  obtain ⟨e, hscan⟩ := L.readS_layoutJ g hB F cs.flatten (cs.length * g.K)
    (by rw [flatten_length_full _ _ hd.full, mul_fb]) (Nat.mul_pos (List.length_pos_iff.mpr hd.ne) g.hK) _ hd.fits
    (by rw [← mul_fb]; exact hd.jok) hd.tagged (z0 + z1) (by rw [hd.flat, zeros_add]; simp)
  obtain ⟨m, trail, io, _, _, hb, hs⟩ := blocks_disk g F cs hd.ne hd.full false (F + cs.length)
  rw [← hd.img] at hb
  rw [hscan] at hs
  -- reassembly over the groups
  obtain ⟨st', _, _, hasm, _⟩ := L.asm_segs_reattr g F _ hd.tagged _ _ hd.hais hd.hlead hd.hok []
  have hout : assemble { within := false, buf := [], attr := (blkAt g F cs.flatten 0).file } (L.evsJ (L.plain afs)) =
      L.entriesEv (segs.map fun s => { s.1 with attr := max s.1.attr F }) := by
    rw [show (blkAt g F cs.flatten 0).file = F by simp [blkAt], ← List.append_nil (L.evsJ _), hasm,
      L.outG_clean _ _ (fun x hx y hy => by
        obtain ⟨s, _, rfl⟩ := List.mem_map.mp hx
        exact L.mem_plain hy)]
    have := L.reattr_exact F segs F [] hA (fun d hd => by cases hd)
    rw [List.append_nil] at this
    rw [this]; exact List.append_nil _
  refine ⟨_, _, trail, _, e, io, hb, hs, ?_, ?_, ?_⟩
  · intro ev hev f
    rw [L.evsJ_plain] at hev
    obtain ⟨a, _, rfl⟩ := List.mem_map.mp hev
    intro hc; cases hc
  · rw [hout]
    intro ev hev
    obtain ⟨j, _, rfl⟩ := List.mem_map.mp hev
    intro hc; cases hc
  · rw [hout, L.entriesEv, Rec.decoded_map_entry (fun j : JE => j.attr) (fun j : JE => j.e) _ (fun j hj => by
      obtain ⟨s, hs, rfl⟩ := List.mem_map.mp hj
      refine C07.decode_encode _ (hwf s.1 ?_)
      have : s.1 ∈ segs.map (·.1) := List.mem_map_of_mem (f := (·.1)) hs
      rw [hmap] at this
      exact (List.mem_filter.mp this).1), ← hmap, List.map_map, List.map_map]
    rfl

/-- the recovered writer stands at the end of the tape of `D`: in file `F + n` at offset `off`, the
    absolute position `n * fileBytes + off` being the end of a frame layout `fs` of the tape, or the
    next block start when fewer than 7 bytes remained -/
def ResumeOK (g : Geom) (D : Image) (F : Nat) (lp : Log) : Prop :=
  ∃ fs n, TapeLayout g D fs ∧ lp.cur = F + n ∧
    (n * g.fileBytes + lp.off = G.endPos g 0 fs ∨ n * g.fileBytes + lp.off = G.hdrPos g (G.endPos g 0 fs))

theorem resume_of_dinv {g : Geom} {lp : Log} {D : Image} {J : List JE} {F : Nat} (h : G.DInvF g lp D J F) :
    ResumeOK g D F lp := by
  obtain ⟨init, t, afs, hT, hL, _, _, _⟩ := h
  refine ⟨G.untag afs, init.length, tapeLayout_of_flay hT hL, hT.cur, ?_⟩
  rw [← hT.tapeR.P_length]; exact hL.len

theorem C07_recover_roundtrip (g : Geom) (hB : g.B ≤ 65542) (cap : Nat) (l : Log) (J : List JE) (img : Image)
    (b : BufSt) (h : C01R.ReachD g cap l J img b) (hwf : ∀ j ∈ J, C07.WF j.e) (policy : Policy) :
    let D := C01R.flushDisk img b
    let F := l.files.headD 0
    ∃ lp e0 io b0 rest trail evs e io',
      recoverPre g D policy none = .ok (lp, e0, io) ∧
      blocksOf g (prepareImage g D).1 1 = (b0 :: rest, trail) ∧
      scanBlocks g none trail b0.cost b0 0 rest = some (evs, e, io') ∧
      (∀ ev ∈ evs, ∀ f, ev ≠ RdEv.corrupt f) ∧
      (∀ ev ∈ assemble { within := false, buf := [], attr := b0.file } evs, ev ≠ RecEv.corrupt) ∧
      Rec.decoded (assemble { within := false, buf := [], attr := b0.file } evs) =
        ((J.filter fun j => decide (F ≤ j.loc)).map fun j => (max j.attr F, j.e)) ∧
      lp.files = l.files ∧ lp.cur = l.cur ∧ ResumeOK g D F lp := by
  intro D F
  have hr := C01R.reach_rinv g hB cap h hwf
  have hfirst := G.hfirst_of hr.c.mono2 hr.c.jinv.chunk hr.c.first
  obtain ⟨lp, io, hrec, hc, _, hf, _, hcur⟩ := G.open_ok g hB hr.c hwf policy
  obtain ⟨b0, rest, trail, evs, e, io', h1, h2, h3, h4, h5⟩ := clean_delivered g hB hr.c.disk hwf hfirst
  refine ⟨lp, _, io, b0, rest, trail, evs, e, io', hrec, h1, h2, h3, h4, h5, hf, hcur, ?_⟩
  have h6 := hc.disk
  rw [hf] at h6
  exact resume_of_dinv h6

end MRL.C07V
