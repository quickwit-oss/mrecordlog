/-
C04 — queue positions never regress or get reused within one incarnation of a queue.
Proved on the specification (`Spec.step`) and transferred to the model through C05: as long as
queue `q` is not deleted its next position only grows, and an effective append writes the
consecutive positions `p, p+1, …` with `p ≥ next`, leaving the earlier records untouched.
-/
import MRL.Props.C05
import MRL.Proofs.QSpecStep

namespace MRL.C04
open Log Spec

/-- (a) unless `q` itself is deleted, a call keeps `q` alive and never lowers its next position -/
theorem spec_next_mono (s : Spec) (c : Call) (q : Bytes) (sq : SQueue)
    (hc : c ≠ .delete q) (hg : s.get? q = some sq) :
    ∃ sq', (Spec.step s c).1.get? q = some sq' ∧ sq.next ≤ sq'.next := by
  by_cases ht : c.queue? = some q
  · cases c with
    | persist a => cases ht
    | delete q' => cases ht; exact absurd rfl hc
    | create q' =>
      cases ht
      simp only [Spec.step, hg]
      exact ⟨sq, rfl, Nat.le_refl _⟩
    | truncate q' p =>
      cases ht
      simp only [Spec.step, hg]
      exact ⟨_, get?_set_same _ _ _, Nat.le_max_left _ _⟩
    | append q' pos? pls =>
      cases ht
      rcases step_append_cases sq q pos? pls with ⟨o, _, hs⟩ | ⟨p, hp, _, _, hs⟩
      · rw [hs s hg]; exact ⟨sq, hg, Nat.le_refl _⟩
      · rw [hs s hg]; exact ⟨_, get?_set_same _ _ _, Nat.le_trans hp (Nat.le_add_right _ _)⟩
  · exact ⟨sq, by rw [step_get?_other s c q ht]; exact hg, Nat.le_refl _⟩

/-- (b) an effective append: the records of `q` become the old records followed by the
    payloads at the consecutive positions `p, p+1, …, last`, with `p ≥` the old next position
    (so no position is reused) and `last + 1 =` the new next position. -/
theorem spec_append_fresh (s s' : Spec) (q : Bytes) (pos : Option Nat) (pls : List Bytes)
    (last : Nat) (sq : SQueue)
    (hstep : Spec.step s (.append q pos pls) = (s', .appended (some last)))
    (hg : s.get? q = some sq) :
    ∃ sq' p, s'.get? q = some sq' ∧
      sq.next ≤ p ∧ (∀ p0, pos = some p0 → p = p0) ∧
      sq'.recs = sq.recs ++ numberFrom p pls ∧
      (numberFrom p pls).map (·.1) = List.range' p pls.length ∧
      (numberFrom p pls).map (·.2) = pls ∧
      (∀ r ∈ sq'.recs.drop sq.recs.length, sq.next ≤ r.1) ∧
      pls ≠ [] ∧ last + 1 = sq'.next ∧ sq'.next = p + pls.length := by
  rcases step_append_cases sq q pos pls with ⟨o, hno, hs⟩ | ⟨p, hp, hpos, hne, hs⟩
  · rw [hs s hg] at hstep
    exact absurd (Prod.mk.inj hstep).2 (hno last)
  · rw [hs s hg] at hstep
    obtain ⟨hs', hlast⟩ := Prod.mk.inj hstep
    have hlast : p + pls.length - 1 = last := Option.some.inj (LOutcome.appended.inj hlast)
    have hlen : 0 < pls.length := List.length_pos_iff.mpr hne
    refine ⟨_, p, by rw [← hs']; exact get?_set_same _ _ _, hp, hpos, rfl,
      numberFrom_positions p pls, numberFrom_payloads p pls, ?_, hne, ?_, rfl⟩
    · intro r hr
      simp only [List.drop_left] at hr
      exact Nat.le_trans hp (numberFrom_bounds p pls r hr).1
    · rw [← hlast]
      exact Nat.sub_add_cancel (Nat.le_trans hlen (Nat.le_add_left _ _))

/-- (c) over any history that never deletes `q`, the next position of `q` only grows -/
theorem spec_run_next_mono (q : Bytes) (cs : List Call) (hcs : ∀ c ∈ cs, c ≠ .delete q) :
    ∀ (s : Spec) (sq : SQueue), s.get? q = some sq →
    ∃ sq', (Spec.run s cs).get? q = some sq' ∧ sq.next ≤ sq'.next := by
  induction cs with
  | nil => intro s sq hg; exact ⟨sq, hg, Nat.le_refl _⟩
  | cons c cs ih =>
    intro s sq hg
    obtain ⟨sq1, h1, hle1⟩ := spec_next_mono s c q sq (hcs c (by simp)) hg
    obtain ⟨sq2, h2, hle2⟩ := ih (fun c' hc' => hcs c' (by simp [hc'])) _ sq1 h1
    exact ⟨sq2, h2, Nat.le_trans hle1 hle2⟩

/-- every stored position is below the next position; with (a)–(c) this is "never reused":
    an effective append writes at positions ≥ `next`, hence above every stored record. -/
def SBelow (sq : SQueue) : Prop := ∀ r ∈ sq.recs, r.1 < sq.next

theorem spec_below_preserved (s : Spec) (c : Call) (q : Bytes)
    (hs : ∀ sq, s.get? q = some sq → SBelow sq) :
    ∀ sq', (Spec.step s c).1.get? q = some sq' → SBelow sq' := by
  intro sq' hg'
  by_cases ht : c.queue? = some q
  · cases c with
    | persist a => cases ht
    | delete q' =>
      cases ht
      simp only [Spec.step] at hg'
      split at hg'
      · exact hs _ hg'
      · rw [get?_remove_same] at hg'; cases hg'
    | create q' =>
      cases ht
      simp only [Spec.step] at hg'
      split at hg'
      · exact hs _ hg'
      · rw [get?_set_same] at hg'; cases hg'; intro r hr; cases hr
    | truncate q' p =>
      cases ht
      simp only [Spec.step] at hg'
      split at hg'
      · exact hs _ hg'
      · rename_i sq hg
        rw [get?_set_same] at hg'; cases hg'
        intro r hr
        exact Nat.lt_of_lt_of_le (hs sq hg r (List.mem_filter.mp hr).1) (Nat.le_max_left _ _)
    | append q' pos? pls =>
      cases ht
      cases hg : s.get? q with
      | none => simp only [Spec.step, hg] at hg'; cases hg'
      | some sq =>
        rcases step_append_cases sq q pos? pls with ⟨o, _, he⟩ | ⟨p, hp, _, _, he⟩
        · rw [he s hg] at hg'; exact hs _ hg'
        · rw [he s hg, get?_set_same] at hg'; cases hg'
          intro r hr
          rcases List.mem_append.mp hr with hr | hr
          · exact Nat.lt_of_lt_of_le (hs sq hg r hr) (Nat.le_trans hp (Nat.le_add_right _ _))
          · exact (numberFrom_bounds p pls r hr).2
  · rw [step_get?_other s c q ht] at hg'; exact hs _ hg'

/-- next position of queue `q` in the model -/
def nextOf (l : Log) (q : Bytes) : Option Nat := (l.queues.get? q).map (·.nextPosition)

theorem nextOf_abs (l : Log) (q : Bytes) : nextOf l q = (l.abs.get? q).map (·.next) := by
  rw [C05.abs_get_eq]; unfold nextOf; cases l.queues.get? q <;> rfl

theorem nextOf_eq_some {l : Log} {q : Bytes} {n : Nat} :
    nextOf l q = some n ↔ ∃ sq, l.abs.get? q = some sq ∧ sq.next = n := by
  rw [nextOf_abs, Option.map_eq_some_iff]

/-- **C04 on the model, one call**: (a) through the refinement of C05. -/
theorem C04_model_next_mono (g : Geom) (l : Log) (hI : C05.Inv l) (c : Call) (tick : Bool)
    (order : List Bytes) (q : Bytes) (n : Nat) (hc : c ≠ .delete q) (hn : nextOf l q = some n) :
    ∃ n', nextOf (Log.step g l c tick order).1 q = some n' ∧ n ≤ n' := by
  obtain ⟨habs, _, _⟩ := C05.C05_refines g l hI c tick order
  obtain ⟨sq, hg, rfl⟩ := nextOf_eq_some.mp hn
  obtain ⟨sq', h1, h2⟩ := spec_next_mono l.abs c q sq hc hg
  exact ⟨sq'.next, nextOf_eq_some.mpr ⟨sq', by rw [habs]; exact h1, rfl⟩, h2⟩

/-- **C04 on the model, histories**: over any history without `delete q`. -/
theorem C04_model_run_next_mono (g : Geom) (l : Log) (hI : C05.Inv l)
    (cs : List (Call × Bool × List Bytes)) (q : Bytes) (n : Nat)
    (hcs : ∀ x ∈ cs, x.1 ≠ .delete q) (hn : nextOf l q = some n) :
    ∃ n', nextOf (C05.run g l cs) q = some n' ∧ n ≤ n' := by
  obtain ⟨habs, _, _⟩ := C05.C05_history g cs l hI
  obtain ⟨sq, hg, rfl⟩ := nextOf_eq_some.mp hn
  have hcs' : ∀ c ∈ cs.map (·.1), c ≠ .delete q := by
    intro c hc
    obtain ⟨x, hx, rfl⟩ := List.mem_map.mp hc
    exact hcs x hx
  obtain ⟨sq', h1, h2⟩ := spec_run_next_mono q _ hcs' l.abs sq hg
  exact ⟨sq'.next, nextOf_eq_some.mpr ⟨sq', by rw [habs]; exact h1, rfl⟩, h2⟩

/-- the model appends exactly where the specification does: an effective append on the model
    extends the abstract records of `q` by fresh consecutive positions. -/
theorem C04_model_append_fresh (g : Geom) (l : Log) (hI : C05.Inv l) (tick : Bool)
    (order : List Bytes) (q : Bytes) (pos : Option Nat) (pls : List Bytes) (last w : Nat)
    (mq : MemQueue) (hg : l.queues.get? q = some mq)
    (hout : (Log.step g l (.append q pos pls) tick order).2.1 = .appended (some last) w) :
    ∃ mq' p, (Log.step g l (.append q pos pls) tick order).1.queues.get? q = some mq' ∧
      mq.nextPosition ≤ p ∧
      mq'.abs.recs = mq.abs.recs ++ numberFrom p pls ∧
      (numberFrom p pls).map (·.1) = List.range' p pls.length ∧
      last + 1 = mq'.nextPosition := by
  obtain ⟨habs, hlog, _⟩ := C05.C05_refines g l hI (.append q pos pls) tick order
  have hsg : l.abs.get? q = some mq.abs := by rw [C05.abs_get_eq, hg]; rfl
  have hstep : Spec.step l.abs (.append q pos pls) =
      ((Log.step g l (.append q pos pls) tick order).1.abs, .appended (some last)) := by
    have h2 : (Spec.step l.abs (.append q pos pls)).2 = .appended (some last) := by
      rw [← hlog, hout]; rfl
    rw [habs, ← h2]
  obtain ⟨sq', p, h1, h2, _, h4, h5, _, _, _, h9, _⟩ :=
    spec_append_fresh _ _ q pos pls last mq.abs hstep hsg
  rw [C05.abs_get_eq] at h1
  obtain ⟨mq', hg', rfl⟩ := Option.map_eq_some_iff.mp h1
  exact ⟨mq', p, hg', h2, h4, h5, h9⟩

/-- a queue emptied by `truncate` keeps its next position (specification) -/
example :
    (Spec.step [([1], { next := 7, recs := [(5, [0]), (6, [1])] })] (.truncate [1] 6)).1.get? [1]
      = some { next := 7, recs := [] } := by decide

/-- … and a later append cannot reuse positions 5 or 6 -/
example :
    (Spec.run [([1], { next := 7, recs := [(5, [0]), (6, [1])] })]
      [.truncate [1] 6, .append [1] (some 5) [[2]], .append [1] none [[3]]]).get? [1]
      = some { next := 8, recs := [(7, [3])] } := by decide

/-- the same on the model, for every geometry -/
example (g : Geom) :
    nextOf C05.exLog [1] = some 6 ∧
    nextOf (Log.step g C05.exLog (.truncate [1] 5) false []).1 [1] = some 6 ∧
    ((Log.step g C05.exLog (.truncate [1] 5) false []).1.abs.get? [1]).map (·.recs) = some [] := by
  obtain ⟨habs, _, _⟩ := C05.C05_refines g C05.exLog C05.exLog_Inv (.truncate [1] 5) false []
  rw [nextOf_abs, nextOf_abs, habs]
  decide

end MRL.C04
