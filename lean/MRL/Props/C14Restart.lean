/-
C14, restart leg: the persist policy does not change the state after a clean restart. The same
calls under two policies and two clocks leave the same flushed disk (`C14_history_same_image`),
`recover` is a function of the disk, and it uses the policy it is given only to fill the `policy`
field of the log it returns.
-/
import MRL.Proofs.LegRestart
import MRL.Props.C14

namespace MRL.C14R
open C01R C14

/-- `Recovered` with another policy in its log -/
def withPolicyR (r : Recovered) (p : Policy) : Recovered := { r with log := withPolicy r.log p }

theorem recoverPre_policy (g : Geom) (img : Image) (p₁ p₂ : Policy) (fa : Option Nat) :
    recoverPre g img p₂ fa =
      match recoverPre g img p₁ fa with
      | .error e => .error e
      | .ok (l, e0, io) => .ok (withPolicy l p₂, e0, io) := by
  rw [Rec.recoverPre_eq g img p₁, Rec.recoverPre_eq g img p₂]
  rcases Rec.scanImage g (prepareImage g img).1 fa with _ | ⟨file0, evs, e, io⟩
  · rfl
  · simp only [Rec.finishPre]
    cases replay [] (assemble { within := false, buf := [], attr := file0 } evs) <;> rfl

/-- **`recover` depends on the policy only through the `policy` field of the returned log**:
    same success/failure, same effects, same I/O count, same files, cursor and queues. -/
theorem recover_policy_irrelevant (g : Geom) (img : Image) (p₁ p₂ : Policy) (order : List Bytes)
    (fa : Option Nat) :
    recover g img p₂ order fa =
      match recover g img p₁ order fa with
      | .error e => .error e
      | .ok r => .ok (withPolicyR r p₂) := by
  rw [Rec.recover_eq g img p₂, Rec.recover_eq g img p₁, recoverPre_policy g img p₁ p₂ fa]
  cases recoverPre g img p₁ fa with
  | error e => rfl
  | ok x =>
    obtain ⟨l, e0, io⟩ := x
    simp only [runGc_policy]
    split <;> rfl

/-- the disk a history leaves behind: drive the effects through the `BufWriter` from an empty
    buffer, then drop (flush) it -/
def diskAfter (cap : Nat) (img : Image) (es : List Effect) : Image :=
  flushDisk (applyOsOps img (toOsOps cap {} es).2) (toOsOps cap {} es).1

theorem diskAfter_eq (cap : Nat) (img : Image) (es : List Effect) :
    diskAfter cap img es = applyOsOps img (toOsOps cap {} (es ++ [.flush])).2 := by
  unfold diskAfter flushDisk G.flushDisk
  rw [Buf.toOsOps_append, Buf.applyOsOps_append]
  simp [toOsOps, bufStep]

/-- **C14 across a restart.** From the same disk and the same log up to the policy, the same
    calls under two policies and two clocks, then a clean restart: the two disks are the same, so
    the two restarts (with the same reopening policy) return literally the same result; with two
    different reopening policies, the same result up to the policy field. -/
theorem C14_restart (g : Geom) (cs : List (Call × List Bytes)) (l : Log) (p₁ p₂ : Policy)
    (ticks₁ ticks₂ : List Bool) (cap : Nat) (img : Image) (order : List Bytes) (fa : Option Nat) :
    let d₁ := diskAfter cap img (run g (withPolicy l p₁) cs ticks₁).2.2
    let d₂ := diskAfter cap img (run g (withPolicy l p₂) cs ticks₂).2.2
    d₁ = d₂ ∧
    (∀ p, recover g d₁ p order fa = recover g d₂ p order fa) ∧
    (∀ q₁ q₂, recover g d₂ q₂ order fa =
      match recover g d₁ q₁ order fa with
      | .error e => .error e
      | .ok r => .ok (withPolicyR r q₂)) := by
  intro d₁ d₂
  have hd : d₁ = d₂ := by
    simp only [d₁, d₂, diskAfter_eq]
    exact C14_history_same_image g cs l p₁ p₂ ticks₁ ticks₂ cap img
  refine ⟨hd, fun p => by rw [hd], fun q₁ q₂ => ?_⟩
  rw [hd]
  exact recover_policy_irrelevant g d₂ q₁ q₂ order fa

/-- non-vacuity: the two policies really produce different effect lists (C14's example) while
    the theorem above applies to them -/
example : let es₁ := (run C14.g16 (withPolicy C14.l0 .doNothing) [(.append [1] none [[7]], [])] [false]).2.2
    let es₂ := (run C14.g16 (withPolicy C14.l0 (.always .flushAndFsync)) [(.append [1] none [[7]], [])] [true]).2.2
    diskAfter 8 [(0, zeros 64)] es₁ = diskAfter 8 [(0, zeros 64)] es₂ :=
  (C14_restart C14.g16 [(.append [1] none [[7]], [])] C14.l0 .doNothing (.always .flushAndFsync)
    [false] [true] 8 [(0, zeros 64)] [] none).1

end MRL.C14R
