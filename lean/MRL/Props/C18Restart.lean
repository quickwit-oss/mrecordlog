/-
C18, restart leg: a restart does not mix queues. From C01 (end to end) the abstract content of
every queue is the same before and after a restart, so the projection theorem of C18 — what
happens to `q` depends only on the calls addressed to `q` — holds for histories that contain a
restart. Stated for one restart between two histories (iterate for more).
-/
import MRL.Proofs.LegRestart
import MRL.Props.C18
import MRL.Props.C08

namespace MRL.C18R
open C01R Restart C18

/-- **A restart keeps the view of every queue.** -/
theorem C18_restart_view (g : Geom) (hB : g.B ≤ 65542) (cap : Nat) (l : Log) (J : List JE) (img : Image)
    (b : BufSt) (h : ReachD g cap l J img b) (hfits : ∀ j ∈ J, C07.WF j.e) (policy : Policy)
    (order : List Bytes) (r : Recovered) (hr : recover g (flushDisk img b) policy order none = .ok r)
    (q : Bytes) : view r.log q = view l q := by
  rw [view_abs, view_abs]
  exact C01_obs g hB cap l J img b h hfits policy order r hr q

theorem reopens_view {g : Geom} {cap : Nat} (hB : g.B ≤ 65542) {s s' : Sys} (h : Reach g cap s) (hwf : WFJ s)
    {policy : Policy} {order : List Bytes} (hr : Reopens g cap s policy order s') (q : Bytes) :
    view s'.l q = view s.l q := by
  obtain ⟨lp, e0, io, r, _, hrec, rfl⟩ := hr
  exact C18_restart_view g hB cap s.l s.J s.img s.b h hwf policy order r hrec q

theorem reopens_inv {g : Geom} {cap : Nat} {s s' : Sys} {policy : Policy} {order : List Bytes}
    (hr : Reopens g cap s policy order s') : C05.Inv s'.l := by
  obtain ⟨lp, e0, io, r, _, hrec, rfl⟩ := hr
  exact C08.recover_sorted g _ policy order none r hrec

/-- **C18 across a restart.** Two systems (possibly different geometries, buffer capacities,
    policies, clocks, GC orders) agree on `q`. The first runs `cs₁`, restarts, runs `cs₁'`; the
    second runs only the calls of `cs₁` addressed to `q`, restarts, runs only the calls of `cs₁'`
    addressed to `q`. Then they agree on `q` at the end, and the calls addressed to `q` returned the
    same logical outcomes before and after the restart. -/
theorem C18_restart_projection (g₁ g₂ : Geom) (hB₁ : g₁.B ≤ 65542) (hB₂ : g₂.B ≤ 65542) (cap₁ cap₂ : Nat)
    (q : Bytes) {s₁ s₂ t₁ t₂ : Sys} (h₁ : Reach g₁ cap₁ s₁) (h₂ : Reach g₂ cap₂ s₂)
    (cs₁ cs₂ cs₁' cs₂' : List (Call × Bool × List Bytes))
    (hcs : cs₂.map (·.1) = (cs₁.map (·.1)).filter (addressed q))
    (hcs' : cs₂'.map (·.1) = (cs₁'.map (·.1)).filter (addressed q))
    (hq : view s₁.l q = view s₂.l q)
    (hwf₁ : WFJ (s₁.run g₁ cap₁ cs₁)) (hwf₂ : WFJ (s₂.run g₂ cap₂ cs₂))
    {p₁ p₂ : Policy} {o₁ o₂ : List Bytes}
    (hr₁ : Reopens g₁ cap₁ (s₁.run g₁ cap₁ cs₁) p₁ o₁ t₁)
    (hr₂ : Reopens g₂ cap₂ (s₂.run g₂ cap₂ cs₂) p₂ o₂ t₂) :
    view (t₁.run g₁ cap₁ cs₁').l q = view (t₂.run g₂ cap₂ cs₂').l q ∧
    (qOutcomes q (cs₁.map (·.1)) (C05.outcomes g₁ s₁.l cs₁)).map Outcome.logical =
      (C05.outcomes g₂ s₂.l cs₂).map Outcome.logical ∧
    (qOutcomes q (cs₁'.map (·.1)) (C05.outcomes g₁ t₁.l cs₁')).map Outcome.logical =
      (C05.outcomes g₂ t₂.l cs₂').map Outcome.logical := by
  have hI₁ := h₁.inv hB₁ (WFJ.of_run hwf₁)
  have hI₂ := h₂.inv hB₂ (WFJ.of_run hwf₂)
  obtain ⟨hv, ho⟩ := C18_model_projection g₁ g₂ s₁.l s₂.l hI₁ hI₂ q cs₁ cs₂ hcs hq
  rw [← run_log (cap := cap₁), ← run_log (cap := cap₂)] at hv
  have hv' : view t₁.l q = view t₂.l q := by
    rw [reopens_view hB₁ (h₁.run cs₁) hwf₁ hr₁, reopens_view hB₂ (h₂.run cs₂) hwf₂ hr₂]
    exact hv
  obtain ⟨hv2, ho2⟩ := C18_model_projection g₁ g₂ t₁.l t₂.l (reopens_inv hr₁) (reopens_inv hr₂) q cs₁' cs₂'
    hcs' hv'
  rw [← run_log (cap := cap₁), ← run_log (cap := cap₂)] at hv2
  exact ⟨hv2, ho, ho2⟩

/-- `Reopens` has a witness: after any history from any reachable state, if the journal is
    serialisable a restart exists, and it keeps the view of every queue -/
example (g : Geom) (hB : g.B ≤ 65542) (cap : Nat) (s : Sys) (h : Reach g cap s)
    (cs : List (Call × Bool × List Bytes)) (hwf : WFJ (s.run g cap cs)) (q : Bytes) :
    ∃ t, Reopens g cap (s.run g cap cs) .doNothing [] t ∧ view t.l q = view (s.run g cap cs).l q := by
  obtain ⟨t, ht⟩ := reopens_exists hB (h.run cs) hwf .doNothing []
  exact ⟨t, ht, reopens_view hB (h.run cs) hwf ht q⟩

end MRL.C18R
