/-
The journal-level companion of `C03_posix_dir_full` (`C03PosixDirAll.lean`): why files that a GC pass
collected do no harm when they reappear. Nothing downstream uses these lemmas; `C03PosixDirAll.lean` carries
the replay inside the invariant `L.CInvA` and does not go through `Collected`.

At an instant where unlinks of the last GC pass are not durable the image is `old ++ X`: `X` an
effect-boundary image of the ordered model, `old` the files `Fo … F-1` whose unlinks are undone.
`PDL.Collected Fo F Jold J q`: `J` is a journal whose entries lie in files `≥ F` and replays from `F` to
the abstract state of `q`; `Jold` are entries lying in older files (`< F`, collected by a GC pass);
replaying the WHOLE journal `Jold ++ J` from the older file `Fo ≤ F` — what a reader finds when files
`Fo … F-1` reappear in front of the tracked ones — succeeds too and gives the same abstract state
(`readd_agree`). This is the GC suffix lemma (`suffix_lemma`, `L.rep_at0`) read backwards. It holds right
after every GC pass for every prefix of the unlinks undone (`readd_gc`) and is kept by everything that can
happen before the next `fsync(dir)`: further entries (`readd_extend`, `readd_step`), a restart
(`readd_restart`: `J` replaced by its entries re-attributed by the reader).
-/
import MRL.Props.C03PosixDir

namespace MRL.PDL
open H

/-- re-adding the collected entries `Jold` (files `Fo … F-1`) in front of `J` changes nothing -/
structure Collected (Fo F : Nat) (Jold J : List JE) (q : MemQueues) : Prop where
  le : Fo ≤ F
  old : ∀ j ∈ Jold, j.loc < F
  new : ∀ j ∈ J, F ≤ j.loc
  full : ∃ qo, replayJ Fo [] (Jold ++ J) = some qo ∧ AbsEq qo q
  ret : ∃ qr, replayJ F [] J = some qr ∧ AbsEq qr q

theorem Collected.readd {Fo F : Nat} {Jold J : List JE} {q : MemQueues} (h : Collected Fo F Jold J q) :
    ∃ qo qr, replayJ Fo [] (Jold ++ J) = some qo ∧ replayJ F [] J = some qr ∧ AbsEq qo qr := by
  obtain ⟨qo, h1, h2⟩ := h.full
  obtain ⟨qr, h3, h4⟩ := h.ret
  exact ⟨qo, qr, h1, h3, h2.trans h4.symm⟩

end MRL.PDL

namespace MRL.C03PD
open Log C01J L PDL

/-- right after a GC pass, every prefix of its unlinks undone -/
theorem readd_gc (g : Geom) {l2 : Log} {J2 : List JE} (order : List Bytes) (hJ : JInv l2 J2) (Fo : Nat)
    (h1 : l2.files.headD 0 ≤ Fo) (h2 : Fo ≤ (runGc g l2 order).1.files.headD 0) :
    ∃ Jold J, J2 ++ gcJ g l2 order = Jold ++ J ∧
      Collected Fo ((runGc g l2 order).1.files.headD 0) (Jold.filter fun j => decide (Fo ≤ j.loc)) J l2.queues := by
  have hJ' := G.jinv_gc g order hJ
  obtain ⟨Jold, J, hsplit, ho, hn⟩ := MRL.split_loc ((runGc g l2 order).1.files.headD 0) _ hJ'.chunk.mono
  have hq : (runGc g l2 order).1.queues = l2.queues := Step.runGc_queues g l2 order
  obtain ⟨qr, hr1, hr2, _⟩ := hJ'.rep
  rw [hq] at hr2
  obtain ⟨qo, hf1, hf2, _⟩ := rep_at0 g order hJ Fo h1 h2
  refine ⟨Jold, J, hsplit, h2, ?_, hn, ⟨qo, ?_, H.AbsEq.of_qsEquiv hf2⟩, ⟨qr, ?_, H.AbsEq.of_qsEquiv hr2⟩⟩
  · intro j hj; exact ho j (List.mem_filter.mp hj).1
  · rw [hsplit, replayJ_filter] at hf1
    rw [replayJ_filter, List.filter_append]
    rw [List.filter_append] at hf1
    have : (List.filter (fun j => decide (Fo ≤ j.loc)) (Jold.filter fun j => decide (Fo ≤ j.loc))) =
        Jold.filter fun j => decide (Fo ≤ j.loc) := by
      rw [List.filter_filter]; simp
    rw [this]; exact hf1
  · rw [hsplit, replayJ_append, replayJ_skip _ [] Jold ho] at hr1
    exact hr1

/-- further entries (e.g. the GC touches of `open`) -/
theorem readd_extend {Fo F : Nat} {Jold J : List JE} {q : MemQueues} (h : Collected Fo F Jold J q)
    (Jn : List JE) (q' : MemQueues) (hn : ∀ j ∈ Jn, F ≤ j.loc)
    (hret : ∃ qr', replayJ F [] (J ++ Jn) = some qr' ∧ AbsEq qr' q') : Collected Fo F Jold (J ++ Jn) q' := by
  obtain ⟨qo, h1, h2⟩ := h.full
  obtain ⟨qr, h3, h4⟩ := h.ret
  obtain ⟨qr', h5, h6⟩ := hret
  refine ⟨h.le, h.old, ?_, ?_, ⟨qr', h5, h6⟩⟩
  · intro j hj
    rcases List.mem_append.mp hj with hj | hj
    · exact h.new j hj
    · exact hn j hj
  · rw [replayJ_append, h3] at h5
    simp only [Option.bind_some] at h5
    obtain ⟨qo', h7, h8⟩ := replayJ_abs Fo F Jn Jn qo qr qr' (All2.refl (R := fun a b : JE => a.e = b.e) (fun _ => rfl) Jn)
      (fun j hj => Nat.le_trans h.le (hn j hj)) hn (h4.trans h2.symm)
      (replayJ_wf Fo _ QsWF.nil h1) (replayJ_wf F _ QsWF.nil h3) h5
    refine ⟨qo', ?_, h8.symm.trans h6⟩
    rw [← List.append_assoc, replayJ_append, h1]
    exact h7

/-- one more call that does not collect files -/
theorem readd_step (g : Geom) {l : Log} {Jo Jr Jold : List JE} {Fo : Nat} (hJ : JInv l (Jo ++ Jr))
    (ho : ∀ j ∈ Jo, j.loc < l.files.headD 0)
    (h : Collected Fo (l.files.headD 0) Jold Jr l.queues) (c : Call) (tick : Bool) (order : List Bytes)
    (hhead : (l.step g c tick order).1.files.headD 0 = l.files.headD 0) :
    Collected Fo (l.files.headD 0) Jold (Jr ++ l.stepJ g c order) (l.step g c tick order).1.queues := by
  have hJ' := jinv_step g c tick order hJ
  obtain ⟨qs, hrep, heq, _⟩ := hJ'.rep
  rw [hhead, List.append_assoc, replayJ_append, replayJ_skip _ [] Jo ho] at hrep
  have hF : l.files.headD 0 ≤ l.cur := head_le_of_mem hJ.h.files.sorted hJ.h.files.cur_mem
  apply readd_extend h _ _ _ ⟨qs, hrep, H.AbsEq.of_qsEquiv heq⟩
  intro j hj
  have := (G.stepJ_chunk g l hJ.h c tick order).bounds j hj
  exact Nat.le_trans hF (Nat.le_trans this.1 this.2.1)

/-- a restart: the retained entries re-attributed -/
theorem readd_restart {Fo F : Nat} {Jold J J' : List JE} {q : MemQueues} (h : Collected Fo F Jold J q)
    (hrel : All2 (fun a b : JE => a.e = b.e) J' J) (hn : ∀ j ∈ J', F ≤ j.loc) : Collected Fo F Jold J' q := by
  obtain ⟨qo, h1, h2⟩ := h.full
  obtain ⟨qr, h3, h4⟩ := h.ret
  refine ⟨h.le, h.old, hn, ?_, ?_⟩
  · rw [replayJ_append] at h1
    cases hm : replayJ Fo [] Jold with
    | none => rw [hm] at h1; cases h1
    | some qm =>
      rw [hm] at h1
      simp only [Option.bind_some] at h1
      have hwm := replayJ_wf Fo _ QsWF.nil hm
      obtain ⟨qo', h5, h6⟩ := replayJ_abs Fo Fo J' J qm qm qo hrel
        (fun j hj => Nat.le_trans h.le (hn j hj)) (fun j hj => Nat.le_trans h.le (h.new j hj))
        (H.AbsEq.refl _) hwm hwm h1
      refine ⟨qo', ?_, h6.symm.trans h2⟩
      rw [replayJ_append, hm]
      exact h5
  · obtain ⟨qr', h5, h6⟩ := replayJ_abs F F J' J [] [] qr hrel hn h.new (H.AbsEq.refl _) QsWF.nil QsWF.nil h3
    exact ⟨qr', h5, h6.symm.trans h4⟩

/-- **re-adding the collected files changes nothing**: the whole journal replays from the old file
    to the same abstract state as the retained journal from the first tracked file -/
theorem readd_agree {Fo F : Nat} {Jold J : List JE} {q : MemQueues} (h : Collected Fo F Jold J q) :
    ∃ qo qr, replayJ Fo [] (Jold ++ J) = some qo ∧ replayJ F [] J = some qr ∧ AbsEq qo qr ∧ AbsEq qr q := by
  obtain ⟨qo, h1, h2⟩ := h.full
  obtain ⟨qr, h3, h4⟩ := h.ret
  exact ⟨qo, qr, h1, h3, h2.trans h4.symm, h4⟩

end MRL.C03PD
