/-
C02 (byte level) — a crash at ANY byte offset leaves a prefix of whole entries, and the log stays
fully usable.

Setting of C07: the entries `es` are written from in-block cursor `c` by the model writer
(`C07.writeEntriesBufs`); `bytes` is the byte stream produced. A crash after `k` bytes leaves the
image `stream k = zeros c ++ bytes.take k ++ zeros z` (the file is pre-sized and zero-filled; `z`
zeros complete it to whole blocks, at least one block and a header of them: `g.B + 7 ≤ z`).

`TornOK` is the "up to a CRC-32 collision" clause, and the ONLY assumption about `crc32`: for the
frames the writer wrote, a payload whose lost tail, replaced by zeros, differs from the payload
fails the frame's checksum.

* `C02_torn_tail`: for EVERY cut `k`, reading the image (the pipeline of `C07_roundtrip`)
  succeeds, and the entries delivered (`assemble`, corrupt events dropped) are `es.take j` with
  `j = m` or `j = m + 1`, `m = wholeCount … k` = number of entries entirely within the first `k`
  bytes; and `j = m + 1` only if the image is byte-for-byte the image of a later cut at which
  entry `m` is complete (its missing bytes were zeros anyway). Never a partial or altered entry:
  - cut in padding / at a frame boundary / between the frames of a multi-frame entry: the reader
    stops at a zero header; a `First…` without `Last` is never delivered;
  - cut inside a header: all-zero so far ⇒ clean end; otherwise the type byte is still zero ⇒
    `FrameType.ofCode 0 = none` ⇒ a corrupt event, the rest of the block is skipped;
  - cut inside a payload: intact header, the checksum fails (`TornOK`) ⇒ a corrupt event, the
    cursor resynchronises after the frame.
* `C02_resume`: let `e` be where that read stopped and `E = e.idx * g.B + e.cursor`. Overwriting
  the image from offset `E` on with the bytes the model writer produces for ANY further entries
  `es'` from in-block cursor `E % g.B` (then zeros to whole blocks, `7 ≤ z2`) gives a stream whose
  read-back from `c` delivers exactly `es.take j ++ es'`, and stops where the writer stopped.
  The torn remnant (a corrupt frame, or a torn header and the rest of its block) stays in the
  log for ever and never swallows or alters a later entry.

Proof machinery: MRL/Proofs/TornCount.lean, MRL/Proofs/TornCrash.lean (`Torn.crash_master`).
-/
import MRL.Proofs.TornCrash
import MRL.Props.C07
import MRL.Proofs.EvalTwin

namespace MRL.C02
open Consts Codec Torn

abbrev TornOK := Torn.TornOK

abbrev wholeCount := Torn.wholeCount

abbrev entriesOf := Torn.entriesOf

/-- **C02, both halves in one statement** (the crash read and the resumed read share `j`, `e`).
    `g.B + 7 ≤ z`: zeros for the rest of the torn block, then one zero header for the reader to stop at. -/
theorem C02_crash (g : Geom) (hB : g.B ≤ 65542) (c : Nat) (hc : c < g.B) (es : List Bytes) (file : Nat)
    (hT : TornOK g c hc es) (k z : Nat)
    (hk : k ≤ (C07.writeEntriesBufs g c hc es).flatten.length) (hz : g.B + 7 ≤ z) :
    let bytes := (C07.writeEntriesBufs g c hc es).flatten
    let stream := zeros c ++ bytes.take k ++ zeros z
    let m := wholeCount g c hc es k
    stream.length % g.B = 0 →
    ∃ b0 rest evs e io j,
      fileBlocks g file stream 1 0 (stream.length / g.B) = b0 :: rest ∧
      scanBlocks g none 1 0 b0 c rest = some (evs, e, io) ∧
      entriesOf (assemble { within := false, buf := [], attr := file } evs) = (es.take j).map (RecEv.entry file) ∧
      (j = m ∨ j = m + 1) ∧
      (j = m + 1 → ∃ d, bytes.take (k + d) = bytes.take k ++ zeros d ∧ wholeCount g c hc es (k + d) = m + 1) ∧
      e.file = file ∧ (e.idx * g.B + e.cursor) % g.B + 7 ≤ g.B ∧
      ∀ (es' : List Bytes) (z2 : Nat), 7 ≤ z2 →
        let E := e.idx * g.B + e.cursor
        let bufs' := C07.writeEntriesBufs g (E % g.B) (Nat.mod_lt _ (Bpos g)) es'
        let stream2 := stream.take E ++ bufs'.flatten ++ zeros z2
        stream2.length % g.B = 0 →
        ∃ b0' rest' evs2 e2 io2,
          fileBlocks g file stream2 1 0 (stream2.length / g.B) = b0' :: rest' ∧
          scanBlocks g none 1 0 b0' c rest' = some (evs2, e2, io2) ∧
          entriesOf (assemble { within := false, buf := [], attr := file } evs2) =
            (es.take j ++ es').map (RecEv.entry file) ∧
          e2.file = file ∧
          e2.idx * g.B + e2.cursor = finalPos g (E + totalLen bufs') := by
  intro bytes stream m hmod
  have hassoc : stream = zeros c ++ (bytes.take k ++ zeros z) := List.append_assoc _ _ _
  obtain ⟨n, hn⟩ := whole_blocks g stream hmod (pos_of_zeros _ (Nat.lt_of_lt_of_le (Nat.succ_pos _) hz))
  have hlen : (zeros c ++ ((C07.writeEntriesBufs g c hc es).flatten.take k ++ zeros z)).length = (n + 1) * g.B := by
    rw [← hassoc]; exact hn
  obtain ⟨j, E, hj, hj1, ⟨evs, e, hr, hf, hE, hent⟩, hgood, hres⟩ :=
    crash_master g hB file c hc es hT k z n hz hk hlen
  obtain ⟨b0, rest, io, hfb, hsb⟩ := pipeline g file _ c n hlen
  rw [hr] at hsb
  subst hE
  refine ⟨b0, rest, evs, e, io, j, by rw [hassoc]; exact hfb, hsb, hent, hj, hj1,
    hf, hgood, ?_⟩
  intro es' z2 hz2 E' bufs' stream2 hmod2
  have hassoc2 : stream2 = stream.take E' ++ (bufs'.flatten ++ zeros z2) := List.append_assoc _ _ _
  obtain ⟨n2, hn2⟩ := whole_blocks g stream2 hmod2 (pos_of_zeros _ (Nat.lt_of_lt_of_le (by decide) hz2))
  rw [hassoc2, hassoc] at hn2
  obtain ⟨evs2, e2, r1, r2, r3, r4⟩ := hres es' z2 n2 hz2 hn2
  obtain ⟨b0', rest', io2, hfb2, hsb2⟩ := pipeline g file _ c n2 hn2
  rw [r1] at hsb2
  refine ⟨b0', rest', evs2, e2, io2, ?_, hsb2, r3, r2, r4⟩
  rw [hassoc2, hassoc]; exact hfb2

/-- Every cut leaves a prefix of whole entries, never a partial or altered one. -/
theorem C02_torn_tail (g : Geom) (hB : g.B ≤ 65542) (c : Nat) (hc : c < g.B) (es : List Bytes) (file : Nat)
    (hT : TornOK g c hc es) (k z : Nat)
    (hk : k ≤ (C07.writeEntriesBufs g c hc es).flatten.length) (hz : g.B + 7 ≤ z) :
    let bytes := (C07.writeEntriesBufs g c hc es).flatten
    let stream := zeros c ++ bytes.take k ++ zeros z
    let m := wholeCount g c hc es k
    stream.length % g.B = 0 →
    ∃ b0 rest evs e io j,
      fileBlocks g file stream 1 0 (stream.length / g.B) = b0 :: rest ∧
      scanBlocks g none 1 0 b0 c rest = some (evs, e, io) ∧
      entriesOf (assemble { within := false, buf := [], attr := file } evs) = (es.take j).map (RecEv.entry file) ∧
      (j = m ∨ j = m + 1) ∧
      (j = m + 1 → ∃ d, bytes.take (k + d) = bytes.take k ++ zeros d ∧ wholeCount g c hc es (k + d) = m + 1) ∧
      e.file = file := by
  intro bytes stream m hmod
  obtain ⟨b0, rest, evs, e, io, j, h1, h2, h3, h4, h5, h6, _⟩ := C02_crash g hB c hc es file hT k z hk hz hmod
  exact ⟨b0, rest, evs, e, io, j, h1, h2, h3, h4, h5, h6⟩

/-- The crash read of `C02_torn_tail` (it fixes `j` and the end position `e`),
    and the read-back after the writer resumed at `e` with any further entries `es'`. -/
theorem C02_resume (g : Geom) (hB : g.B ≤ 65542) (c : Nat) (hc : c < g.B) (es : List Bytes) (file : Nat)
    (hT : TornOK g c hc es) (k z : Nat)
    (hk : k ≤ (C07.writeEntriesBufs g c hc es).flatten.length) (hz : g.B + 7 ≤ z) :
    let bytes := (C07.writeEntriesBufs g c hc es).flatten
    let stream := zeros c ++ bytes.take k ++ zeros z
    let m := wholeCount g c hc es k
    stream.length % g.B = 0 →
    ∃ b0 rest evs e io j,
      fileBlocks g file stream 1 0 (stream.length / g.B) = b0 :: rest ∧
      scanBlocks g none 1 0 b0 c rest = some (evs, e, io) ∧
      entriesOf (assemble { within := false, buf := [], attr := file } evs) = (es.take j).map (RecEv.entry file) ∧
      (j = m ∨ j = m + 1) ∧
      (e.idx * g.B + e.cursor) % g.B + 7 ≤ g.B ∧
      ∀ (es' : List Bytes) (z2 : Nat), 7 ≤ z2 →
        let E := e.idx * g.B + e.cursor
        let bufs' := C07.writeEntriesBufs g (E % g.B) (Nat.mod_lt _ (Bpos g)) es'
        let stream2 := stream.take E ++ bufs'.flatten ++ zeros z2
        stream2.length % g.B = 0 →
        ∃ b0' rest' evs2 e2 io2,
          fileBlocks g file stream2 1 0 (stream2.length / g.B) = b0' :: rest' ∧
          scanBlocks g none 1 0 b0' c rest' = some (evs2, e2, io2) ∧
          entriesOf (assemble { within := false, buf := [], attr := file } evs2) =
            (es.take j ++ es').map (RecEv.entry file) ∧
          e2.file = file ∧
          e2.idx * g.B + e2.cursor = finalPos g (E + totalLen bufs') := by
  intro bytes stream m hmod
  obtain ⟨b0, rest, evs, e, io, j, h1, h2, h3, h4, _, _, h7, h8⟩ := C02_crash g hB c hc es file hT k z hk hz hmod
  exact ⟨b0, rest, evs, e, io, j, h1, h2, h3, h4, h7, h8⟩

/-! ### non-vacuity on `g.B = 16`

Two entries from cursor 0: `[1, 2]` (one Full frame, bytes 0..9; exactly 7 bytes are then left in
block 0) and a 12-byte entry: an EMPTY First frame (9..16), a Middle frame filling block 1
(16..32), a Last frame (32..42). Cuts: (i) `k = 12`, inside the header of the First frame;
(ii) `k = 8`, inside the payload of the Full frame; (iii) `k = 32`, between Middle and Last. -/

def g16 : Geom := ⟨16, 2, by decide, by decide⟩

def exEs : List Bytes := [[1, 2], [3, 0, 0, 0, 0, 0, 0, 0, 0, 0, 0, 4]]

theorem exBufs : C07.writeEntriesBufs g16 0 (by decide) exEs =
    [encodeFrame .full [1, 2], encodeFrame .first [], encodeFrame .middle [3, 0, 0, 0, 0, 0, 0, 0, 0],
     encodeFrame .last [0, 0, 4]] := by
  rw [C07.writeEntries_twin]; simp only [Twin.encodeFrame_eq]; decide +kernel

/-- `H.TornFrame`, computed: every proper zero-filled prefix of the payload that differs from it has
    another checksum -/
def tornFrameB (t : FrameType) (p : Bytes) : Bool :=
  (List.range p.length).all fun i =>
    p.take i ++ zeros (p.length - i) == p ||
      Twin.crc32N (t.code.toUInt8 :: (p.take i ++ zeros (p.length - i))) != Twin.crc32N (t.code.toUInt8 :: p)

/-- the same for whatever frame a buffer holds: its type is byte 6, its payload what follows the header
    (a buffer shorter than a header is padding) -/
def tornWriteB (d : Bytes) : Bool :=
  decide (d.length < 7) ||
    match FrameType.ofCode (d.getD 6 0).toNat with
    | some t => tornFrameB t (d.drop 7)
    | none => false

/-- finite check of the collision clause for the frames among a list of buffers -/
theorem tornBufs_check (bufs : List Bytes) (h : bufs.all tornWriteB = true) (t : FrameType) (p : Bytes)
    (hmem : encodeFrame t p ∈ bufs) : ∀ i, i < p.length → p.take i ++ zeros (p.length - i) ≠ p →
      frameCrc t (p.take i ++ zeros (p.length - i)) ≠ frameCrc t p := by
  have := List.all_eq_true.mp h _ hmem
  have e7 : (encodeFrame t p).drop 7 = p := by
    simp [encodeFrame, List.drop_left' (length_encodeHeader _ _)]
  have e6 : (encodeFrame t p).getD 6 0 = t.code.toUInt8 := by
    rw [← encodeHeader_getD6 t p, encodeFrame, List.getD_eq_getElem?_getD, List.getD_eq_getElem?_getD,
      List.getElem?_append_left (by rw [length_encodeHeader]; decide)]
  simp only [tornWriteB, Bool.or_eq_true, decide_eq_true_eq, e6, ofCode_code, e7] at this
  rcases this with hlt | hm
  · rw [length_encodeFrame] at hlt; omega
  · intro i hi hne
    have := List.all_eq_true.mp hm i (List.mem_range.mpr hi)
    rw [Twin.frameCrc_eq, Twin.frameCrc_eq]
    simpa [hne] using this

theorem exTornOK : TornOK g16 0 (by decide) exEs := by
  intro t p hmem
  rw [exBufs] at hmem
  refine tornBufs_check _ ?_ t p hmem
  simp only [Twin.encodeFrame_eq]; decide +kernel

theorem exLen : (C07.writeEntriesBufs g16 0 (by decide) exEs).flatten.length = 42 := by
  rw [exBufs]; simp [length_encodeFrame]

/-- `C02_torn_tail` on the example, for any cut and any admissible zero tail: every hypothesis
    (including the collision clause) is discharged -/
theorem exCut (k z : Nat) (hk : k ≤ 42) (hz : 23 ≤ z) (hmod : (k + z) % 16 = 0) :
    ∃ b0 rest evs e io j,
      fileBlocks g16 5 (zeros 0 ++ (C07.writeEntriesBufs g16 0 (by decide) exEs).flatten.take k ++ zeros z) 1 0
        ((zeros 0 ++ (C07.writeEntriesBufs g16 0 (by decide) exEs).flatten.take k ++ zeros z).length / 16)
        = b0 :: rest ∧
      scanBlocks g16 none 1 0 b0 0 rest = some (evs, e, io) ∧
      entriesOf (assemble { within := false, buf := [], attr := 5 } evs) = (exEs.take j).map (RecEv.entry 5) ∧
      (j = wholeCount g16 0 (by decide) exEs k ∨ j = wholeCount g16 0 (by decide) exEs k + 1) := by
  have hlen : (zeros 0 ++ (C07.writeEntriesBufs g16 0 (by decide) exEs).flatten.take k ++ zeros z).length % g16.B = 0 := by
    simp only [List.length_append, length_zeros, List.length_take, exLen, Nat.min_eq_left hk, Nat.zero_add]
    exact hmod
  obtain ⟨b0, rest, evs, e, io, j, h1, h2, h3, h4, _⟩ :=
    C02_torn_tail g16 (by decide) 0 (by decide) exEs 5 exTornOK k z (by rw [exLen]; exact hk) hz hlen
  exact ⟨b0, rest, evs, e, io, j, h1, h2, h3, h4⟩

theorem exWhole :
    wholeCount g16 0 (by decide) exEs 12 = 1 ∧ wholeCount g16 0 (by decide) exEs 8 = 0 ∧
    wholeCount g16 0 (by decide) exEs 32 = 1 ∧ wholeCount g16 0 (by decide) exEs 42 = 2 := by
  simp [wholeCount, Torn.wholeCount, exEs, writeEntry, writeEntryBufs, C07.cursorAfter, g16, maxFrameLen,
    frameWrites, frameEndCursor, adv, HEADER_LEN, FrameType.ofFlags, length_encodeFrame]

/-- (i) cut inside the header of the empty First frame (`k = 12`, `m = 1`): the executable model
    gives `[entry 5 [1, 2], corrupt]`, end `{idx := 1, cursor := 0}` -/
example := exCut 12 36 (by decide) (by decide) (by decide)
/-- (ii) cut inside the payload of the Full frame (`k = 8`, `m = 0`): `[corrupt]`, end
    `{idx := 0, cursor := 9}` (the corrupt frame stays; the writer resumes after it) -/
example := exCut 8 24 (by decide) (by decide) (by decide)
/-- (iii) cut between the Middle and the Last frame (`k = 32`, `m = 1`): `[entry 5 [1, 2]]`, end
    `{idx := 2, cursor := 0}` -/
example := exCut 32 32 (by decide) (by decide) (by decide)

/-- the resume half on the example (cut `k = 12`): all hypotheses discharged; running the
    executable model with `es' = [[7, 7]]` written at `E = 16` gives
    `[entry 5 [1, 2], corrupt, entry 5 [7, 7]]` -/
example := C02_resume g16 (by decide) 0 (by decide) exEs 5 exTornOK 12 36 (by rw [exLen]; decide) (by decide)
  (by simp only [List.length_append, length_zeros, List.length_take, exLen]; decide)

/-- the hypothesis on `z2` of the resume half is always satisfiable -/
theorem resume_nonvacuous (g : Geom) (A X : Bytes) : ∃ z2, 7 ≤ z2 ∧ (A ++ X ++ zeros z2).length % g.B = 0 :=
  Torn.pad_blocks g A X

end MRL.C02
