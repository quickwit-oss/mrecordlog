/-
C10R: `open` and the calls never overflow on directories the library itself wrote from fitting
calls — with restarts and crashes at any point, any number of times (`C07F.ReachXF`).

`C10.recover_no_panic` needs `NoMax (deliveredEvents …)`: every entry the reader delivers carries
positions below `u64::MAX`. Here that hypothesis is DISCHARGED for every image `open` is run on along
a `ReachXF` history — the flushed disk at a restart, the crash image of any call cut at any byte,
the crash image of `open`'s own effects — from `CallFits` + positions below `P` on the calls:

on a disk satisfying the relaxed disk invariant `L.DiskX g X F J` the entries the reader delivers are
exactly (encodings of) retained entries of the journal `J` (`delivered_diskX`), and the invariant is
carried for journals of entries that serialise with positions below `u64::MAX` (`C07F.EntryFits`). So
the panic twins agree — `Log.stepP = .ok Log.step`, `recoverP = .ok recover` — and the read accessors
of the recovered log do not overflow.

What remains a hypothesis HERE is the FILE-NUMBER room (`Props/C10FileNumbers.lean` discharges it from a
counter of roll-overs carried along the history), in the form of `C10.recover_no_panic_img` /
`C05B.stepP_agrees_cur` (file numbers do not depend on positions): finding F4 (a position or truncate
bound of 2^64-1, excluded by `CallBelow P` with `P + n < u64::MAX`) and a WAL file numbered near
2^64 are the only ways the checked build panics on a directory the library wrote.
-/
import MRL.Props.C07Fits
import MRL.Props.C10Reach
import MRL.Proofs.LProvReach

namespace MRL.C10R
open Codec Consts G H Log Buf Torn L

theorem delivered_diskX (g : Geom) (hB : g.B ≤ 65542) {X : Image} {F : Nat} {J : List JE}
    (hd : DiskX g X F J) :
    ∃ J' : List JE, entriesOf (deliveredEvents g X none) = entriesEv J' ∧ ∀ j ∈ J', ∃ j0 ∈ J, j.e = j0.e := by
  obtain ⟨cs, x, ais, res, z0, z1, ht, hX, lead, gs, hais, hlead, hmap, hok⟩ := hd
  obtain ⟨evT, e, ke, ce, zz, hscan, hevT, _⟩ := scan_diskX g hB ht
  obtain ⟨hne, hfull, hflat, hlast, hfits, htag, hjok, hresok⟩ := ht
  obtain ⟨st', g2, g3, g4, g5⟩ := asm_segs_reattr g F ais htag lead gs hais hlead hok evT
  generalize outG F gs = R at g4 g5
  have htailR : entriesOf (assemble st' evT) = [] := by
    rcases hevT with h | ⟨f, h⟩
    · subst h; rfl
    · subst h; rfl
  -- the blocks `open` reads are those of the tape
  obtain ⟨m, trail, io', _, hprep, hbo, hio⟩ := blocks_disk g F cs hne hfull x (F + cs.length)
  rw [← hX] at hprep hbo
  rw [hscan] at hio
  have hb0 : (blkAt g F cs.flatten 0).file = F := by simp [blkAt]
  have hdel : deliveredEvents g X none =
      assemble { within := false, buf := [], attr := F } (evsJ ais ++ evT) := by
    unfold deliveredEvents
    simp only [hbo, ioFails, Bool.false_eq_true, if_false, hb0]
    rw [Rec.scanPrefix_of_some g none trail _ _ _ _ _ _ _ hio]
  refine ⟨(liveOf (reattr F gs)).map (·.1), ?_, ?_⟩
  · rw [hdel, g4, entriesOf_append, g5, htailR, List.append_nil]
  · intro j hj
    obtain ⟨b, hb, h1, _⟩ := g3.mem_left j hj
    exact ⟨b, (List.mem_filter.mp (hmap ▸ hb)).1, h1⟩

open C07F LP

/-- `WFP NM` is `C07F.EntryFits` -/
abbrev NM := C10.NoMaxEntry

theorem noMax_of_diskX (g : Geom) (hB : g.B ≤ 65542) {X : Image} {F : Nat} {J : List JE}
    (hd : DiskX g X F J) (hw : ∀ j ∈ J, WFP NM j.e) : C10.NoMax (deliveredEvents g X none) := by
  obtain ⟨J', h1, h2⟩ := delivered_diskX g hB hd
  intro file bytes e hm hdec
  have hm' : RecEv.entry file bytes ∈ entriesOf (deliveredEvents g X none) := by
    unfold entriesOf
    exact List.mem_filter.mpr ⟨hm, rfl⟩
  rw [h1] at hm'
  unfold entriesEv at hm'
  obtain ⟨j, hj, he⟩ := List.mem_map.mp hm'
  obtain ⟨j0, hj0, hje⟩ := h2 j hj
  simp only [RecEv.entry.injEq] at he
  have hwf := hw j0 hj0
  have : Entry.decode bytes = some j0.e := by
    rw [← he.2, hje]; exact C07.decode_encode _ hwf.1
  rw [this] at hdec
  cases hdec
  exact hwf.2

theorem noMax_of_cinvx (g : Geom) (hB : g.B ≤ 65542) {X : Image} {l : Log} {J : List JE}
    (hc : L.CInvX g l J X) (hw : ∀ j ∈ J, WFP NM j.e) : C10.NoMax (deliveredEvents g X none) :=
  noMax_of_diskX g hB hc.diskX hw

theorem noMax_of_xinvres (g : Geom) (hB : g.B ≤ 65542) {qB qA : MemQueues} {X : Image}
    (h : XInvResP g NM qB qA X) : C10.NoMax (deliveredEvents g X none) := by
  obtain ⟨J', lp, io, F', _, _, hc, hw, _, _⟩ := h .doNothing
  exact noMax_of_cinvx g hB hc hw

/-- `nroom`: the room the file numbers leave for the roll-overs of the GC pass of `open`; `clipImage`
    is the identity on such an image -/
theorem open_agrees (g : Geom) (X : Image) (policy : Policy) (order : List Bytes) (nroom : Nat)
    (hnm : C10.NoMax (deliveredEvents g X none)) (hno : C10A.NoOversize g X)
    (hfiles : ∀ f ∈ X.map (·.1), f + nroom ≤ U64MAX) (hn : nroom ≤ U64MAX)
    (hcount : ∀ lp e0 io, recoverPre g X policy none = .ok (lp, e0, io) → gcBufCount g lp order ≤ nroom) :
    clipImage g X = X ∧
    recoverP g (clipImage g X) policy order none = .ok (recover g X policy order none) ∧
    recoverC g X policy order none = recover g X policy order none ∧
    ∀ r, recover g X policy order none = .ok r → accessorsPanic r.log.queues = false := by
  have hid := C10V.clipImage_id g X hno
  obtain ⟨h1, h2⟩ := C10.recover_no_panic_img g X policy order none nroom hnm hfiles hn hcount
  refine ⟨hid, ?_, C10V.recoverC_eq_recover g X policy order none hno, h2⟩
  rw [hid]
  cases hr : recoverP g X policy order none with
  | error u => exact absurd hr h1
  | ok x => rw [C10.recoverP_agrees g X policy order none x hr]

section
variable (g : Geom) (hB : g.B ≤ 65542) (cap P : Nat) (hP : P < U64MAX)
include hB hP

/-- **(a) every call of a `ReachXF` history**: the panic twin of the call agrees with `Log.step`
    (the file hypothesis is the exact one of `C05B.stepP_agrees_cur`) -/
theorem call_no_panic {n : Nat} {l : Log} {img : Image} {b : BufSt} (h : ReachXF g cap P n l img b)
    (c : Call) (tick : Bool) (order : List Bytes) (hcb : C05B.CallBelow P c)
    (hK : P + n + C05B.callRecs c < U64MAX) (hcur : (l.step g c tick order).1.cur ≤ U64MAX) :
    l.stepP g c tick order = .ok (l.step g c tick order) := by
  obtain ⟨_, hfit, _⟩ := reachXF_inv g hB cap P hP h
  exact C05B.stepP_agrees_cur g l c tick order (P + n) hfit.pos (by omega) (hcb.callOK (Nat.le_add_right _ _) hK) hcur

/-- **(b) the `open` of whatever a process on a `ReachXF` state leaves behind** (`L.Stop`, the entries in
    flight fitting), `open_agrees` on an image the crash analysis describes: (b₁)–(b₃) are its three cases -/
theorem stop_open_no_panic {n : Nat} {l lA : Log} {img X : Image} {b : BufSt} (h : ReachXF g cap P n l img b)
    (hs : Stop g cap EntryFits l img b lA X) (policy : Policy) (order : List Bytes) (nroom : Nat)
    (hfiles : ∀ f ∈ X.map (·.1), f + nroom ≤ U64MAX) (hn : nroom ≤ U64MAX)
    (hcount : ∀ lp e0 io, recoverPre g X policy none = .ok (lp, e0, io) → gcBufCount g lp order ≤ nroom) :
    C10.NoMax (deliveredEvents g X none) ∧ clipImage g X = X ∧
    recoverP g (clipImage g X) policy order none = .ok (recover g X policy order none) ∧
    ∀ r, recover g X policy order none = .ok r → accessorsPanic r.log.queues = false :=
  have hres : XInvResP g NM l.queues lA.queues X := carryF.stop g cap hB (reachXF_all g hB cap P hP h).2.1 hs
  have hnm := noMax_of_xinvres g hB hres
  have ⟨a1, a2, _, a4⟩ := open_agrees g X policy order nroom hnm (C10V.noOversize_of_xinvres hres.toX) hfiles hn hcount
  ⟨hnm, a1, a2, a4⟩

/-- **(b₁) every clean restart of a `ReachXF` state** -/
theorem reopen_no_panic {n : Nat} {l : Log} {img : Image} {b : BufSt} (h : ReachXF g cap P n l img b)
    (policy : Policy) (order : List Bytes) (nroom : Nat)
    (hfiles : ∀ f ∈ (C02U.flushDisk img b).map (·.1), f + nroom ≤ U64MAX) (hn : nroom ≤ U64MAX)
    (hcount : ∀ lp e0 io, recoverPre g (C02U.flushDisk img b) policy none = .ok (lp, e0, io) →
      gcBufCount g lp order ≤ nroom) :
    C10.NoMax (deliveredEvents g (C02U.flushDisk img b) none) ∧
    clipImage g (C02U.flushDisk img b) = C02U.flushDisk img b ∧
    recoverP g (clipImage g (C02U.flushDisk img b)) policy order none =
      .ok (recover g (C02U.flushDisk img b) policy order none) ∧
    ∀ r, recover g (C02U.flushDisk img b) policy order none = .ok r → accessorsPanic r.log.queues = false :=
  stop_open_no_panic g hB cap P hP h .clean policy order nroom hfiles hn hcount

/-- **(b₂) the `open` that follows a crash at ANY point of a fitting call** -/
theorem crash_open_no_panic {n : Nat} {l : Log} {img : Image} {b : BufSt} (h : ReachXF g cap P n l img b)
    (hb : b.pend = []) (c : Call) (tick : Bool) (order : List Bytes) (hcf : CallFits c)
    (hcb : C05B.CallBelow P c) (hK : P + n + C05B.callRecs c < U64MAX)
    (htorn : C02A.TornStep g l c tick order) (k cut : Nat) (policy' : Policy) (order' : List Bytes)
    (nroom : Nat)
    (hfiles : ∀ f ∈ (crashImage img (toOsOps cap b (l.step g c tick order).2.2).2 k cut).map (·.1),
      f + nroom ≤ U64MAX) (hn : nroom ≤ U64MAX)
    (hcount : ∀ lp e0 io, recoverPre g (crashImage img (toOsOps cap b (l.step g c tick order).2.2).2 k cut)
      policy' none = .ok (lp, e0, io) → gcBufCount g lp order' ≤ nroom) :
    let X := crashImage img (toOsOps cap b (l.step g c tick order).2.2).2 k cut
    C10.NoMax (deliveredEvents g X none) ∧ clipImage g X = X ∧
    recoverP g (clipImage g X) policy' order' none = .ok (recover g X policy' order' none) ∧
    ∀ r, recover g X policy' order' none = .ok r → accessorsPanic r.log.queues = false := by
  intro X
  have hsw := ((reachXF_all g hB cap P hP h).2.2.1.step g c tick order P (Nat.le_add_right _ _) hcf hcb hK).1
  exact stop_open_no_panic g hB cap P hP h (.call c tick order k cut hb hsw htorn) policy' order' nroom hfiles hn hcount

/-- **(b₃) the `open` that follows a crash at ANY point of `open` itself** -/
theorem crash2_open_no_panic {n : Nat} {l : Log} {img : Image} {b : BufSt} (h : ReachXF g cap P n l img b)
    (policy : Policy) (order : List Bytes) (lp0 : Log) (e00 : List Effect) (io0 : Nat) (r0 : Recovered)
    (hpre0 : recoverPre g (C02U.flushDisk img b) policy none = .ok (lp0, e00, io0))
    (hrec0 : recover g (C02U.flushDisk img b) policy order none = .ok r0)
    (htorn : H.TornEffs r0.effects) (k cut : Nat) (policy' : Policy) (order' : List Bytes) (nroom : Nat)
    (hfiles : ∀ f ∈ (crashImage (C02U.flushDisk img b) (toOsOps cap {} r0.effects).2 k cut).map (·.1),
      f + nroom ≤ U64MAX) (hn : nroom ≤ U64MAX)
    (hcount : ∀ lp e0 io, recoverPre g (crashImage (C02U.flushDisk img b) (toOsOps cap {} r0.effects).2 k cut)
      policy' none = .ok (lp, e0, io) → gcBufCount g lp order' ≤ nroom) :
    let X := crashImage (C02U.flushDisk img b) (toOsOps cap {} r0.effects).2 k cut
    C10.NoMax (deliveredEvents g X none) ∧ clipImage g X = X ∧
    recoverP g (clipImage g X) policy' order' none = .ok (recover g X policy' order' none) ∧
    ∀ r, recover g X policy' order' none = .ok r → accessorsPanic r.log.queues = false := by
  intro X
  obtain ⟨_, hinv, hfit, hlt⟩ := reachXF_all g hB cap P hP h
  have hgw0 := (Fit.recovered g cap (carryF.stop g cap hB hinv .clean) hfit hfit hlt policy order lp0 e00 io0 r0 hpre0
    hrec0).1
  exact stop_open_no_panic g hB cap P hP h (.opened policy order lp0 e00 io0 r0 k cut hpre0 hrec0 hgw0 htorn) policy'
    order' nroom hfiles hn hcount

end

end MRL.C10R
