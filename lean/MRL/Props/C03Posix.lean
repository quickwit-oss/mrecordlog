/-
C03 under POSIX-style power loss: what the API promised to be on stable storage survives a power loss
that keeps only what `fsync` made durable.

MODEL (`MRL/Model/PowerLoss.lean`, executable). `toOsOpsP` is the `BufWriter` model `toOsOps` with the two
kinds of `fsync` kept apart. `powerImage img ops` is what a power loss leaves after the refined operations
`ops` issued on the (durable) image `img`: a file survives iff its name was in the directory at the last
`syncDir` and it was not unlinked since (removals are taken from the volatile state, as the harness does;
a lazier directory is the subject of `C03PosixDir.lean`); its content is what it was at its last `syncFile`
(its initial content if never synced; zeros if created since and never synced), its length is the volatile
one. This is `power_loss_image` of `harness/src/real.rs` (`synced_end`, `dir_synced`, recipe
`drop`/`zero`), stated with content snapshots instead of "zero from the synced end" — the same thing for
the sequential writes into pre-sized files that the log issues.

`C03_posix`. From a `C01R.ReachD` state with an empty `BufWriter`, a run of calls under any policies. If the
effects of the first `m` calls end with `flush, fsync(file), fsync(dir)` — a call that promises stable
storage: `create`, `delete` (`forced_tail`), `persist FlushAndFsync` (`persist_tail`), any mutating call
under `Always(FlushAndFsync)` (`always_tail`) or a due `OnDelay(FlushAndFsync)` (`onDelay_tail`) — then a
power loss at EVERY later instant `k` (number of refined OS operations done) leaves a directory that opens
and yields, up to the file handles, the queues reached after `i` calls for some `m ≤ i`. Hypotheses as in
`C03_durable`. It is `C03PX.C03_posix_reachX` at a history without restarts, and rests on the discipline
`PX.pd`; `P.pd_effsD`, `P.power_prefix`, `P.op_boundaryP` say the same of the discipline of calls alone
and nothing uses them.

The initial image `img` is taken as durable. For the very first `open` of an empty directory the name
`wal-0` is not durable before the first call that fsyncs; a power loss before it leaves an EMPTY directory
(`powerImage_empty_no_syncDir`), which opens as the empty log — the state after 0 calls. A `syncFile` on a
file whose name is not durable does happen (roll-over, then `flush, fsync(file)` with the power lost
before `fsync(dir)`): the file is dropped, harmless.
-/
import MRL.Props.C03PosixX
import MRL.Props.C03Durable

namespace MRL.C03P
open K P

abbrev AbsEq := H.AbsEq

/-- the refined operations erase to the operations of the coarse model -/
theorem opsP_erase (g : Geom) (cap : Nat) (l : Log) (J : List JE) (b : BufSt)
    (cs : List (Call × Bool × List Bytes)) :
    (toOsOpsP cap b (effsD g l cs)).2.map OsOpP.erase = (runD g cap ⟨l, J, b, []⟩ cs).ops := by
  rw [runD_eq, toOsOpsP_erase cap _ b]; simp

/-- before the first `fsync` of the directory nothing created is durable: from an empty directory
    a power loss leaves an empty directory (which opens as the empty log) -/
theorem powerImage_empty_no_syncDir (ops : List OsOpP) (h : OsOpP.syncDir ∉ ops) : powerImage [] ops = [] := by
  have key : ∀ (ops : List OsOpP) (S : PState), OsOpP.syncDir ∉ ops → S.dirs = [] → (prun S ops).dirs = [] := by
    intro ops
    induction ops with
    | nil => intro S _ hS; exact hS
    | cons o ops ih =>
      intro S ho hS
      simp only [List.mem_cons, not_or] at ho
      apply ih _ ho.2
      cases o with
      | syncDir => exact absurd rfl ho.1
      | syncFile f => simp only [pstep]; split <;> exact hS
      | write f off d => exact hS
      | create f => exact hS
      | setLen f n => exact hS
      | ensureLen f n => exact hS
      | unlink f => exact hS
  unfold powerImage PState.image
  rw [key ops (PState.init []) h rfl]
  simp

/-- a `create`/`delete` that is not rejected -/
theorem forced_tail (g : Geom) (l : Log) (c : Call) (tick : Bool) (order : List Bytes)
    (hc : Step.isForced c = true) (hne : (l.step g c tick order).2.2 ≠ []) :
    ∃ pre f, (l.step g c tick order).2.2 = pre ++ [.flush, .fsyncFile f, .fsyncDir] :=
  C03D.forced_tail g l c tick order hc hne

/-- an explicit `persist FlushAndFsync` -/
theorem persist_tail (g : Geom) (l : Log) (tick : Bool) (order : List Bytes) :
    (l.step g (.persist .flushAndFsync) tick order).2.2 = [] ++ [.flush, .fsyncFile l.cur, .fsyncDir] := rfl

/-- a mutating call (it wrote something, it is no `persist`) under `Always(FlushAndFsync)` -/
theorem always_tail (g : Geom) (l : Log) (c : Call) (tick : Bool) (order : List Bytes)
    (hp : (l.step g c tick order).1.policy = .always .flushAndFsync)
    (hne : (l.step g c tick order).2.2 ≠ []) (hnp : ∀ a, c ≠ .persist a) :
    ∃ pre f, (l.step g c tick order).2.2 = pre ++ [.flush, .fsyncFile f, .fsyncDir] :=
  C03.step_triple_tail g l tick order c hnp hne ((C03.tailSync_always (tick := tick) _ c .flushAndFsync hp).elim id id)

/-- a mutating call under `OnDelay(FlushAndFsync)` when the delay has elapsed -/
theorem onDelay_tail (g : Geom) (l : Log) (c : Call) (order : List Bytes)
    (hp : (l.step g c true order).1.policy = .onDelay .flushAndFsync)
    (hne : (l.step g c true order).2.2 ≠ []) (hnp : ∀ a, c ≠ .persist a) :
    ∃ pre f, (l.step g c true order).2.2 = pre ++ [.flush, .fsyncFile f, .fsyncDir] :=
  C03.step_triple_tail g l true order c hnp hne ((C03.tailSync_onDelay _ c .flushAndFsync hp).elim id id)

theorem effsD_take_tail (g : Geom) (l : Log) (cs : List (Call × Bool × List Bytes)) (j : Nat)
    (c : Call) (tick : Bool) (order : List Bytes) (hj : cs[j]? = some (c, tick, order))
    (pre : List Effect) (f : Nat)
    (h : ((logD g l (cs.take j)).step g c tick order).2.2 = pre ++ [.flush, .fsyncFile f, .fsyncDir]) :
    effsD g l (cs.take (j + 1)) = (effsD g l (cs.take j) ++ pre) ++ [.flush, .fsyncFile f, .fsyncDir] := by
  rw [L.take_succ_get hj, C03D.effsD_append]
  simp only [effsD, List.append_nil]
  rw [h, List.append_assoc]

theorem C03_posix (g : Geom) (hB : g.B ≤ 65542) (cap : Nat) (l : Log) (J : List JE) (img : Image)
    (b : BufSt) (h : C01R.ReachD g cap l J img b) (hb : b.pend = [])
    (cs : List (Call × Bool × List Bytes))
    (hfits : ∀ j ∈ (runD g cap ⟨l, J, b, []⟩ cs).J, C07.WF j.e) (htorn : C03D.TornRun g l cs)
    (m : Nat) (hm : m ≤ cs.length) (pre : List Effect) (f : Nat)
    (htail : effsD g l (cs.take m) = pre ++ [.flush, .fsyncFile f, .fsyncDir])
    (k : Nat) (hk : (toOsOpsP cap b (effsD g l (cs.take m))).2.length ≤ k)
    (policy' : Policy) (order' : List Bytes) :
    ∃ rec i, m ≤ i ∧ i ≤ cs.length ∧
      recover g (powerImage img ((toOsOpsP cap b (effsD g l cs)).2.take k)) policy' order' none = .ok rec ∧
      AbsEq rec.log.queues (runD g cap ⟨l, J, b, []⟩ (cs.take i)).l.queues := by
  simp only [C03D.runD_hist g cap l J b img, C03D.evsOf_take] at hfits ⊢
  have hwfJ : ∀ j ∈ J, C07.WF j.e := fun j hj => hfits j (List.mem_append_left _ hj)
  have he := fun cs => (PX.calls_eq g cs l img).1
  obtain ⟨rec, i, h1, h2, h3, h4⟩ := C03PX.C03_posix_reachX g hB cap l img b (.base h hwfJ) hb (C03D.evsOf cs)
    (fun j hj => hfits j (List.mem_append_right _ hj)) (he cs ▸ htorn) m
    (by rw [C03D.evsOf, List.length_map]; exact hm) pre f (by rw [← C03D.evsOf_take]; exact (he _).trans htail) k
    (by rw [← C03D.evsOf_take]; exact (he _).symm ▸ hk) policy' order'
  exact ⟨rec, i, h1, by rw [C03D.evsOf, List.length_map] at h2; exact h2, by rw [← he cs]; exact h3, h4⟩

end MRL.C03P
