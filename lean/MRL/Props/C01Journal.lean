/-
C01 (journal layer) — at every reachable state, replaying only the journal entries located in
the WAL files still tracked reproduces the in-memory queues: no retained record or queue position
is lost to file deletion and no deleted queue reappears, after any number of roll-overs,
truncations, deletions, re-creations and GC passes.
-/
import MRL.Proofs.JInv

namespace MRL.C01J

inductive Reach (g : Geom) : Log → List JE → Prop
  | init (policy : Policy) :
      Reach g { files := [0], cur := 0, off := 0, queues := [], policy := policy } []
  | step {l : Log} {J : List JE} (c : Call) (tick : Bool) (order : List Bytes) :
      Reach g l J → Reach g (l.step g c tick order).1 (J ++ l.stepJ g c order)

theorem reach_jinv (g : Geom) {l : Log} {J : List JE} (h : Reach g l J) : JInv l J := by
  induction h with
  | init policy => exact jinv_init policy
  | step c tick order _ ih => exact jinv_step g c tick order ih

/-- **C01 (journal).** At every reachable state, replaying the journal entries located in the
    files still tracked (first tracked file `l.files.headD 0`) rebuilds queues observationally
    equal to the in-memory queues. -/
theorem C01_journal (g : Geom) (l : Log) (J : List JE) (h : Reach g l J) :
    ∃ qs, replayJ (l.files.headD 0) [] J = some qs ∧ QsEquiv qs l.queues := by
  obtain ⟨qs, h1, h2, _⟩ := (reach_jinv g h).rep
  exact ⟨qs, h1, h2⟩

/-- structural facts about reachable states, by-products of the proof -/
theorem reach_structure (g : Geom) (l : Log) (J : List JE) (h : Reach g l J) :
    l.files.Pairwise (· < ·) ∧ l.cur ∈ l.files ∧
    (∀ kv ∈ l.queues, ∀ r ∈ kv.2.recs, ∀ f, r.file = some f → f ∈ l.files) ∧
    J.Pairwise (fun a b => a.loc ≤ b.loc) ∧ (∀ j ∈ J, j.attr ≤ j.loc ∧ j.loc ≤ l.cur) := by
  have hj := reach_jinv g h
  exact ⟨hj.h.files.sorted, hj.h.files.cur_mem, hj.h.handles, hj.chunk.mono,
    fun j hm => ⟨(hj.chunk.bounds j hm).2.1, (hj.chunk.bounds j hm).2.2⟩⟩

/-- log and journal after a history -/
def run (g : Geom) : Log → List JE → List (Call × Bool × List Bytes) → Log × List JE
  | l, J, [] => (l, J)
  | l, J, (c, t, o) :: cs => run g (l.step g c t o).1 (J ++ l.stepJ g c o) cs

/-- `Reach` is inhabited by every history: the theorem applies to all of them -/
theorem reach_run (g : Geom) (cs : List (Call × Bool × List Bytes)) : ∀ (l : Log) (J : List JE),
    Reach g l J → Reach g (run g l J cs).1 (run g l J cs).2 := by
  induction cs with
  | nil => intro l J h; exact h
  | cons x cs ih =>
    intro l J h
    obtain ⟨c, t, o⟩ := x
    exact ih _ _ (Reach.step c t o h)

theorem C01_journal_run (g : Geom) (policy : Policy) (cs : List (Call × Bool × List Bytes)) :
    let r := run g { files := [0], cur := 0, off := 0, queues := [], policy := policy } [] cs
    ∃ qs, replayJ (r.1.files.headD 0) [] r.2 = some qs ∧ QsEquiv qs r.1.queues :=
  C01_journal g _ _ (reach_run g cs _ _ (Reach.init policy))

/-- The journal of the history `create [1]; create [2]; append [1] [9]; append [1] [8];
    truncate [1] ..=0` in geometry `B = 16, K = 2`, written out as a literal (the writer is defined by
    well-founded recursion, which the kernel does not unfold): the GC of the last call deletes
    files 0, 1, 2. Replaying from file 3 gives the same queues as replaying everything;
    queue `[2]` survives only thanks to the GC touch located in file 6: without it it is lost. -/
def exJ : List JE :=
  [⟨0, 0, .touch [1] 0⟩, ⟨1, 0, .touch [2] 0⟩, ⟨2, 1, .append [1] 0 [(0, [9])]⟩,
   ⟨3, 3, .append [1] 1 [(1, [8])]⟩, ⟨5, 4, .truncate [1] 0⟩, ⟨6, 5, .touch [2] 0⟩]

example :
    replayJ 0 [] exJ = some [([1], { start := 1, recs := [⟨1, [8], some 3⟩] }), ([2], {})] ∧
    replayJ 3 [] exJ = some [([1], { start := 1, recs := [⟨1, [8], some 3⟩] }), ([2], {})] ∧
    replayJ 3 [] exJ.dropLast = some [([1], { start := 1, recs := [⟨1, [8], some 3⟩] })] := by
  decide

end MRL.C01J

namespace MRL.C01

/-- non-vacuity of the journal definitions: a create on the fresh log gives one journal entry,
    located in and attributed to file 0, in every geometry -/
example : ∀ g : Geom,
    let l0 : Log := { files := [0], cur := 0, off := 0, queues := [], policy := .doNothing }
    (l0.stepJ g (.create [1]) []).map (fun j => (j.loc, j.attr)) = [(0, 0)] := by
  intro g
  have hB := g.hB
  have hK := g.hK
  simp only [Log.stepJ, MemQueues.contains, List.any_nil, Bool.false_eq_true, if_false, List.map_cons,
    List.map_nil, Log.je, Log.nextLoc, Nat.zero_mod, Nat.sub_zero, Geom.fileBytes]
  simp only [Consts.HEADER_LEN] at *
  have h1 : ¬ (g.B < 7) := by omega
  have h2 : ¬ (0 ≥ g.B * g.K) := by
    have : 0 < g.B * g.K := Nat.mul_pos (by omega) hK
    omega
  simp [h1, h2]

end MRL.C01
