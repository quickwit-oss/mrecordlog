/-
C10, assertions: the write-path `assert!`s that the GC pass of `open` can reach never fire —
`RollingWriter::write`'s `buf.len() <= num_bytes_remaining_in_block()` (rolling/directory.rs),
`Header::for_payload`'s `payload.len() < BLOCK_NUM_BYTES` (frame/header.rs), the slice
`self.buffer[..HEADER_LEN + payload.len()]` of `write_frame` (frame/writer.rs) and `serialize`'s
`queue.len() <= u16::MAX` (record.rs) — provided no WAL file of the image is longer than the
nominal file size. (With an oversized file the first assertion CAN fire: `oversize_assert_fires`.)
-/
import MRL.Proofs.CodecLayout
import MRL.Proofs.RecReplay
import MRL.Proofs.JStep
import MRL.Proofs.EvalTwin

namespace MRL.C10A
open Log Codec Consts

/-- the writer's offset after one buffer (as in `Log.writeBuf`) -/
def nextOff (g : Geom) (off : Nat) (buf : Bytes) : Nat :=
  if buf.isEmpty then off else if off + buf.length > g.fileBytes then buf.length else off + buf.length

/-- every non-empty buffer fits in what is left of its block:
    `assert!(buf.len() <= self.num_bytes_remaining_in_block())`, offsets advancing as in `write` -/
def writeAsserts (g : Geom) : Nat → List Bytes → Bool
  | _, [] => true
  | off, b :: bs => (b.isEmpty || decide (b.length ≤ g.B - off % g.B)) && writeAsserts g (nextOff g off b) bs

def endOff (g : Geom) : Nat → List Bytes → Nat
  | off, [] => off
  | off, b :: bs => endOff g (nextOff g off b) bs

theorem writeBuf_off (g : Geom) (l : Log) (buf : Bytes) : (writeBuf g l buf).1.off = nextOff g l.off buf := by
  unfold writeBuf nextOff
  cases buf.isEmpty with
  | true => rfl
  | false =>
    rw [if_neg Bool.false_ne_true, if_neg Bool.false_ne_true]
    by_cases h : l.off + buf.length > g.fileBytes
    · rw [if_pos h, if_pos h]; cases nextFile l.files l.cur <;> rfl
    · rw [if_neg h, if_neg h]

theorem writeBufs_off (g : Geom) (bufs : List Bytes) : ∀ l : Log, (writeBufs g l bufs).1.off = endOff g l.off bufs := by
  induction bufs with
  | nil => intro l; rfl
  | cons b bs ih => intro l; rw [Step.writeBufs_cons]; simp only [ih, writeBuf_off, endOff]

theorem nextOff_spec (g : Geom) (off c : Nat) (b : Bytes) (hc : off % g.B = c) (hoff : off ≤ g.fileBytes)
    (hpos : 0 < b.length) (hfit : c + b.length ≤ g.B) :
    b.length ≤ g.B - off % g.B ∧ nextOff g off b % g.B = adv g c b.length ∧ nextOff g off b ≤ g.fileBytes := by
  have hne : b.isEmpty = false := by
    cases b with
    | nil => exact absurd hpos (Nat.lt_irrefl 0)
    | cons _ _ => rfl
  have hdm := Nat.div_add_mod off g.B
  rw [hc] at hdm
  have hBK : g.B ≤ g.B * g.K := Nat.le_mul_of_pos_right _ g.hK
  have hadv : adv g c b.length = (c + b.length) % g.B := by
    unfold adv
    by_cases h : c + b.length = g.B
    · rw [if_pos h, h, Nat.mod_self]
    · rw [if_neg h]; exact (Nat.mod_eq_of_lt (Nat.lt_of_le_of_ne hfit h)).symm
  refine ⟨by rw [hc]; exact Nat.le_sub_of_add_le' hfit, ?_, ?_⟩
  · rw [hadv]
    simp only [nextOff, hne, Bool.false_eq_true, if_false]
    by_cases hroll : off + b.length > g.fileBytes
    · -- a roll-over happens only at the very end of the file: `off = fileBytes`, cursor 0
      have hc0 : c = 0 := by
        rcases Nat.lt_or_eq_of_le hoff with hlt | heq
        · -- below the end, the block of `off` lies within the file and `b` within the block
          have : off + b.length ≤ g.B * g.K :=
            calc off + b.length = g.B * (off / g.B) + (c + b.length) := by rw [← Nat.add_assoc, hdm]
              _ ≤ g.B * (off / g.B) + g.B := Nat.add_le_add_left hfit _
              _ ≤ g.B * g.K := Nat.mul_le_mul_left g.B (Nat.succ_le_of_lt (Nat.div_lt_of_lt_mul hlt))
          exact absurd this (Nat.not_le.mpr hroll)
        · rw [← hc, heq]; exact Nat.mul_mod_right _ _
      rw [if_pos hroll, hc0, Nat.zero_add]
    · rw [if_neg hroll, ← hdm, Nat.add_assoc, Nat.mul_add_mod]
  · simp only [nextOff, hne, Bool.false_eq_true, if_false]
    by_cases hroll : off + b.length > g.fileBytes
    · rw [if_pos hroll]; exact Nat.le_trans (Nat.le_trans (Nat.le_add_left _ _) hfit) hBK
    · rw [if_neg hroll]; exact Nat.le_of_not_lt hroll

theorem writeAsserts_of_noCross (g : Geom) (bufs : List Bytes) : ∀ (off c : Nat), off % g.B = c →
    off ≤ g.fileBytes → NoCross g c bufs → writeAsserts g off bufs = true ∧ endOff g off bufs ≤ g.fileBytes := by
  induction bufs with
  | nil => intro off c _ hoff _; exact ⟨rfl, hoff⟩
  | cons b bs ih =>
    intro off c hc hoff hn
    obtain ⟨hpos, hfit, hrest⟩ := hn
    obtain ⟨h1, h2, h3⟩ := nextOff_spec g off c b hc hoff hpos hfit
    obtain ⟨i1, i2⟩ := ih (nextOff g off b) _ h2 h3 hrest
    refine ⟨?_, i2⟩
    simp only [writeAsserts, i1, Bool.and_true, Bool.or_eq_true, decide_eq_true_eq]
    exact .inr h1

/-- the frames of an entry: each `HEADER_LEN + payload ≤ BLOCK`, so `Header::for_payload`'s
    `payload.len() < BLOCK_NUM_BYTES` and `write_frame`'s `self.buffer[..record_len]` are fine -/
theorem fits_frame_le (g : Geom) (fs : List Frm) : ∀ c, Fits g c fs → ∀ fr ∈ fs, HEADER_LEN + fr.2.length ≤ g.B := by
  induction fs with
  | nil => intro c _ fr hfr; cases hfr
  | cons f fs ih =>
    intro c hf fr hfr
    rcases List.mem_cons.mp hfr with rfl | hm
    · have hm : maxFrameLen g c ≤ g.B - HEADER_LEN := by
        unfold maxFrameLen
        by_cases h : HEADER_LEN ≤ g.B - c
        · rw [if_pos h]; exact Nat.sub_le_sub_right (Nat.sub_le _ _) _
        · rw [if_neg h]; exact Nat.le_refl _
      exact Nat.add_le_of_le_sub' (Nat.le_of_lt g.hB) (Nat.le_trans hf.1 hm)
    · exact ih _ hf.2 fr hm

/-- **The writer's assertions hold for every entry**, written at any offset within the file:
    `RollingWriter::write`'s block check for every buffer, the frame-size checks for every frame,
    and the offset stays within the file. -/
theorem writeEntry_asserts (g : Geom) (l : Log) (e : Entry) (hoff : l.off ≤ g.fileBytes) :
    writeAsserts g l.off (entryBufsOf g l e) = true ∧ (l.writeEntry g e).1.off ≤ g.fileBytes ∧
    ∃ fs : List Frm, entryBufsOf g l e = layoutBufs g (l.off % g.B) fs ∧
      ∀ fr ∈ fs, HEADER_LEN + fr.2.length ≤ g.B ∧ fr.2.length < g.B := by
  have hc : l.off % g.B < g.B := Nat.mod_lt _ (Torn.Bpos g)
  obtain ⟨fs, h1, _, _, h4⟩ := writeEntryBufs_layout g (l.off % g.B) true e.encode hc
  have hb : entryBufsOf g l e = layoutBufs g (l.off % g.B) fs := h1
  obtain ⟨a1, a2⟩ := writeAsserts_of_noCross g _ l.off _ rfl hoff (noCross_layoutBufs g _ fs hc h4)
  refine ⟨by rw [hb]; exact a1, ?_, fs, hb, fun fr hfr => ?_⟩
  · rw [Step.writeEntry_eq]
    show (writeBufs g l (entryBufsOf g l e)).1.off ≤ _
    rw [writeBufs_off, hb]; exact a2
  · have := fits_frame_le g fs _ h4 fr hfr
    exact ⟨this, Nat.lt_of_lt_of_le (Nat.lt_add_of_pos_left (by decide)) this⟩

theorem leNat_lt (bs : Bytes) : leNat bs < 256 ^ bs.length := by
  induction bs with
  | nil => simp [leNat]
  | cons b bs ih =>
    have hb : b.toNat < 256 := UInt8.toNat_lt b
    simp only [leNat, List.length_cons, Nat.pow_succ]
    omega

/-- a decoded entry's queue name is shorter than 2^16 bytes (its length came from a 2-byte field) -/
theorem decode_name_lt (bs : Bytes) (e : Entry) (h : Entry.decode bs = some e) : e.queue.length < 65536 := by
  have hl : ((bs.drop 9).take 2).length ≤ 2 := by rw [List.length_take]; exact Nat.min_le_left _ _
  have hq : leNat ((bs.drop 9).take 2) < 65536 :=
    calc leNat ((bs.drop 9).take 2) < 256 ^ ((bs.drop 9).take 2).length := leNat_lt _
      _ ≤ 256 ^ 2 := Nat.pow_le_pow_right (by decide) hl
      _ = 65536 := by decide
  rw [(Rec.decode_some h).2.1, List.length_take]
  exact Nat.lt_of_le_of_lt (Nat.min_le_left _ _) hq

def NamesShort (qs : MemQueues) : Prop := ∀ kv ∈ qs, kv.1.length < 65536

/-- names enter the queue map only from decoded entries, whose name length is a `u16` field -/
theorem namesShort_replay (evs : List RecEv) (qs qs' : MemQueues) (h : NamesShort qs)
    (hr : replay qs evs = some qs') : NamesShort qs' :=
  Rec.replay_all (P := fun kv => kv.1.length < 65536) evs qs qs' hr h fun _ bytes e _ hd =>
    have hlt := decode_name_lt bytes e hd
    ⟨fun _ => hlt, fun _ _ _ _ _ _ => hlt, fun _ _ _ _ => hlt⟩

theorem gcNamesOf_mem (l : Log) (order : List Bytes) : ∀ n ∈ gcNamesOf l order, ∃ kv ∈ l.queues, kv.1 = n := by
  intro n hn
  unfold gcNamesOf at hn
  split at hn
  · split at hn
    · split at hn
      · rename_i hperm; exact Log.emptyNames_keys (Log.isPermOf_subset hperm hn)
      · exact Log.emptyNames_keys hn
    · cases hn
  · cases hn

/-- all the checks along `record_empty_queues_position` -/
def touchesAssert (g : Geom) : Log → List Bytes → Bool
  | _, [] => true
  | l, n :: rest =>
    decide (n.length ≤ 65535) && writeAsserts g l.off (entryBufsOf g l (touchOf l n)) &&
      touchesAssert g (l.writeEntry g (touchOf l n)).1 rest

/-- the assertions reached by `run_gc_if_necessary` -/
def gcAsserts (g : Geom) (l : Log) (order : List Bytes) : Bool := touchesAssert g l (gcNamesOf l order)

theorem touchesAssert_ok (g : Geom) (names : List Bytes) : ∀ l : Log, l.off ≤ g.fileBytes →
    (∀ n ∈ names, n.length < 65536) → touchesAssert g l names = true := by
  induction names with
  | nil => intro l _ _; rfl
  | cons n ns ih =>
    intro l hoff hn
    obtain ⟨h1, h2, _⟩ := writeEntry_asserts g l (touchOf l n) hoff
    have h3 := hn n List.mem_cons_self
    simp only [touchesAssert, h1, ih _ h2 (fun m hm => hn m (List.mem_cons_of_mem _ hm)), Bool.and_true,
      decide_eq_true_eq]
    omega

theorem gcAsserts_ok (g : Geom) (l : Log) (order : List Bytes) (hoff : l.off ≤ g.fileBytes)
    (hn : NamesShort l.queues) : gcAsserts g l order = true := by
  apply touchesAssert_ok g _ l hoff
  intro n hm
  obtain ⟨kv, hkv, rfl⟩ := gcNamesOf_mem l order n hm
  exact hn kv hkv

def NoOversize (g : Geom) (img : Image) : Prop := ∀ kv ∈ img, kv.2.length ≤ g.fileBytes

theorem noOversize_prepare (g : Geom) (img : Image) (h : NoOversize g img) : NoOversize g (prepareImage g img).1 := by
  unfold prepareImage
  split
  · intro kv hkv
    simp only [List.mem_singleton] at hkv
    subst hkv
    simp [zeros]
  · rename_i f content rest
    split
    · intro kv hkv
      rcases List.mem_cons.mp hkv with rfl | hm
      · have : content.length ≤ g.fileBytes := h (f, content) List.mem_cons_self
        simp only [List.length_append, zeros, List.length_replicate]
        exact Nat.le_of_eq (Nat.add_sub_cancel' this)
      · exact h kv (List.mem_cons_of_mem _ hm)
    · exact h

/-- no file of the image oversized: the scan ends inside a whole block of a file of the prepared image -/
theorem recoverPre_off_le {g : Geom} {img : Image} {policy : Policy} {fa : Option Nat} {lp : Log}
    {e0 : List Effect} {io : Nat} (hov : NoOversize g img)
    (h : recoverPre g img policy fa = .ok (lp, e0, io)) : lp.off ≤ g.fileBytes := by
  obtain ⟨b0, rest, trail, rdEvs, e, hb, _, hs, _, _, _, hoff⟩ := Rec.recoverPre_ok h
  obtain ⟨⟨b, hbm, _, hidx⟩, hcur⟩ := Rec.scanBlocks_end g fa trail rest _ _ _ _ _ _ (Nat.zero_le _) hs
  obtain ⟨kv, hkv, _, hlt⟩ := Rec.blocksOf_idx g (prepareImage g img).1 1 b (by rw [hb]; exact hbm)
  have hlen := noOversize_prepare g img hov kv hkv
  have hK : kv.2.length / g.B ≤ g.K := by
    have := Nat.div_le_div_right (c := g.B) hlen
    rwa [show g.fileBytes = g.B * g.K from rfl, Nat.mul_div_cancel_left _ (Torn.Bpos g)] at this
  have h1 : e.idx + 1 ≤ g.K := Nat.le_trans (Nat.succ_le_of_lt (hidx ▸ hlt)) hK
  rw [hoff]
  calc e.idx * g.B + e.cursor ≤ e.idx * g.B + g.B := Nat.add_le_add_left hcur _
    _ = (e.idx + 1) * g.B := (Nat.succ_mul _ _).symm
    _ ≤ g.K * g.B := Nat.mul_le_mul_right _ h1
    _ = g.fileBytes := Nat.mul_comm _ _

theorem recoverPre_namesShort {g : Geom} {img : Image} {policy : Policy} {fa : Option Nat} {lp : Log}
    {e0 : List Effect} {io : Nat} (h : recoverPre g img policy fa = .ok (lp, e0, io)) :
    NamesShort lp.queues := by
  obtain ⟨b0, rest, trail, rdEvs, e, _, _, _, hr, _⟩ := Rec.recoverPre_ok h
  exact namesShort_replay _ [] _ (fun _ h => by cases h) hr

/-- **C10, assertions.** For every image without an oversized WAL file — arbitrary bytes
    otherwise —, every write-path assertion the GC pass of `open` reaches holds: queue names
    `≤ u16::MAX`, every buffer within its block, every frame within a block. -/
theorem recover_asserts (g : Geom) (img : Image) (policy : Policy) (order : List Bytes) (failAt : Option Nat)
    (lp : Log) (e0 : List Effect) (io : Nat) (hov : NoOversize g img)
    (hpre : recoverPre g img policy failAt = .ok (lp, e0, io)) :
    gcAsserts g lp order = true ∧ lp.off ≤ g.fileBytes ∧ NamesShort lp.queues :=
  ⟨gcAsserts_ok g lp order (recoverPre_off_le hov hpre) (recoverPre_namesShort hpre),
    recoverPre_off_le hov hpre, recoverPre_namesShort hpre⟩

/-- every entry leaves the offset within the file (`writeEntry_asserts`), and nothing else moves it -/
theorem along_off_le (g : Geom) :
    Step.AlongCall g fun l _ _ l' => l.off ≤ g.fileBytes → l'.off ≤ g.fileBytes where
  nil _ := id
  app h1 h2 := h2 ∘ h1
  entry l e h := (writeEntry_asserts g l e h).2.1
  sync _ _ := id
  queues _ _ := id
  unlinks _ _ := id

theorem step_off_le (g : Geom) (l : Log) (c : Call) (tick : Bool) (order : List Bytes)
    (hoff : l.off ≤ g.fileBytes) : (Log.step g l c tick order).1.off ≤ g.fileBytes :=
  (along_off_le g).step l c tick order hoff

def g16 : Geom := { B := 16, K := 1, hB := by decide, hK := by decide }

/-- a writer resuming beyond the nominal file size (only possible after reading an oversized
    file): 4 bytes left in the block -/
def lOver : Log := { files := [0], cur := 0, off := 28, policy := .doNothing, queues := [([1], {})] }

/-- **Finding.** If `open` resumes beyond the nominal file size, `RollingWriter::write`'s
    assertion can fire: the 4 padding bytes roll over to a new file at offset 4, and the next
    frame — sized for a whole block, as `max_writable_frame_length` promised before the padding
    — is 16 bytes long with only 12 left in the block. -/
theorem oversize_assert_fires : lOver.off > g16.fileBytes ∧
    writeAsserts g16 lOver.off (entryBufsOf g16 lOver (.touch [1] 0)) = false := by
  refine ⟨by decide, ?_⟩
  -- evaluated by the kernel on `Twin.webF`, the structurally recursive form of `writeEntryBufs`
  rw [show entryBufsOf g16 lOver (.touch [1] 0) = Twin.webF g16 30 12 true (Entry.touch [1] 0).encode from
    Twin.web_eq g16 30 12 true _ (by decide) (by decide)]
  decide +kernel

end MRL.C10A
