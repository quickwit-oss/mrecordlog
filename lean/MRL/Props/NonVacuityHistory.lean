/-
Non-vacuity: a concrete crash-reachable state, built step by step; the theorems are instantiated on it in
`NonVacuity.lean`, `NonVacuityPower.lean`, `NonVacuity3.lean`.

Geometry `B = 16`, `K = 2` (files of 32 bytes), `BufWriter` capacity 0, policy `DoNothing`.
History 1, from the empty directory:
  `open`; `create_queue "a"`;
  `append "a" [[1],[2]]` — CRASH after 11 OS operations, 11 bytes into the 12th (a Middle frame cut in
    its payload: a junk slot whose checksum fails stays on disk, after two orphan frames); `open`
    (recovers the empty queue, writes a `RecordPosition` entry, unlinks `wal-0`, `wal-1`);
  `append "a" [[3],[4]]`, `append "a" [[5],[6]]`, `append "a" [[7],[8]]` (completed; each entry is 6
    frames over 3 files);
  `truncate "a" ..=1` — CRASH after 10 OS operations, BETWEEN TWO UNLINKS of its GC pass (`wal-2`
    gone, `wal-3`, `wal-4` still there); `open` (its own GC pass unlinks `wal-3`, `wal-4`).
The result `S*` = (`R2.log`, `img6`, empty buffer) is a `C02W.ReachXW` state (`reachS`), with the
list `Wfin` of the 7 entries handed to the writer. Every side condition of the constructors is
discharged: `WF` of the journal entries, the collision clause `TornStep` for the frames of the two
interrupted calls (every proper zero-filled prefix of every payload: checksums evaluated), the
equations `recoverPre … = .ok …`, `recover … = .ok …`.

Method (`MRL/Proofs/EvalTwin.lean`, `EvalCheck.lean`): the literals below are `#eval` output; every
equation is then PROVED by `rw [step_twin]` / `recover_twin` / `stepJ_twin` / `gcJ_twin` (the
well-founded `writeEntryBufs` and `scanBlockFrom` replaced by their fuel versions, the table-driven
checksum by `crc32N`, equal for all arguments) and `decide +kernel` — kernel reduction only, no
compiler, no axiom beyond `propext`, `Quot.sound`.
-/
import MRL.Proofs.EvalTwin
import MRL.Proofs.LProvReach
import MRL.Props.C06Crash
namespace MRL.NV

def g : Geom := { B := 16, K := 2, hB := by decide, hK := by decide }
def c1 : Call := .create [97]
def c2 : Call := .append [97] none [[1],[2]]
def c3 : Call := .append [97] none [[3],[4]]
def c4 : Call := .append [97] none [[5],[6]]
def c5 : Call := .append [97] none [[7],[8]]
def c6 : Call := .truncate [97] 1

def R0 : Recovered :=
  { log := { files := [0], cur := 0, off := 0, queues := [], policy := MRL.Policy.doNothing }, effects := [MRL.Effect.create 0,
    MRL.Effect.setLen 0 32,
    MRL.Effect.ensureLen 0 32], ioCalls := 3 }

def img0 : Image :=
  [(0, [0, 0, 0, 0, 0, 0, 0, 0, 0, 0, 0, 0, 0, 0, 0, 0, 0, 0, 0, 0, 0, 0, 0, 0, 0, 0, 0, 0, 0, 0, 0, 0])]

def s1 : Log × Outcome × List Effect :=
  ({ files := [0], cur := 0, off := 26, queues := [([97], { start := 0, recs := [] })], policy := MRL.Policy.doNothing }, MRL.Outcome.created 26, [MRL.Effect.write 0 0 [205, 144, 137, 201, 9, 0, 2, 2, 0, 0, 0, 0, 0, 0, 0, 0],
    MRL.Effect.write 0 16 [178, 115, 81, 149, 3, 0, 4, 1, 0, 97],
    MRL.Effect.flush,
    MRL.Effect.fsyncFile 0,
    MRL.Effect.fsyncDir])

def img1 : Image :=
  [(0, [205, 144, 137, 201, 9, 0, 2, 2, 0, 0, 0, 0, 0, 0, 0, 0, 178, 115, 81, 149, 3, 0, 4, 1, 0, 97, 0, 0, 0, 0, 0, 0])]

def s2 : Log × Outcome × List Effect :=
  ({ files := [0, 1, 2, 3], cur := 3, off := 9, queues := [([97], { start := 0, recs := [{ pos := 0, payload := [1], file := none }, { pos := 1, payload := [2], file := some 0 }] })], policy := MRL.Policy.doNothing }, MRL.Outcome.appended (some 1) 79, [MRL.Effect.write 0 26 [0, 0, 0, 0, 0, 0],
    MRL.Effect.flush,
    MRL.Effect.fsyncFile 0,
    MRL.Effect.fsyncDir,
    MRL.Effect.create 1,
    MRL.Effect.setLen 1 32,
    MRL.Effect.write 1 0 [71, 233, 147, 186, 9, 0, 2, 4, 0, 0, 0, 0, 0, 0, 0, 0],
    MRL.Effect.write 1 16 [103, 128, 7, 50, 9, 0, 3, 1, 0, 97, 0, 0, 0, 0, 0, 0],
    MRL.Effect.flush,
    MRL.Effect.fsyncFile 1,
    MRL.Effect.fsyncDir,
    MRL.Effect.create 2,
    MRL.Effect.setLen 2 32,
    MRL.Effect.write 2 0 [183, 131, 19, 182, 9, 0, 3, 0, 0, 1, 0, 0, 0, 1, 1, 0],
    MRL.Effect.write 2 16 [66, 185, 127, 9, 9, 0, 3, 0, 0, 0, 0, 0, 0, 1, 0, 0],
    MRL.Effect.flush,
    MRL.Effect.fsyncFile 2,
    MRL.Effect.fsyncDir,
    MRL.Effect.create 3,
    MRL.Effect.setLen 3 32,
    MRL.Effect.write 3 0 [226, 16, 70, 22, 2, 0, 4, 0, 2]])

def X1 : Image :=
  [(0, [205, 144, 137, 201, 9, 0, 2, 2, 0, 0, 0, 0, 0, 0, 0, 0, 178, 115, 81, 149, 3, 0, 4, 1, 0, 97, 0, 0, 0, 0, 0, 0]),
    (1, [71, 233, 147, 186, 9, 0, 2, 4, 0, 0, 0, 0, 0, 0, 0, 0, 103, 128, 7, 50, 9, 0, 3, 1, 0, 97, 0, 0, 0, 0, 0, 0]),
    (2, [183, 131, 19, 182, 9, 0, 3, 0, 0, 1, 0, 0, 0, 0, 0, 0, 0, 0, 0, 0, 0, 0, 0, 0, 0, 0, 0, 0, 0, 0, 0, 0])]

def P1 : Log × List Effect × Nat :=
  ({ files := [0, 1, 2], cur := 2, off := 16, queues := [([97], { start := 0, recs := [] })], policy := MRL.Policy.doNothing }, [MRL.Effect.ensureLen 0 32], 12)

def R1 : Recovered :=
  { log := { files := [2, 3], cur := 3, off := 10, queues := [([97], { start := 0, recs := [] })], policy := MRL.Policy.doNothing }, effects := [MRL.Effect.ensureLen 0 32,
    MRL.Effect.write 2 16 [205, 144, 137, 201, 9, 0, 2, 2, 0, 0, 0, 0, 0, 0, 0, 0],
    MRL.Effect.flush,
    MRL.Effect.fsyncFile 2,
    MRL.Effect.fsyncDir,
    MRL.Effect.create 3,
    MRL.Effect.setLen 3 32,
    MRL.Effect.write 3 0 [178, 115, 81, 149, 3, 0, 4, 1, 0, 97],
    MRL.Effect.flush,
    MRL.Effect.fsyncFile 3,
    MRL.Effect.fsyncDir,
    MRL.Effect.unlink 0,
    MRL.Effect.unlink 1], ioCalls := 12 }

def img2 : Image :=
  [(2, [183, 131, 19, 182, 9, 0, 3, 0, 0, 1, 0, 0, 0, 0, 0, 0, 205, 144, 137, 201, 9, 0, 2, 2, 0, 0, 0, 0, 0, 0, 0, 0]),
    (3, [178, 115, 81, 149, 3, 0, 4, 1, 0, 97, 0, 0, 0, 0, 0, 0, 0, 0, 0, 0, 0, 0, 0, 0, 0, 0, 0, 0, 0, 0, 0, 0])]

def s3 : Log × Outcome × List Effect :=
  ({ files := [2, 3, 4, 5], cur := 5, off := 25, queues := [([97], { start := 0, recs := [{ pos := 0, payload := [3], file := none }, { pos := 1, payload := [4], file := some 3 }] })], policy := MRL.Policy.doNothing }, MRL.Outcome.appended (some 1) 79, [MRL.Effect.write 3 10 [0, 0, 0, 0, 0, 0],
    MRL.Effect.write 3 16 [71, 233, 147, 186, 9, 0, 2, 4, 0, 0, 0, 0, 0, 0, 0, 0],
    MRL.Effect.flush,
    MRL.Effect.fsyncFile 3,
    MRL.Effect.fsyncDir,
    MRL.Effect.create 4,
    MRL.Effect.setLen 4 32,
    MRL.Effect.write 4 0 [103, 128, 7, 50, 9, 0, 3, 1, 0, 97, 0, 0, 0, 0, 0, 0],
    MRL.Effect.write 4 16 [217, 87, 151, 181, 9, 0, 3, 0, 0, 1, 0, 0, 0, 3, 1, 0],
    MRL.Effect.flush,
    MRL.Effect.fsyncFile 4,
    MRL.Effect.fsyncDir,
    MRL.Effect.create 5,
    MRL.Effect.setLen 5 32,
    MRL.Effect.write 5 0 [66, 185, 127, 9, 9, 0, 3, 0, 0, 0, 0, 0, 0, 1, 0, 0],
    MRL.Effect.write 5 16 [215, 181, 37, 255, 2, 0, 4, 0, 4]])

def img3 : Image :=
  [(2, [183, 131, 19, 182, 9, 0, 3, 0, 0, 1, 0, 0, 0, 0, 0, 0, 205, 144, 137, 201, 9, 0, 2, 2, 0, 0, 0, 0, 0, 0, 0, 0]),
    (3, [178, 115, 81, 149, 3, 0, 4, 1, 0, 97, 0, 0, 0, 0, 0, 0, 71, 233, 147, 186, 9, 0, 2, 4, 0, 0, 0, 0, 0, 0, 0, 0]),
    (4, [103, 128, 7, 50, 9, 0, 3, 1, 0, 97, 0, 0, 0, 0, 0, 0, 217, 87, 151, 181, 9, 0, 3, 0, 0, 1, 0, 0, 0, 3, 1, 0]),
    (5, [66, 185, 127, 9, 9, 0, 3, 0, 0, 0, 0, 0, 0, 1, 0, 0, 215, 181, 37, 255, 2, 0, 4, 0, 4, 0, 0, 0, 0, 0, 0, 0])]

def s4 : Log × Outcome × List Effect :=
  ({ files := [2, 3, 4, 5, 6, 7, 8], cur := 8, off := 9, queues := [([97], { start := 0, recs := [{ pos := 0, payload := [3], file := none }, { pos := 1, payload := [4], file := some 3 }, { pos := 2, payload := [5], file := none }, { pos := 3, payload := [6], file := some 5 }] })], policy := MRL.Policy.doNothing }, MRL.Outcome.appended (some 3) 80, [MRL.Effect.write 5 25 [161, 142, 12, 60, 0, 0, 2],
    MRL.Effect.flush,
    MRL.Effect.fsyncFile 5,
    MRL.Effect.fsyncDir,
    MRL.Effect.create 6,
    MRL.Effect.setLen 6 32,
    MRL.Effect.write 6 0 [4, 133, 116, 23, 9, 0, 3, 4, 2, 0, 0, 0, 0, 0, 0, 0],
    MRL.Effect.write 6 16 [108, 33, 207, 127, 9, 0, 3, 1, 0, 97, 2, 0, 0, 0, 0, 0],
    MRL.Effect.flush,
    MRL.Effect.fsyncFile 6,
    MRL.Effect.fsyncDir,
    MRL.Effect.create 7,
    MRL.Effect.setLen 7 32,
    MRL.Effect.write 7 0 [233, 73, 44, 131, 9, 0, 3, 0, 0, 1, 0, 0, 0, 5, 3, 0],
    MRL.Effect.write 7 16 [66, 185, 127, 9, 9, 0, 3, 0, 0, 0, 0, 0, 0, 1, 0, 0],
    MRL.Effect.flush,
    MRL.Effect.fsyncFile 7,
    MRL.Effect.fsyncDir,
    MRL.Effect.create 8,
    MRL.Effect.setLen 8 32,
    MRL.Effect.write 8 0 [251, 212, 43, 17, 2, 0, 4, 0, 6]])

def img4 : Image :=
  [(2, [183, 131, 19, 182, 9, 0, 3, 0, 0, 1, 0, 0, 0, 0, 0, 0, 205, 144, 137, 201, 9, 0, 2, 2, 0, 0, 0, 0, 0, 0, 0, 0]),
    (3, [178, 115, 81, 149, 3, 0, 4, 1, 0, 97, 0, 0, 0, 0, 0, 0, 71, 233, 147, 186, 9, 0, 2, 4, 0, 0, 0, 0, 0, 0, 0, 0]),
    (4, [103, 128, 7, 50, 9, 0, 3, 1, 0, 97, 0, 0, 0, 0, 0, 0, 217, 87, 151, 181, 9, 0, 3, 0, 0, 1, 0, 0, 0, 3, 1, 0]),
    (5, [66, 185, 127, 9, 9, 0, 3, 0, 0, 0, 0, 0, 0, 1, 0, 0, 215, 181, 37, 255, 2, 0, 4, 0, 4, 161, 142, 12, 60, 0, 0, 2]),
    (6, [4, 133, 116, 23, 9, 0, 3, 4, 2, 0, 0, 0, 0, 0, 0, 0, 108, 33, 207, 127, 9, 0, 3, 1, 0, 97, 2, 0, 0, 0, 0, 0]),
    (7, [233, 73, 44, 131, 9, 0, 3, 0, 0, 1, 0, 0, 0, 5, 3, 0, 66, 185, 127, 9, 9, 0, 3, 0, 0, 0, 0, 0, 0, 1, 0, 0]),
    (8, [251, 212, 43, 17, 2, 0, 4, 0, 6, 0, 0, 0, 0, 0, 0, 0, 0, 0, 0, 0, 0, 0, 0, 0, 0, 0, 0, 0, 0, 0, 0, 0])]

def s5 : Log × Outcome × List Effect :=
  ({ files := [2, 3, 4, 5, 6, 7, 8, 9, 10], cur := 10, off := 25, queues := [([97], { start := 0, recs := [{ pos := 0, payload := [3], file := none }, { pos := 1, payload := [4], file := some 3 }, { pos := 2, payload := [5], file := none }, { pos := 3, payload := [6], file := some 5 }, { pos := 4, payload := [7], file := none }, { pos := 5, payload := [8], file := some 8 }] })], policy := MRL.Policy.doNothing }, MRL.Outcome.appended (some 5) 80, [MRL.Effect.write 8 9 [161, 142, 12, 60, 0, 0, 2],
    MRL.Effect.write 8 16 [131, 140, 27, 209, 9, 0, 3, 4, 4, 0, 0, 0, 0, 0, 0, 0],
    MRL.Effect.flush,
    MRL.Effect.fsyncFile 8,
    MRL.Effect.fsyncDir,
    MRL.Effect.create 9,
    MRL.Effect.setLen 9 32,
    MRL.Effect.write 9 0 [113, 194, 150, 169, 9, 0, 3, 1, 0, 97, 4, 0, 0, 0, 0, 0],
    MRL.Effect.write 9 16 [1, 58, 242, 214, 9, 0, 3, 0, 0, 1, 0, 0, 0, 7, 5, 0],
    MRL.Effect.flush,
    MRL.Effect.fsyncFile 9,
    MRL.Effect.fsyncDir,
    MRL.Effect.create 10,
    MRL.Effect.setLen 10 32,
    MRL.Effect.write 10 0 [66, 185, 127, 9, 9, 0, 3, 0, 0, 0, 0, 0, 0, 1, 0, 0],
    MRL.Effect.write 10 16 [252, 249, 147, 246, 2, 0, 4, 0, 8]])

def img5 : Image :=
  [(2, [183, 131, 19, 182, 9, 0, 3, 0, 0, 1, 0, 0, 0, 0, 0, 0, 205, 144, 137, 201, 9, 0, 2, 2, 0, 0, 0, 0, 0, 0, 0, 0]),
    (3, [178, 115, 81, 149, 3, 0, 4, 1, 0, 97, 0, 0, 0, 0, 0, 0, 71, 233, 147, 186, 9, 0, 2, 4, 0, 0, 0, 0, 0, 0, 0, 0]),
    (4, [103, 128, 7, 50, 9, 0, 3, 1, 0, 97, 0, 0, 0, 0, 0, 0, 217, 87, 151, 181, 9, 0, 3, 0, 0, 1, 0, 0, 0, 3, 1, 0]),
    (5, [66, 185, 127, 9, 9, 0, 3, 0, 0, 0, 0, 0, 0, 1, 0, 0, 215, 181, 37, 255, 2, 0, 4, 0, 4, 161, 142, 12, 60, 0, 0, 2]),
    (6, [4, 133, 116, 23, 9, 0, 3, 4, 2, 0, 0, 0, 0, 0, 0, 0, 108, 33, 207, 127, 9, 0, 3, 1, 0, 97, 2, 0, 0, 0, 0, 0]),
    (7, [233, 73, 44, 131, 9, 0, 3, 0, 0, 1, 0, 0, 0, 5, 3, 0, 66, 185, 127, 9, 9, 0, 3, 0, 0, 0, 0, 0, 0, 1, 0, 0]),
    (8, [251, 212, 43, 17, 2, 0, 4, 0, 6, 161, 142, 12, 60, 0, 0, 2, 131, 140, 27, 209, 9, 0, 3, 4, 4, 0, 0, 0, 0, 0, 0, 0]),
    (9, [113, 194, 150, 169, 9, 0, 3, 1, 0, 97, 4, 0, 0, 0, 0, 0, 1, 58, 242, 214, 9, 0, 3, 0, 0, 1, 0, 0, 0, 7, 5, 0]),
    (10, [66, 185, 127, 9, 9, 0, 3, 0, 0, 0, 0, 0, 0, 1, 0, 0, 252, 249, 147, 246, 2, 0, 4, 0, 8, 0, 0, 0, 0, 0, 0, 0])]

def s6 : Log × Outcome × List Effect :=
  ({ files := [5, 6, 7, 8, 9, 10, 11], cur := 11, off := 26, queues := [([97], { start := 2, recs := [{ pos := 2, payload := [5], file := none }, { pos := 3, payload := [6], file := some 5 }, { pos := 4, payload := [7], file := none }, { pos := 5, payload := [8], file := some 8 }] })], policy := MRL.Policy.doNothing }, MRL.Outcome.truncated 2 33, [MRL.Effect.write 10 25 [161, 142, 12, 60, 0, 0, 2],
    MRL.Effect.flush,
    MRL.Effect.fsyncFile 10,
    MRL.Effect.fsyncDir,
    MRL.Effect.create 11,
    MRL.Effect.setLen 11 32,
    MRL.Effect.write 11 0 [168, 199, 108, 211, 9, 0, 3, 1, 1, 0, 0, 0, 0, 0, 0, 0],
    MRL.Effect.write 11 16 [178, 115, 81, 149, 3, 0, 4, 1, 0, 97],
    MRL.Effect.flush,
    MRL.Effect.fsyncFile 11,
    MRL.Effect.fsyncDir,
    MRL.Effect.unlink 2,
    MRL.Effect.unlink 3,
    MRL.Effect.unlink 4])

def X2 : Image :=
  [(3, [178, 115, 81, 149, 3, 0, 4, 1, 0, 97, 0, 0, 0, 0, 0, 0, 71, 233, 147, 186, 9, 0, 2, 4, 0, 0, 0, 0, 0, 0, 0, 0]),
    (4, [103, 128, 7, 50, 9, 0, 3, 1, 0, 97, 0, 0, 0, 0, 0, 0, 217, 87, 151, 181, 9, 0, 3, 0, 0, 1, 0, 0, 0, 3, 1, 0]),
    (5, [66, 185, 127, 9, 9, 0, 3, 0, 0, 0, 0, 0, 0, 1, 0, 0, 215, 181, 37, 255, 2, 0, 4, 0, 4, 161, 142, 12, 60, 0, 0, 2]),
    (6, [4, 133, 116, 23, 9, 0, 3, 4, 2, 0, 0, 0, 0, 0, 0, 0, 108, 33, 207, 127, 9, 0, 3, 1, 0, 97, 2, 0, 0, 0, 0, 0]),
    (7, [233, 73, 44, 131, 9, 0, 3, 0, 0, 1, 0, 0, 0, 5, 3, 0, 66, 185, 127, 9, 9, 0, 3, 0, 0, 0, 0, 0, 0, 1, 0, 0]),
    (8, [251, 212, 43, 17, 2, 0, 4, 0, 6, 161, 142, 12, 60, 0, 0, 2, 131, 140, 27, 209, 9, 0, 3, 4, 4, 0, 0, 0, 0, 0, 0, 0]),
    (9, [113, 194, 150, 169, 9, 0, 3, 1, 0, 97, 4, 0, 0, 0, 0, 0, 1, 58, 242, 214, 9, 0, 3, 0, 0, 1, 0, 0, 0, 7, 5, 0]),
    (10, [66, 185, 127, 9, 9, 0, 3, 0, 0, 0, 0, 0, 0, 1, 0, 0, 252, 249, 147, 246, 2, 0, 4, 0, 8, 161, 142, 12, 60, 0, 0, 2]),
    (11, [168, 199, 108, 211, 9, 0, 3, 1, 1, 0, 0, 0, 0, 0, 0, 0, 178, 115, 81, 149, 3, 0, 4, 1, 0, 97, 0, 0, 0, 0, 0, 0])]

def P2 : Log × List Effect × Nat :=
  ({ files := [3, 4, 5, 6, 7, 8, 9, 10, 11], cur := 11, off := 26, queues := [([97], { start := 2, recs := [{ pos := 2, payload := [5], file := none }, { pos := 3, payload := [6], file := some 5 }, { pos := 4, payload := [7], file := none }, { pos := 5, payload := [8], file := some 8 }] })], policy := MRL.Policy.doNothing }, [MRL.Effect.ensureLen 3 32], 37)

def R2 : Recovered :=
  { log := { files := [5, 6, 7, 8, 9, 10, 11], cur := 11, off := 26, queues := [([97], { start := 2, recs := [{ pos := 2, payload := [5], file := none }, { pos := 3, payload := [6], file := some 5 }, { pos := 4, payload := [7], file := none }, { pos := 5, payload := [8], file := some 8 }] })], policy := MRL.Policy.doNothing }, effects := [MRL.Effect.ensureLen 3 32,
    MRL.Effect.flush,
    MRL.Effect.fsyncFile 11,
    MRL.Effect.fsyncDir,
    MRL.Effect.unlink 3,
    MRL.Effect.unlink 4], ioCalls := 37 }

def img6 : Image :=
  [(5, [66, 185, 127, 9, 9, 0, 3, 0, 0, 0, 0, 0, 0, 1, 0, 0, 215, 181, 37, 255, 2, 0, 4, 0, 4, 161, 142, 12, 60, 0, 0, 2]),
    (6, [4, 133, 116, 23, 9, 0, 3, 4, 2, 0, 0, 0, 0, 0, 0, 0, 108, 33, 207, 127, 9, 0, 3, 1, 0, 97, 2, 0, 0, 0, 0, 0]),
    (7, [233, 73, 44, 131, 9, 0, 3, 0, 0, 1, 0, 0, 0, 5, 3, 0, 66, 185, 127, 9, 9, 0, 3, 0, 0, 0, 0, 0, 0, 1, 0, 0]),
    (8, [251, 212, 43, 17, 2, 0, 4, 0, 6, 161, 142, 12, 60, 0, 0, 2, 131, 140, 27, 209, 9, 0, 3, 4, 4, 0, 0, 0, 0, 0, 0, 0]),
    (9, [113, 194, 150, 169, 9, 0, 3, 1, 0, 97, 4, 0, 0, 0, 0, 0, 1, 58, 242, 214, 9, 0, 3, 0, 0, 1, 0, 0, 0, 7, 5, 0]),
    (10, [66, 185, 127, 9, 9, 0, 3, 0, 0, 0, 0, 0, 0, 1, 0, 0, 252, 249, 147, 246, 2, 0, 4, 0, 8, 161, 142, 12, 60, 0, 0, 2]),
    (11, [168, 199, 108, 211, 9, 0, 3, 1, 1, 0, 0, 0, 0, 0, 0, 0, 178, 115, 81, 149, 3, 0, 4, 1, 0, 97, 0, 0, 0, 0, 0, 0])]

open Log Twin Codec

theorem cast {g : Geom} {cap : Nat} {l l' : Log} {img img' : Image} {b b' : BufSt} {W W' : List Entry}
    (h : C02W.ReachXW g cap l img b W) (e1 : l = l') (e2 : img = img') (e3 : b = b') (e4 : W = W') :
    C02W.ReachXW g cap l' img' b' W' := by subst e1 e2 e3 e4; exact h

theorem hR0 : recover g [] .doNothing [] none = .ok R0 := by rw [recover_twin]; decide +kernel
theorem e_img0 : applyOsOps [] (toOsOps 0 {} R0.effects).2 = img0 ∧ (toOsOps 0 {} R0.effects).1 = {} := by
  decide +kernel

theorem reach0 : C02W.ReachXW g 0 R0.log img0 {} [] :=
  cast (C02W.ReachXW.base (C01R.ReachD.init .doNothing [] R0 hR0) (fun j hj => by cases hj))
    rfl e_img0.1 e_img0.2 rfl

theorem reachD0 : C01R.ReachD g 0 R0.log [] img0 {} := by
  have h := C01R.ReachD.init (g := g) (cap := 0) .doNothing [] R0 hR0
  rw [e_img0.1, e_img0.2] at h
  exact h

-- call 1: create_queue "a" (completed)
theorem e_s1 : R0.log.step g c1 false [] = s1 := by rw [step_twin]; decide +kernel
theorem e_img1 : applyOsOps img0 (toOsOps 0 {} s1.2.2).2 = img1 ∧ (toOsOps 0 {} s1.2.2).1 = {} := by decide +kernel
theorem e_j1 : C02W.ents (R0.log.stepJ g c1 []) = [.touch [97] 0] := by rw [stepJ_twin]; decide +kernel
theorem wf1 : ∀ j ∈ R0.log.stepJ g c1 [], C07.WF j.e := by rw [stepJ_twin]; decide +kernel

def W1 : List Entry := [.touch [97] 0]

theorem reach1 : C02W.ReachXW g 0 s1.1 img1 {} W1 :=
  cast (C02W.ReachXW.step c1 false [] reach0 wf1) (by rw [e_s1]) (by rw [e_s1]; exact e_img1.1)
    (by rw [e_s1]; exact e_img1.2) (by rw [e_j1]; rfl)


-- call 2: append "a" [[1],[2]] — CRASH after 11 OS operations, 11 bytes into the 12th (a Middle frame:
-- header and 4 payload bytes written; the torn slot fails its checksum), then `open`
theorem e_s2 : s1.1.step g c2 false [] = s2 := by rw [step_twin]; decide +kernel
theorem wf2 : ∀ j ∈ s1.1.stepJ g c2 [], C07.WF j.e := by rw [stepJ_twin]; decide +kernel
theorem e_j2 : C02W.ents (s1.1.stepJ g c2 []) = [.append [97] 0 [(0, [1]), (1, [2])]] := by
  rw [stepJ_twin]; decide +kernel
theorem torn2 : C02A.TornStep g s1.1 c2 false [] := by
  show H.TornEffs (s1.1.step g c2 false []).2.2
  rw [e_s2]
  exact C06X.tornEffs_check _ (by decide +kernel)
theorem e_X1 : X1 = crashImage img1 (toOsOps 0 {} (s1.1.step g c2 false []).2.2).2 11 11 := by
  rw [e_s2]; decide +kernel
theorem e_P1 : recoverPre g X1 .doNothing none = .ok (P1.1, P1.2.1, P1.2.2) := by
  rw [recoverPre_twin]; decide +kernel
theorem e_R1 : recover g X1 .doNothing [] none = .ok R1 := by
  rw [Rec.recover_none, e_P1]; simp only [runGc_twin]; decide +kernel
theorem wfg1 : ∀ j ∈ P1.1.gcJ g [], C07.WF j.e := by rw [gcJ_twin]; decide +kernel
theorem e_jg1 : C02W.ents (P1.1.gcJ g []) = [.touch [97] 0] := by rw [gcJ_twin]; decide +kernel
theorem e_img2 : applyOsOps X1 (toOsOps 0 {} R1.effects).2 = img2 ∧ (toOsOps 0 {} R1.effects).1 = {} := by
  decide +kernel

def W2 : List Entry := [.touch [97] 0, .append [97] 0 [(0, [1]), (1, [2])], .touch [97] 0]

theorem reach2 : C02W.ReachXW g 0 R1.log img2 {} W2 :=
  cast (C02W.ReachXW.crash c2 false [] 11 11 X1 .doNothing [] P1.1 P1.2.1 P1.2.2 R1 reach1 rfl wf2 torn2 e_X1
    e_P1 e_R1 wfg1) rfl e_img2.1 e_img2.2 (by rw [e_j2, e_jg1]; rfl)

-- calls 3, 4, 5: three batches of two records, completed
theorem e_s3 : R1.log.step g c3 false [] = s3 := by rw [step_twin]; decide +kernel
theorem e_img3 : applyOsOps img2 (toOsOps 0 {} s3.2.2).2 = img3 ∧ (toOsOps 0 {} s3.2.2).1 = {} := by decide +kernel
theorem e_j3 : C02W.ents (R1.log.stepJ g c3 []) = [.append [97] 0 [(0, [3]), (1, [4])]] := by
  rw [stepJ_twin]; decide +kernel
theorem wf3 : ∀ j ∈ R1.log.stepJ g c3 [], C07.WF j.e := by rw [stepJ_twin]; decide +kernel

def W3 : List Entry := W2 ++ [.append [97] 0 [(0, [3]), (1, [4])]]

theorem reach3 : C02W.ReachXW g 0 s3.1 img3 {} W3 :=
  cast (C02W.ReachXW.step c3 false [] reach2 wf3) (by rw [e_s3]) (by rw [e_s3]; exact e_img3.1)
    (by rw [e_s3]; exact e_img3.2) (by rw [e_j3]; rfl)

theorem e_s4 : s3.1.step g c4 false [] = s4 := by rw [step_twin]; decide +kernel
theorem e_img4 : applyOsOps img3 (toOsOps 0 {} s4.2.2).2 = img4 ∧ (toOsOps 0 {} s4.2.2).1 = {} := by decide +kernel
theorem e_j4 : C02W.ents (s3.1.stepJ g c4 []) = [.append [97] 2 [(2, [5]), (3, [6])]] := by
  rw [stepJ_twin]; decide +kernel
theorem wf4 : ∀ j ∈ s3.1.stepJ g c4 [], C07.WF j.e := by rw [stepJ_twin]; decide +kernel

def W4 : List Entry := W3 ++ [.append [97] 2 [(2, [5]), (3, [6])]]

theorem reach4 : C02W.ReachXW g 0 s4.1 img4 {} W4 :=
  cast (C02W.ReachXW.step c4 false [] reach3 wf4) (by rw [e_s4]) (by rw [e_s4]; exact e_img4.1)
    (by rw [e_s4]; exact e_img4.2) (by rw [e_j4]; rfl)

theorem e_s5 : s4.1.step g c5 false [] = s5 := by rw [step_twin]; decide +kernel
theorem e_img5 : applyOsOps img4 (toOsOps 0 {} s5.2.2).2 = img5 ∧ (toOsOps 0 {} s5.2.2).1 = {} := by decide +kernel
theorem e_j5 : C02W.ents (s4.1.stepJ g c5 []) = [.append [97] 4 [(4, [7]), (5, [8])]] := by
  rw [stepJ_twin]; decide +kernel
theorem wf5 : ∀ j ∈ s4.1.stepJ g c5 [], C07.WF j.e := by rw [stepJ_twin]; decide +kernel

def W5 : List Entry := W4 ++ [.append [97] 4 [(4, [7]), (5, [8])]]

theorem reach5 : C02W.ReachXW g 0 s5.1 img5 {} W5 :=
  cast (C02W.ReachXW.step c5 false [] reach4 wf5) (by rw [e_s5]) (by rw [e_s5]; exact e_img5.1)
    (by rw [e_s5]; exact e_img5.2) (by rw [e_j5]; rfl)

-- call 6: truncate "a" ..=1 — CRASH after 10 OS operations: `wal-2` unlinked, `wal-3`, `wal-4` not yet
theorem e_s6 : s5.1.step g c6 false [] = s6 := by rw [step_twin]; decide +kernel
theorem wf6 : ∀ j ∈ s5.1.stepJ g c6 [], C07.WF j.e := by rw [stepJ_twin]; decide +kernel
theorem e_j6 : C02W.ents (s5.1.stepJ g c6 []) = [.truncate [97] 1] := by rw [stepJ_twin]; decide +kernel
theorem torn6 : C02A.TornStep g s5.1 c6 false [] := by
  show H.TornEffs (s5.1.step g c6 false []).2.2
  rw [e_s6]
  exact C06X.tornEffs_check _ (by decide +kernel)
theorem e_X2 : X2 = crashImage img5 (toOsOps 0 {} (s5.1.step g c6 false []).2.2).2 10 0 := by
  rw [e_s6]; decide +kernel
theorem e_P2 : recoverPre g X2 .doNothing none = .ok (P2.1, P2.2.1, P2.2.2) := by
  rw [recoverPre_twin]; decide +kernel
theorem e_R2 : recover g X2 .doNothing [] none = .ok R2 := by
  rw [Rec.recover_none, e_P2]; simp only [runGc_twin]; decide +kernel
theorem wfg2 : ∀ j ∈ P2.1.gcJ g [], C07.WF j.e := by rw [gcJ_twin]; decide +kernel
theorem e_jg2 : C02W.ents (P2.1.gcJ g []) = [] := by rw [gcJ_twin]; decide +kernel
theorem e_img6 : applyOsOps X2 (toOsOps 0 {} R2.effects).2 = img6 ∧ (toOsOps 0 {} R2.effects).1 = {} := by
  decide +kernel

/-- every entry handed to the writer by history 1 -/
def Wfin : List Entry := W5 ++ [.truncate [97] 1]

/-- the state `S*` of history 1 is crash-reachable -/
theorem reachS : C02W.ReachXW g 0 R2.log img6 {} Wfin :=
  cast (C02W.ReachXW.crash c6 false [] 10 0 X2 .doNothing [] P2.1 P2.2.1 P2.2.2 R2 reach5 rfl wf6 torn6 e_X2
    e_P2 e_R2 wfg2) rfl e_img6.1 e_img6.2 (by rw [e_j6, e_jg2]; rfl)

/-- restarting `S*` changes nothing -/
theorem e_RS : recover g img6 .doNothing [] none = .ok { log := R2.log, effects := [.ensureLen 5 32], ioCalls := 29 } := by
  rw [recover_twin]; decide +kernel

end MRL.NV
