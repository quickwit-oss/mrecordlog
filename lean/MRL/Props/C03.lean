/-
C03, effect-order part: a WAL file is never removed while the data that supersedes it is still
only in a volatile buffer — every `unlink` comes after a full `flush, fsync(file), fsync(dir)` with
no write in between —, and every persisted operation has reached the OS / the disk when its call
returns. Stated on the effect lists of `Log.step` and `recover`, with the `BufWriter` consequences.
-/
import MRL.Props.C06
import MRL.Proofs.StepBuf

namespace MRL.C03
open MRL.Log MRL.Step

def isWrite : Effect → Bool
  | .write _ _ _ => true
  | _ => false

def noWrite (es : List Effect) : Bool := es.all fun e => !isWrite e

/-- progress towards a full sync: `dirty` (something may be volatile), `f1` (just flushed),
    `f2` (flushed and file-fsynced), `clean` (flush, fsync(file), fsync(dir) done, no write since) -/
inductive SyncSt
  | dirty | f1 | f2 | clean
  deriving DecidableEq, Repr

def syncStep : SyncSt → Effect → SyncSt
  | _, .write _ _ _ => .dirty
  | .clean, _ => .clean
  | _, .flush => .f1
  | .f1, .fsyncFile _ => .f2
  | .f2, .fsyncDir => .clean
  | _, _ => .dirty

def syncState (s : SyncSt) (es : List Effect) : SyncSt := es.foldl syncStep s

/-- every `unlink` happens in state `clean` -/
def unlinksOk : SyncSt → List Effect → Bool
  | _, [] => true
  | s, .unlink _ :: es => s == .clean && unlinksOk s es
  | s, e :: es => unlinksOk (syncStep s e) es

/-- every `unlink` is preceded by a full `flush, fsync(file), fsync(dir)` with no write in between -/
def syncedBeforeUnlinks (es : List Effect) : Bool := unlinksOk .dirty es

def flushStep : Bool → Effect → Bool
  | _, .write _ _ _ => false
  | _, .flush => true
  | b, _ => b

/-- the last write, if any, is followed by a `flush` -/
def endsFlushed (es : List Effect) : Bool := es.foldl flushStep true

/-- there is a `flush` with no write after it -/
def flushedAtEnd (es : List Effect) : Bool := es.foldl flushStep false

/-- the last write, if any, is followed by `flush, fsync(file), fsync(dir)` -/
def endsSynced (es : List Effect) : Bool := syncState .clean es == .clean

theorem noWrite_cons {e : Effect} {es : List Effect} (he : isWrite e = false) (h : noWrite es = true) :
    noWrite (e :: es) = true := by
  simp only [noWrite, List.all_cons, he, Bool.not_false, Bool.true_and]
  exact h

theorem syncState_append (s : SyncSt) (a b : List Effect) :
    syncState s (a ++ b) = syncState (syncState s a) b := by
  simp [syncState, List.foldl_append]

theorem syncStep_clean_of_not_write (e : Effect) (h : isWrite e = false) : syncStep .clean e = .clean := by
  cases e <;> first | rfl | (simp [isWrite] at h)

theorem syncStep_unlink (s : SyncSt) (f : Nat) (h : s = .clean) : syncStep s (.unlink f) = s := by
  subst h; rfl

theorem unlinksOk_append (a b : List Effect) :
    ∀ s, unlinksOk s (a ++ b) = (unlinksOk s a && unlinksOk (syncState s a) b) := by
  induction a with
  | nil => intro s; rfl
  | cons e es ih =>
    intro s
    cases e with
    | unlink f => cases s <;> first | rfl | exact ih _
    | _ => exact ih _

theorem unlinksOk_of_no_unlink (es : List Effect) (h : unlinked es = []) : ∀ s, unlinksOk s es = true := by
  induction es with
  | nil => intro s; rfl
  | cons e es ih =>
    intro s
    cases e with
    | unlink f => simp [unlinked] at h
    | _ => exact ih h _

theorem unlinksOk_unlinks (fs : List Nat) : unlinksOk .clean (fs.map Effect.unlink) = true := by
  induction fs with
  | nil => rfl
  | cons f fs ih => simp [unlinksOk, ih]

theorem syncState_unlinks (fs : List Nat) : syncState .clean (fs.map Effect.unlink) = .clean := by
  induction fs with
  | nil => rfl
  | cons f fs ih => exact ih

theorem syncState_triple (s : SyncSt) (l : Log) :
    syncState s (l.persistEffects .flushAndFsync) = .clean := by
  cases s <;> rfl

theorem flush_append (st : Bool) (a b : List Effect) :
    (a ++ b).foldl flushStep st = b.foldl flushStep (a.foldl flushStep st) := List.foldl_append

theorem flush_persist (st : Bool) (l : Log) (a : PersistAction) :
    (l.persistEffects a).foldl flushStep st = true := by
  cases a <;> rfl

theorem syncStep_eq_clean (s : SyncSt) (e : Effect) (h : syncStep s e = .clean) :
    (s = .clean ∧ isWrite e = false) ∨ (s = .f2 ∧ e = .fsyncDir) := by
  cases s with
  | clean => exact .inl ⟨rfl, by cases e <;> first | rfl | cases h⟩
  | f2 => cases e with
    | fsyncDir => exact .inr ⟨rfl, rfl⟩
    | _ => cases h
  | _ => cases e <;> cases h

theorem syncStep_eq_f2 (s : SyncSt) (e : Effect) (h : syncStep s e = .f2) :
    s = .f1 ∧ ∃ c, e = .fsyncFile c := by
  cases e with
  | fsyncFile c => cases s with
    | f1 => exact ⟨rfl, c, rfl⟩
    | _ => cases h
  | _ => cases s <;> cases h

theorem syncStep_eq_f1 (s : SyncSt) (e : Effect) (h : syncStep s e = .f1) : e = .flush := by
  cases e with
  | flush => rfl
  | _ => cases s <;> cases h

theorem clean_decomp (es : List Effect) : ∀ s, syncState s es = .clean →
    (∃ a c b, es = a ++ [.flush, .fsyncFile c, .fsyncDir] ++ b ∧ noWrite b = true) ∨
    (s = .clean ∧ noWrite es = true) ∨
    (s = .f2 ∧ ∃ b, es = .fsyncDir :: b ∧ noWrite b = true) ∨
    (s = .f1 ∧ ∃ c b, es = .fsyncFile c :: .fsyncDir :: b ∧ noWrite b = true) := by
  induction es with
  | nil => intro s h; exact .inr (.inl ⟨h, rfl⟩)
  | cons e es ih =>
    intro s h
    have h' : syncState (syncStep s e) es = .clean := h
    rcases ih _ h' with ⟨a, c, b, rfl, hb⟩ | ⟨hs, hn⟩ | ⟨hs, b, rfl, hb⟩ | ⟨hs, c, b, rfl, hb⟩
    · exact .inl ⟨e :: a, c, b, by simp, hb⟩
    · rcases syncStep_eq_clean s e hs with ⟨h1, h2⟩ | ⟨h1, h2⟩
      · exact .inr (.inl ⟨h1, noWrite_cons h2 hn⟩)
      · subst h2; exact .inr (.inr (.inl ⟨h1, es, rfl, hn⟩))
    · obtain ⟨h1, c, rfl⟩ := syncStep_eq_f2 s e hs
      exact .inr (.inr (.inr ⟨h1, c, b, rfl, hb⟩))
    · have := syncStep_eq_f1 s e hs
      subst this
      exact .inl ⟨[], c, b, rfl, hb⟩

/-- **Explicit form of the unlink discipline.** However the effect list is split at an `unlink`,
    what precedes it ends with `flush, fsync(file), fsync(dir)` followed by write-free effects. -/
theorem split_of_synced (es : List Effect) (h : syncedBeforeUnlinks es = true)
    (pre post : List Effect) (f : Nat) (hes : es = pre ++ [.unlink f] ++ post) :
    ∃ a c b, pre = a ++ [.flush, .fsyncFile c, .fsyncDir] ++ b ∧ noWrite b = true := by
  subst hes
  rw [syncedBeforeUnlinks, List.append_assoc, unlinksOk_append] at h
  simp only [List.singleton_append, unlinksOk, Bool.and_eq_true, beq_iff_eq] at h
  rcases clean_decomp pre .dirty h.2.1 with r | ⟨hs, _⟩ | ⟨hs, _⟩ | ⟨hs, _⟩
  · exact r
  · cases hs
  · cases hs
  · cases hs

theorem endsSynced_split (es : List Effect) (h : endsSynced es = true) :
    noWrite es = true ∨ ∃ a c b, es = a ++ [.flush, .fsyncFile c, .fsyncDir] ++ b ∧ noWrite b = true := by
  simp only [endsSynced, beq_iff_eq] at h
  rcases clean_decomp es .clean h with r | ⟨_, hn⟩ | ⟨hs, _⟩ | ⟨hs, _⟩
  · exact .inr r
  · exact .inl hn
  · cases hs
  · cases hs

theorem flush_decomp (es : List Effect) : ∀ st, es.foldl flushStep st = true →
    (st = true ∧ noWrite es = true) ∨ ∃ a b, es = a ++ [.flush] ++ b ∧ noWrite b = true := by
  induction es with
  | nil => intro st h; exact .inl ⟨h, rfl⟩
  | cons e es ih =>
    intro st h
    have h' : es.foldl flushStep (flushStep st e) = true := h
    rcases ih _ h' with ⟨hs, hn⟩ | ⟨a, b, rfl, hb⟩
    · cases e with
      | write f off d => cases hs
      | flush => exact .inr ⟨[], es, rfl, hn⟩
      | _ => exact .inl ⟨hs, noWrite_cons rfl hn⟩
    · exact .inr ⟨e :: a, b, by simp, hb⟩

theorem endsFlushed_split (es : List Effect) (h : endsFlushed es = true) :
    noWrite es = true ∨ ∃ a b, es = a ++ [.flush] ++ b ∧ noWrite b = true := by
  rcases flush_decomp es true h with ⟨_, hn⟩ | r
  · exact .inl hn
  · exact .inr r

theorem flushedAtEnd_split (es : List Effect) (h : flushedAtEnd es = true) :
    ∃ a b, es = a ++ [.flush] ++ b ∧ noWrite b = true := by
  rcases flush_decomp es false h with ⟨hs, _⟩ | r
  · cases hs
  · exact r

/-! ### (a) every unlink is preceded by a full sync -/

section
variable (g : Geom)

/-- the unlink discipline along a call, from any state: only the end of a GC pass unlinks, and its
    unlinks come right after the full sync -/
theorem along_unlinksOk : AlongCall g fun _ es _ _ => ∀ s, unlinksOk s es = true where
  nil _ _ := rfl
  app h1 h2 s := by rw [unlinksOk_append, h1, h2]; rfl
  entry l e := unlinksOk_of_no_unlink _ (writeEntry_unlinked g l e)
  sync l a := unlinksOk_of_no_unlink _ (unlinked_persist l a)
  queues _ _ _ := rfl
  unlinks l _ s := by
    rw [unlinksOk_append, unlinksOk_of_no_unlink _ (unlinked_persist l _), syncState_triple, unlinksOk_unlinks]
    rfl

theorem runGc_unlinksOk (l : Log) (order : List Bytes) (s : SyncSt) :
    unlinksOk s (runGc g l order).2.1 = true :=
  (along_unlinksOk g).runGc l order s

theorem step_unlinksOk (l : Log) (c : Call) (tick : Bool) (order : List Bytes) (s : SyncSt) :
    unlinksOk s (Log.step g l c tick order).2.2 = true :=
  (along_unlinksOk g).step l c tick order s

/-- **C03 (a).** In the effects of every call, each `unlink` comes after a complete
    `flush, fsync(file), fsync(dir)` with no write in between. -/
theorem unlink_after_sync (l : Log) (c : Call) (tick : Bool) (order : List Bytes) :
    syncedBeforeUnlinks (Log.step g l c tick order).2.2 = true :=
  step_unlinksOk g l c tick order .dirty

theorem unlink_after_sync_open (img : Image) (policy : Policy) (order : List Bytes) (failAt : Option Nat)
    (r : Recovered) (h : recover g img policy order failAt = .ok r) :
    syncedBeforeUnlinks r.effects = true := by
  obtain ⟨lp, e0, io, hpre, _, heff⟩ := recover_ok g img policy order failAt r h
  rw [heff, syncedBeforeUnlinks, unlinksOk_append, runGc_unlinksOk, Bool.and_true]
  apply unlinksOk_of_no_unlink
  rw [recoverPre_effects g img policy failAt lp e0 io hpre]
  exact prepareImage_unlinked g img

theorem unlink_after_sync_split (l : Log) (c : Call) (tick : Bool) (order : List Bytes)
    (pre post : List Effect) (f : Nat) (h : (Log.step g l c tick order).2.2 = pre ++ [.unlink f] ++ post) :
    ∃ a cf b, pre = a ++ [.flush, .fsyncFile cf, .fsyncDir] ++ b ∧ noWrite b = true :=
  split_of_synced _ (unlink_after_sync g l c tick order) pre post f h

end

/-! ### (b) persist points -/

section
variable (g : Geom) (l : Log) (tick : Bool) (order : List Bytes)

theorem endsSynced_of_triple (pre : List Effect) (l' : Log) :
    endsSynced (pre ++ l'.persistEffects .flushAndFsync) = true := by
  simp [endsSynced, syncState_append, syncState_triple]

theorem endsFlushed_of_persist (pre : List Effect) (l' : Log) (a : PersistAction) :
    endsFlushed (pre ++ l'.persistEffects a) = true := by
  rw [endsFlushed, flush_append, flush_persist]

theorem flushedAtEnd_of_persist (pre : List Effect) (l' : Log) (a : PersistAction) :
    flushedAtEnd (pre ++ l'.persistEffects a) = true := by
  rw [flushedAtEnd, flush_append, flush_persist]

/-- **C03 (b).** `create_queue`, when not rejected, ends with flush + fsync of the file and the
    directory after its last write. -/
theorem create_synced (q : Bytes) (h : l.queues.contains q = false) :
    endsSynced (Log.step g l (.create q) tick order).2.2 = true ∧
    flushedAtEnd (Log.step g l (.create q) tick order).2.2 = true := by
  rw [step_create_eq g l q tick order h]
  exact ⟨endsSynced_of_triple _ _, flushedAtEnd_of_persist _ _ _⟩

/-- **C03 (b).** `delete_queue`, when not rejected, likewise (the GC pass included). -/
theorem delete_synced (q : Bytes) (mq : MemQueue) (h : l.queues.get? q = some mq) :
    endsSynced (Log.step g l (.delete q) tick order).2.2 = true ∧
    flushedAtEnd (Log.step g l (.delete q) tick order).2.2 = true := by
  rw [step_delete_eq g l q mq tick order h]
  exact ⟨endsSynced_of_triple _ _, flushedAtEnd_of_persist _ _ _⟩

theorem persist_flush : (Log.step g l (.persist .flush) tick order).2.2 = [.flush] := rfl

theorem persist_flushAndFsync :
    (Log.step g l (.persist .flushAndFsync) tick order).2.2 = [.flush, .fsyncFile l.cur, .fsyncDir] := rfl

theorem step_tail (c : Call) :
    (Log.step g l c tick order).2.2 = [] ∨ (∃ a, c = .persist a) ∨
    ∃ pre, (Log.step g l c tick order).2.2 = pre ++ tailSync (Log.step g l c tick order).1 c tick := by
  rcases step_shape g l c tick order with ⟨out, hs⟩ | ⟨a, hc, _⟩ | ⟨e, qs', out, hs⟩
  · left; rw [hs]
  · right; left; exact ⟨a, hc⟩
  · right; right; rw [hs]; exact ⟨_, rfl⟩

theorem step_triple_tail (c : Call) (hnp : ∀ a, c ≠ .persist a) (hne : (Log.step g l c tick order).2.2 ≠ [])
    (ht : tailSync (Log.step g l c tick order).1 c tick =
      (Log.step g l c tick order).1.persistEffects .flushAndFsync) :
    ∃ pre f, (Log.step g l c tick order).2.2 = pre ++ [.flush, .fsyncFile f, .fsyncDir] := by
  rcases step_tail g l tick order c with h | ⟨a, h⟩ | ⟨pre, h⟩
  · exact absurd h hne
  · exact absurd h (hnp a)
  · exact ⟨pre, (Log.step g l c tick order).1.cur, by rw [h, ht]; rfl⟩

theorem tailSync_of_policy (l' : Log) (c : Call) (a : PersistAction)
    (hp : l'.policyEffects tick = l'.persistEffects a) :
    tailSync l' c tick = l'.persistEffects a ∨ tailSync l' c tick = l'.persistEffects .flushAndFsync := by
  unfold tailSync
  split
  · exact .inr rfl
  · exact .inl hp

theorem tailSync_always (l' : Log) (c : Call) (a : PersistAction) (hp : l'.policy = .always a) :
    tailSync l' c tick = l'.persistEffects a ∨ tailSync l' c tick = l'.persistEffects .flushAndFsync :=
  tailSync_of_policy tick l' c a (by unfold policyEffects; rw [hp])

theorem tailSync_onDelay (l' : Log) (c : Call) (a : PersistAction) (hp : l'.policy = .onDelay a) :
    tailSync l' c true = l'.persistEffects a ∨ tailSync l' c true = l'.persistEffects .flushAndFsync :=
  tailSync_of_policy true l' c a (by unfold policyEffects; rw [hp]; rfl)

theorem persists_of_tail (c : Call) (a : PersistAction)
    (ht : tailSync (Log.step g l c tick order).1 c tick = (Log.step g l c tick order).1.persistEffects a ∨
      tailSync (Log.step g l c tick order).1 c tick = (Log.step g l c tick order).1.persistEffects .flushAndFsync) :
    endsFlushed (Log.step g l c tick order).2.2 = true ∧
    (a = .flushAndFsync → endsSynced (Log.step g l c tick order).2.2 = true) ∧
    ((Log.step g l c tick order).2.2 ≠ [] → flushedAtEnd (Log.step g l c tick order).2.2 = true) := by
  rcases step_tail g l tick order c with h | ⟨a', rfl⟩ | ⟨pre, h⟩
  · rw [h]; exact ⟨rfl, fun _ => rfl, fun hne => absurd rfl hne⟩
  · cases a' <;> exact ⟨rfl, fun _ => rfl, fun _ => rfl⟩
  · rcases ht with e | e <;> rw [e] at h <;> rw [h]
    · exact ⟨endsFlushed_of_persist _ _ _, fun ha => ha ▸ endsSynced_of_triple _ _,
        fun _ => flushedAtEnd_of_persist _ _ _⟩
    · exact ⟨endsFlushed_of_persist _ _ _, fun _ => endsSynced_of_triple _ _, fun _ => flushedAtEnd_of_persist _ _ _⟩

/-- **C03 (b).** Under `PersistPolicy::Always(a)` every call — in particular every `append` and
    `truncate` — ends flushed; with `a = FlushAndFsync` it ends fully synced. -/
theorem always_persists (c : Call) (a : PersistAction) (hp : l.policy = .always a) :
    endsFlushed (Log.step g l c tick order).2.2 = true ∧
    (a = .flushAndFsync → endsSynced (Log.step g l c tick order).2.2 = true) := by
  have h := persists_of_tail g l tick order c a
    (tailSync_always tick _ c a (by rw [C14.step_keeps_policy]; exact hp))
  exact ⟨h.1, h.2.1⟩

/-- **C03 (b).** Under `PersistPolicy::OnDelay(a)`, a call made when the delay has elapsed
    (`tick = true`) likewise. -/
theorem onDelay_persists (c : Call) (a : PersistAction) (hp : l.policy = .onDelay a) :
    endsFlushed (Log.step g l c true order).2.2 = true ∧
    (a = .flushAndFsync → endsSynced (Log.step g l c true order).2.2 = true) := by
  have h := persists_of_tail g l true order c a
    (tailSync_onDelay _ c a (by rw [C14.step_keeps_policy]; exact hp))
  exact ⟨h.1, h.2.1⟩

/-- a call that wrote something under `Always(_)` (or `OnDelay(_)` at a tick) left a flush behind
    its last write -/
theorem always_flushedAtEnd (c : Call) (a : PersistAction) (hp : l.policy = .always a)
    (hne : (Log.step g l c tick order).2.2 ≠ []) : flushedAtEnd (Log.step g l c tick order).2.2 = true :=
  (persists_of_tail g l tick order c a
    (tailSync_always tick _ c a (by rw [C14.step_keeps_policy]; exact hp))).2.2 hne

end

/-! ### (c) consequences for the `BufWriter` -/

theorem pend_after (cap : Nat) (es : List Effect) : ∀ (b : BufSt) (st : Bool), (st = true → b.pend = []) →
    es.foldl flushStep st = true → (toOsOps cap b es).1.pend = [] := by
  induction es with
  | nil => intro b st hinv h; exact hinv h
  | cons e es ih =>
    intro b st hinv h
    rw [Buf.toOsOps_cons]
    refine ih _ (flushStep st e) ?_ h
    cases e with
    | write f off d => intro h'; cases h'
    | flush => intro _; rfl
    | _ => exact hinv

/-- **C03 (c).** If a flush follows the last write, nothing is left in the user-space buffer. -/
theorem buffer_empty_of_flushedAtEnd (cap : Nat) (b : BufSt) (es : List Effect) (h : flushedAtEnd es = true) :
    (toOsOps cap b es).1.pend = [] :=
  pend_after cap es b false (fun h => by cases h) h

theorem buffer_empty_of_endsFlushed (cap : Nat) (b : BufSt) (es : List Effect) (hb : b.pend = [])
    (h : endsFlushed es = true) : (toOsOps cap b es).1.pend = [] :=
  pend_after cap es b true (fun _ => hb) h

/-- a successful `create_queue` leaves the `BufWriter` empty, whatever was pending before -/
theorem create_leaves_buffer_empty (g : Geom) (l : Log) (tick : Bool) (order : List Bytes) (q : Bytes)
    (h : l.queues.contains q = false) (cap : Nat) (b : BufSt) :
    (toOsOps cap b (Log.step g l (.create q) tick order).2.2).1.pend = [] :=
  buffer_empty_of_flushedAtEnd cap b _ (create_synced g l tick order q h).2

theorem delete_leaves_buffer_empty (g : Geom) (l : Log) (tick : Bool) (order : List Bytes) (q : Bytes)
    (mq : MemQueue) (h : l.queues.get? q = some mq) (cap : Nat) (b : BufSt) :
    (toOsOps cap b (Log.step g l (.delete q) tick order).2.2).1.pend = [] :=
  buffer_empty_of_flushedAtEnd cap b _ (delete_synced g l tick order q mq h).2

/-- the sync state bounds the buffer: outside `dirty`, nothing is pending -/
theorem sync_step_inv (cap : Nat) (b : BufSt) (s : SyncSt) (e : Effect) (hinv : s ≠ .dirty → b.pend = [])
    (hs : syncStep s e ≠ .dirty) : (bufStep cap b e).1.pend = [] := by
  cases e with
  | write f off d => exact absurd rfl hs
  | flush => rfl
  | _ => exact hinv fun hd => by subst hd; exact hs rfl

theorem sync_inv (cap : Nat) (es : List Effect) : ∀ (b : BufSt) (s : SyncSt), (s ≠ .dirty → b.pend = []) →
    (syncState s es ≠ .dirty → (toOsOps cap b es).1.pend = []) := by
  induction es with
  | nil => intro b s hinv h; exact hinv h
  | cons e es ih =>
    intro b s hinv h
    rw [Buf.toOsOps_cons]
    exact ih _ (syncStep s e) (sync_step_inv cap b s e hinv) h

/-- every `unlink` is issued with an empty buffer -/
def unlinkClean (cap : Nat) : BufSt → List Effect → Bool
  | _, [] => true
  | b, .unlink _ :: es => b.pend.isEmpty && unlinkClean cap b es
  | b, e :: es => unlinkClean cap (bufStep cap b e).1 es

theorem unlinkClean_of_ok (cap : Nat) (es : List Effect) : ∀ (b : BufSt) (s : SyncSt),
    (s ≠ .dirty → b.pend = []) → unlinksOk s es = true → unlinkClean cap b es = true := by
  induction es with
  | nil => intro b s _ _; rfl
  | cons e es ih =>
    intro b s hinv h
    cases e with
    | unlink f =>
      simp only [unlinksOk, Bool.and_eq_true, beq_iff_eq] at h
      have hp : b.pend = [] := hinv (by rw [h.1]; decide)
      simp only [unlinkClean, hp, List.isEmpty_nil, Bool.true_and]
      exact ih b s hinv h.2
    | _ => exact ih _ _ (sync_step_inv cap b s _ hinv) h

/-- **C03 (c).** In the OS-level run of a disciplined effect list, every `unlink` is issued with
    an empty `BufWriter`. -/
theorem flush_then_unlink (cap : Nat) (b : BufSt) (es : List Effect) (h : syncedBeforeUnlinks es = true) :
    unlinkClean cap b es = true :=
  unlinkClean_of_ok cap es b .dirty (fun h => absurd rfl h) h

/-- Hence the OS operations before an `unlink` are *all* the operations of the earlier effects: at
    whatever `unlink` the list is split, the OS-level list splits there too and nothing is pending. -/
theorem flush_then_unlink_image (cap : Nat) (b : BufSt) (es pre post : List Effect) (f : Nat)
    (h : syncedBeforeUnlinks es = true) (hes : es = pre ++ [.unlink f] ++ post) :
    (toOsOps cap b pre).1.pend = [] ∧
    (toOsOps cap b es).2 =
      (toOsOps cap b pre).2 ++ [OsOp.unlink f] ++ (toOsOps cap (toOsOps cap b pre).1 post).2 := by
  subst hes
  have h' := h
  rw [syncedBeforeUnlinks, List.append_assoc, unlinksOk_append] at h'
  simp only [List.singleton_append, unlinksOk, Bool.and_eq_true, beq_iff_eq] at h'
  refine ⟨sync_inv cap pre b .dirty (fun h => absurd rfl h) (by rw [h'.2.1]; decide), ?_⟩
  rw [List.append_assoc, Buf.toOsOps_append, List.singleton_append, Buf.toOsOps_cons]
  simp [bufStep, List.append_assoc]

theorem step_unlinks_clean (g : Geom) (l : Log) (c : Call) (tick : Bool) (order : List Bytes)
    (cap : Nat) (b : BufSt) : unlinkClean cap b (Log.step g l c tick order).2.2 = true :=
  flush_then_unlink cap b _ (unlink_after_sync g l c tick order)

/-- the truncation of `C06.lx_truncate`: two writes, the sync triple, two unlinks, in that order -/
example :
    let es := (Log.step C06.g64 C06.lx (.truncate [1] 0) false []).2.2
    es.map isWrite = [true, true, false, false, false, false, false] ∧
    es.drop 2 = [.flush, .fsyncFile 2, .fsyncDir, .unlink 0, .unlink 1] ∧
    syncedBeforeUnlinks es = true ∧ endsSynced es = true ∧ flushedAtEnd es = true := by
  rw [C06.lx_truncate]
  exact ⟨rfl, rfl, rfl, rfl, rfl⟩

/-- the checker is not vacuous: an unlink right after a write, or after a flush only, is refused -/
example : syncedBeforeUnlinks [.write 0 0 [1], .unlink 0] = false ∧
    syncedBeforeUnlinks [.write 0 0 [1], .flush, .unlink 0] = false ∧
    syncedBeforeUnlinks [.flush, .fsyncFile 0, .fsyncDir, .write 0 0 [1], .unlink 0] = false ∧
    syncedBeforeUnlinks [.write 0 0 [1], .flush, .fsyncFile 0, .fsyncDir, .unlink 0, .unlink 1] = true ∧
    endsFlushed [.flush, .write 0 0 [1]] = false ∧ endsSynced [.write 0 0 [1], .flush] = false := by
  decide

end MRL.C03
