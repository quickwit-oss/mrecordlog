/-
C16 across calls: what each API call does to `memory_used_bytes`. `create_queue` adds the name;
`delete_queue` gives back the name and the queue's size; an effective append adds the payloads plus
one `RecordMeta` per record; `truncate` gives back the evicted payloads and metas; rejected and
no-op calls change nothing. Distinct queue names (`C05.Inv`) are needed: the total is a sum over
an association list.
-/
import MRL.Props.C16
import MRL.Proofs.QSum
import MRL.Props.C13

namespace MRL.C16K
open Log C16

variable (msz : Nat)

/-! ### `set` and `remove` on maps with distinct names: one slot changes (`MemQueues.sum_slot`) -/

theorem used_remove (qs : MemQueues) (hnd : (qs.map (·.1)).Nodup) (n : Bytes) (q0 : MemQueue)
    (hg : qs.get? n = some q0) :
    MemQueues.usedBytes msz (qs.remove n) + n.length + q0.size msz = MemQueues.usedBytes msz qs := by
  have := MemQueues.sum_slot (MemQueue.size msz) hnd (remove_keys_nodup qs n hnd) n
    fun m hm => MemQueues.get?_remove_other qs n m hm
  rw [hg, MemQueues.get?_remove_same] at this
  exact (Nat.add_assoc _ _ _).trans this

theorem used_set_new (qs : MemQueues) (n : Bytes) (q : MemQueue) (hg : qs.get? n = none) :
    MemQueues.usedBytes msz (qs.set n q) = MemQueues.usedBytes msz qs + n.length + q.size msz := by
  have hc : qs.contains n = false := by rw [MemQueues.contains_isSome, hg]; rfl
  simp only [MemQueues.set, hc, Bool.false_eq_true, if_false, MemQueues.usedBytes, List.map_append,
    List.sum_append, List.map_cons, List.map_nil, List.sum_cons, List.sum_nil]
  omega

theorem used_set_replace (qs : MemQueues) (hnd : (qs.map (·.1)).Nodup) (n : Bytes) (q0 q : MemQueue)
    (hg : qs.get? n = some q0) :
    MemQueues.usedBytes msz (qs.set n q) + q0.size msz = MemQueues.usedBytes msz qs + q.size msz := by
  have := MemQueues.used_set msz qs hnd n q
  rw [hg] at this
  simp only [MemQueues.slotCost] at this
  omega

variable (g : Geom) (l : Log) (tick : Bool) (order : List Bytes)

/-- (a) **create** adds exactly the name -/
theorem C16_create (q : Bytes) (hg : l.queues.get? q = none) :
    MemQueues.usedBytes msz (Log.step g l (.create q) tick order).1.queues =
      MemQueues.usedBytes msz l.queues + q.length := by
  have hc : l.queues.contains q = false := by rw [MemQueues.contains_isSome, hg]; rfl
  rw [(Step.step_log g l (Step.Does.create q hc).act_eq tick order).1, used_set_new msz _ q {} hg]
  simp [MemQueue.size]

/-- (b) **delete** gives back the name and the queue's size -/
theorem C16_delete (hI : C05.Inv l) (q : Bytes) (mq : MemQueue) (hg : l.queues.get? q = some mq) :
    MemQueues.usedBytes msz (Log.step g l (.delete q) tick order).1.queues + q.length + mq.size msz =
      MemQueues.usedBytes msz l.queues := by
  rw [(Step.step_log g l (Step.Does.delete q mq hg).act_eq tick order).1]
  exact used_remove msz l.queues hI.1 q mq hg

/-- (c) an effective **append** adds the payload bytes plus one `RecordMeta` per record -/
theorem C16_append (hI : C05.Inv l) (q : Bytes) (mq : MemQueue) (pos? : Option Nat) (pls : List Bytes)
    (hg : l.queues.get? q = some mq) (hp : ∀ p, pos? = some p → mq.nextPosition ≤ p) (hne : pls ≠ []) :
    MemQueues.usedBytes msz (Log.step g l (.append q pos? pls) tick order).1.queues =
      MemQueues.usedBytes msz l.queues + (pls.map List.length).sum + msz * pls.length := by
  have hat : Step.appendAt mq pos? pls = .ok (pos?.getD mq.nextPosition) :=
    Step.appendAt_eq_ok.mpr ⟨hne, rfl, by
      cases pos? with
      | none => exact Nat.le_refl _
      | some p => exact hp p rfl⟩
  obtain ⟨mq', hall⟩ := Step.appendAll_isSome l.cur pls mq _ (Step.appendAt_eq_ok.mp hat).2.2
  rw [(Step.step_log g l (Step.Does.append q mq mq' pos? pls _ hg hat hall).act_eq tick order).1]
  have h1 := used_set_replace msz l.queues hI.1 q mq mq' hg
  have h2 := appendAll_size msz l.cur _ mq mq' hall
  have h3 : ((numberFrom (pos?.getD mq.nextPosition) pls).map (·.2.length)).sum = (pls.map List.length).sum := by
    have := congrArg (List.map List.length) (numberFrom_payloads (pos?.getD mq.nextPosition) pls)
    rw [List.map_map] at this
    exact congrArg List.sum this
  rw [h3, numberFrom_length] at h2
  omega

/-- (d) **truncate** gives back the evicted payloads and one `RecordMeta` per evicted record
    (nothing when the bound is below the queue's start) -/
theorem C16_truncate (hI : C05.Inv l) (q : Bytes) (mq : MemQueue) (p : Nat) (hg : l.queues.get? q = some mq) :
    (mq.start ≤ p →
      MemQueues.usedBytes msz (Log.step g l (.truncate q p) tick order).1.queues +
        evictedBytes mq p + msz * (mq.truncateHead p).2 = MemQueues.usedBytes msz l.queues) ∧
    (mq.start > p →
      MemQueues.usedBytes msz (Log.step g l (.truncate q p) tick order).1.queues =
        MemQueues.usedBytes msz l.queues) := by
  rw [(Step.step_log g l (Step.Does.truncate q p mq hg).act_eq tick order).1]
  have h1 := used_set_replace msz l.queues hI.1 q mq (mq.truncateHead p).1 hg
  have hq := C05.Inv.get hI hg
  constructor
  · intro hs
    have h2 := C16_truncate_drop msz mq p hq.1 hs
    omega
  · intro hs
    rw [C16_truncate_noop mq p hs] at h1 ⊢
    simp only at h1 ⊢
    omega

/-- (e) **rejected / no-op calls** change nothing -/
theorem C16_rejected (c : Call) (out : Outcome) (h : C13.Rejected l c out) :
    MemQueues.usedBytes msz (Log.step g l c tick order).1.queues = MemQueues.usedBytes msz l.queues := by
  rw [C13.C13_no_trace g l tick order c out h]

/-- `persist` changes nothing either -/
theorem C16_persist (a : PersistAction) :
    MemQueues.usedBytes msz (Log.step g l (.persist a) tick order).1.queues = MemQueues.usedBytes msz l.queues := rfl

/-- non-vacuity: C16's example map (84 bytes with 24-byte metas) sits in a log that satisfies the
    invariant (b)–(d) assume -/
example : let l : Log := { files := [0], cur := 0, off := 0, policy := .doNothing, queues := C16.qsEx }
    MemQueues.usedBytes 24 l.queues = 84 ∧ C05.Inv l := by
  refine ⟨by decide, by decide, ?_⟩
  intro kv hkv
  simp only [C16.qsEx, List.mem_cons, List.not_mem_nil, or_false] at hkv
  rcases hkv with rfl | rfl <;> exact ⟨by decide, by decide⟩

end MRL.C16K
