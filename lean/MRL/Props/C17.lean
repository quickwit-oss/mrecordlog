/-
C17: only `wal-<20 ASCII digits>` names (value fitting a `u64`) are WAL files; `fileName` and
`parseFileName` are mutually inverse on `u64`; every file a call touches is a tracked file number, except
possibly one both created and unlinked by that call (`effects_named_partial`; the exception is needed in
tiny geometries: `effects_named_false`).
-/
import MRL.Proofs.StepLemmas
import MRL.Model.FileName

namespace MRL.C17
open MRL.Log MRL.Step MRL.Consts

theorem namePrefix_eq : namePrefix = [119, 97, 108, 45] := by
  unfold namePrefix Consts.NAME_PREFIX
  with_unfolding_all decide

theorem namePrefix_length : namePrefix.length = 4 := by rw [namePrefix_eq]; rfl

theorem decDigits_length (n k : Nat) : (decDigits n k).length = k := by
  induction k generalizing n with
  | zero => rfl
  | succ k ih => simp [decDigits, ih]

theorem digit_toNat (d : Nat) (h : d < 10) : (48 + d).toUInt8.toNat = 48 + d := by
  rw [Nat.toUInt8_eq, UInt8.toNat_ofNat']
  exact Nat.mod_eq_of_lt (Nat.lt_of_lt_of_le (Nat.add_lt_add_left h 48) (by decide))

theorem asciiDigit_iff (b : UInt8) : asciiDigit b = true ↔ 48 ≤ b.toNat ∧ b.toNat ≤ 57 := by
  simp [asciiDigit]

theorem decDigits_ascii (n k : Nat) : ∀ b ∈ decDigits n k, asciiDigit b = true := by
  induction k generalizing n with
  | zero => intro b hb; cases hb
  | succ k ih =>
    intro b hb
    rcases List.mem_append.mp hb with hb | hb
    · exact ih _ b hb
    · have hlt : n % 10 < 10 := Nat.mod_lt n (by decide)
      rw [List.mem_singleton.mp hb, asciiDigit_iff, digit_toNat _ hlt]
      exact ⟨Nat.le_add_right _ _, Nat.add_le_add_left (Nat.le_of_lt_succ hlt) 48⟩

theorem decValue_snoc (ds : Bytes) (b : UInt8) : decValue (ds ++ [b]) = decValue ds * 10 + (b.toNat - 48) := by
  unfold decValue
  rw [List.foldl_append]
  rfl

theorem decValue_decDigits (n k : Nat) : decValue (decDigits n k) = n % 10 ^ k := by
  induction k generalizing n with
  | zero => rw [Nat.pow_zero, Nat.mod_one]; rfl
  | succ k ih =>
    rw [decDigits, decValue_snoc, ih, digit_toNat _ (Nat.mod_lt _ (by decide)), Nat.pow_succ,
      Nat.mul_comm (10 ^ k) 10, Nat.mod_mul, Nat.add_sub_cancel_left, Nat.mul_comm, Nat.add_comm]

theorem decDigits_decValue_rev (rs : Bytes) (h : ∀ b ∈ rs, asciiDigit b = true) :
    decDigits (decValue rs.reverse) rs.length = rs.reverse := by
  induction rs with
  | nil => rfl
  | cons b rs ih =>
    obtain ⟨hb1, hb2⟩ := (asciiDigit_iff b).mp (h b List.mem_cons_self)
    have ih' := ih (fun x hx => h x (List.mem_cons_of_mem _ hx))
    have hd : b.toNat - 48 < 10 := Nat.sub_lt_left_of_lt_add hb1 (Nat.lt_succ_of_le hb2)
    rw [List.reverse_cons, decValue_snoc, List.length_cons, decDigits, Nat.add_comm (_ * 10),
      Nat.add_mul_div_right _ _ (by decide : 0 < 10), Nat.div_eq_of_lt hd, Nat.zero_add,
      Nat.add_mul_mod_self_right, Nat.mod_eq_of_lt hd, ih', Nat.add_sub_cancel' hb1, Nat.toUInt8_eq,
      UInt8.ofNat_toNat]

theorem decDigits_decValue (ds : Bytes) (h : ds.all asciiDigit = true) :
    decDigits (decValue ds) ds.length = ds := by
  have := decDigits_decValue_rev ds.reverse (by
    intro b hb
    exact List.all_eq_true.mp h b (List.mem_reverse.mp hb))
  simpa using this

theorem fileName_length (n : Nat) : (fileName n).length = NAME_LEN := by
  simp [fileName, namePrefix_length, decDigits_length, NAME_DIGITS, NAME_LEN]

theorem fileName_drop (n : Nat) : (fileName n).drop 4 = decDigits n NAME_DIGITS :=
  List.drop_left' namePrefix_length

theorem two64_lt : 2 ^ 64 < 10 ^ 20 := by decide

/-- the three tests of `filename_to_position` and the range check, read off the definition -/
theorem parse_eq_some (s : Bytes) (n : Nat) : parseFileName s = some n ↔
    s.length = NAME_LEN ∧ s.take 4 = namePrefix ∧ (s.drop 4).all asciiDigit = true ∧
      decValue (s.drop 4) = n ∧ n < 2 ^ 64 := by
  unfold parseFileName
  by_cases h1 : s.length = NAME_LEN
  case neg => rw [if_pos h1]; exact ⟨nofun, fun h => absurd h.1 h1⟩
  by_cases h2 : s.take 4 = namePrefix
  case neg => rw [if_neg (not_not_intro h1), if_pos h2]; exact ⟨nofun, fun h => absurd h.2.1 h2⟩
  rw [if_neg (not_not_intro h1), if_neg (not_not_intro h2)]
  show (if (!(s.drop 4).all asciiDigit) = true then none else _) = some n ↔ _
  cases (s.drop 4).all asciiDigit
  case false => exact ⟨nofun, fun h => nomatch h.2.2.1⟩
  rw [Bool.not_true, if_neg Bool.false_ne_true]
  by_cases h4 : decValue (s.drop 4) < 2 ^ 64
  · rw [if_pos h4]
    exact ⟨fun h => ⟨h1, h2, rfl, Option.some.inj h, Option.some.inj h ▸ h4⟩, fun h => congrArg some h.2.2.2.1⟩
  · rw [if_neg h4]
    exact ⟨nofun, fun h => absurd (h.2.2.2.1 ▸ h.2.2.2.2) h4⟩

/-- **C17.** Every `u64` file number round-trips through its name. -/
theorem parse_fileName (n : Nat) (h : n < 2 ^ 64) : parseFileName (fileName n) = some n := by
  rw [parse_eq_some, fileName_drop, decValue_decDigits]
  exact ⟨fileName_length n, List.take_left' namePrefix_length, List.all_eq_true.mpr (decDigits_ascii n _),
    Nat.mod_eq_of_lt (Nat.lt_trans h two64_lt), h⟩

/-- **C17.** Only names of the form `wal-<20 ASCII digits>` with a value below `2^64` parse, and
    they parse to the number they render: exactly 24 bytes, the 4-byte prefix, 20 digits. -/
theorem parse_format (s : Bytes) (n : Nat) (h : parseFileName s = some n) : s = fileName n ∧ n < 2 ^ 64 := by
  obtain ⟨hlen, hpre, hdig, rfl, hlt⟩ := (parse_eq_some s n).mp h
  have hl : (s.drop 4).length = NAME_DIGITS := by rw [List.length_drop, hlen]; rfl
  refine ⟨?_, hlt⟩
  rw [fileName, ← hl, decDigits_decValue _ hdig, ← hpre, List.take_append_drop]

theorem parse_some_iff (s : Bytes) (n : Nat) : parseFileName s = some n ↔ s = fileName n ∧ n < 2 ^ 64 :=
  ⟨parse_format s n, fun ⟨hs, hn⟩ => hs ▸ parse_fileName n hn⟩

theorem parse_injective (s s' : Bytes) (n : Nat) (h : parseFileName s = some n) (h' : parseFileName s' = some n) :
    s = s' := by
  rw [(parse_format s n h).1, (parse_format s' n h').1]

theorem fileName_injective (n m : Nat) (hn : n < 2 ^ 64) (hm : m < 2 ^ 64) (h : fileName n = fileName m) : n = m := by
  have := parse_fileName n hn
  rw [h, parse_fileName m hm] at this
  exact (Option.some.inj this).symm

theorem parse_wrong_length (s : Bytes) (h : s.length ≠ 24) : parseFileName s = none :=
  Option.eq_none_iff_forall_ne_some.mpr fun n hn => h ((parse_eq_some s n).mp hn).1

theorem parse_wrong_prefix (s : Bytes) (h : s.take 4 ≠ [119, 97, 108, 45]) : parseFileName s = none :=
  Option.eq_none_iff_forall_ne_some.mpr fun n hn => h (namePrefix_eq ▸ ((parse_eq_some s n).mp hn).2.1)

/-- a byte outside `'0'..'9'` anywhere in positions 4..23 disqualifies the name -/
theorem parse_nondigit (s : Bytes) (i : Nat) (b : UInt8) (hi : 4 ≤ i) (hb : s[i]? = some b)
    (hnd : ¬ (48 ≤ b.toNat ∧ b.toNat ≤ 57)) : parseFileName s = none := by
  refine Option.eq_none_iff_forall_ne_some.mpr fun n hn => hnd ((asciiDigit_iff b).mp ?_)
  have hmem : b ∈ s.drop 4 :=
    List.mem_of_getElem? (i := i - 4) (by rw [List.getElem?_drop, show 4 + (i - 4) = i by omega, hb])
  exact List.all_eq_true.mp ((parse_eq_some s n).mp hn).2.2.1 b hmem

/-- in particular no byte `≥ 128` (so no non-ASCII "digit" of any script) can occur there -/
theorem parse_non_ascii (s : Bytes) (i : Nat) (b : UInt8) (hi : 4 ≤ i) (hb : s[i]? = some b)
    (h128 : 128 ≤ b.toNat) : parseFileName s = none :=
  parse_nondigit s i b hi hb (by omega)

theorem parse_overflow (s : Bytes) (h : 2 ^ 64 ≤ decValue (s.drop 4)) : parseFileName s = none := by
  refine Option.eq_none_iff_forall_ne_some.mpr fun n hn => ?_
  obtain ⟨_, _, _, rfl, hlt⟩ := (parse_eq_some s n).mp hn
  exact Nat.not_le_of_lt hlt h

/-- **C17.** `Directory::open` tracks exactly the regular files whose name parses. -/
theorem listWal_only_named (entries : List (Bytes × EntryKind)) (f : Nat) :
    f ∈ listWal entries ↔ ∃ name, (name, EntryKind.regular) ∈ entries ∧ parseFileName name = some f := by
  unfold listWal
  rw [List.mem_filterMap]
  constructor
  · rintro ⟨⟨name, kind⟩, hm, h⟩
    simp only at h
    split at h
    · rename_i hk
      subst hk
      exact ⟨name, hm, h⟩
    · cases h
  · rintro ⟨name, hm, h⟩
    exact ⟨(name, .regular), hm, by simp [h]⟩

/-- tracked numbers are `u64`s and their directory entry is the canonical name -/
theorem listWal_canonical (entries : List (Bytes × EntryKind)) (f : Nat) (h : f ∈ listWal entries) :
    (fileName f, EntryKind.regular) ∈ entries ∧ f < 2 ^ 64 := by
  obtain ⟨name, hm, hp⟩ := (listWal_only_named entries f).mp h
  obtain ⟨hs, hf⟩ := parse_format name f hp
  exact ⟨hs ▸ hm, hf⟩

example : parseFileName (fileName 42) = some 42 := parse_fileName 42 (by decide)
example : fileName 42 = "wal-00000000000000000042".toUTF8.toList := by decide +kernel
example : parseFileName "wal-18446744073709551615".toUTF8.toList = some (2 ^ 64 - 1) := by decide +kernel
/-- `2^64` has 20 digits but does not fit -/
example : parseFileName "wal-18446744073709551616".toUTF8.toList = none := by decide +kernel
/-- 23 bytes -/
example : parseFileName "wal-0000000000000000042".toUTF8.toList = none := by decide +kernel
/-- 24 bytes, the last two being the UTF-8 encoding of ARABIC-INDIC DIGIT TWO -/
example : parseFileName "wal-000000000000000000٢".toUTF8.toList = none := by decide +kernel
example : parseFileName "WAL-00000000000000000042".toUTF8.toList = none := by decide +kernel
example : parseFileName "wal-+0000000000000000042".toUTF8.toList = none := by decide +kernel
example : listWal [("wal-00000000000000000007".toUTF8.toList, .regular),
    ("wal-00000000000000000008".toUTF8.toList, .other), ("wal-8".toUTF8.toList, .regular),
    ("wal-00000000000000000009.tmp".toUTF8.toList, .regular)] = [7] := by decide +kernel

def effFiles : Effect → List Nat
  | .create f | .setLen f _ | .ensureLen f _ | .openFile f | .readBlock f | .write f _ _ | .fsyncFile f
  | .unlink f => [f]
  | .listDir | .flush | .fsyncDir => []

def touchedFiles (es : List Effect) : List Nat := es.flatMap effFiles

theorem mem_touched {es : List Effect} {f : Nat} : f ∈ touchedFiles es ↔ ∃ e ∈ es, f ∈ effFiles e := by
  simp [touchedFiles, List.mem_flatMap]

theorem touched_append (a b : List Effect) : touchedFiles (a ++ b) = touchedFiles a ++ touchedFiles b := by
  simp [touchedFiles]

/-- What a piece of the write path does to the tracker (`R`: assuming the current file is tracked). -/
structure Tr (l : Log) (es : List Effect) (l' : Log) : Prop where
  cur : l'.cur ∈ l'.files
  post : ∀ f ∈ touchedFiles es, f ∈ l'.files ∨ Effect.unlink f ∈ es
  pre : ∀ f ∈ touchedFiles es, f ∈ l.files ∨ Effect.create f ∈ es
  new : ∀ f ∈ l'.files, f ∈ l.files ∨ (Effect.create f ∈ es ∧ ∃ f' ∈ l.files, f' < f)
  old : ∀ f ∈ l.files, f ∈ l'.files ∨ Effect.unlink f ∈ es

def R (l : Log) (es : List Effect) (l' : Log) : Prop := l.cur ∈ l.files → Tr l es l'

theorem R.tracked {l l' : Log} {es : List Effect} (hf : l'.files = l.files)
    (h : l.cur ∈ l.files → l'.cur ∈ l.files ∧ ∀ f ∈ touchedFiles es, f ∈ l.files) : R l es l' := by
  intro hc
  obtain ⟨hc', ht⟩ := h hc
  rw [← hf] at hc' ht
  exact ⟨hc', fun f h => .inl (ht f h), fun f h => .inl (hf ▸ ht f h), fun f h => .inl (hf ▸ h),
    fun f h => .inl (hf ▸ h)⟩

theorem R.same {l l' : Log} (hf : l'.files = l.files) (hc : l'.cur = l.cur) : R l [] l' :=
  R.tracked hf fun h => ⟨hc ▸ h, fun _ hf' => nomatch hf'⟩

theorem R.trans {l l1 l2 : Log} {a b : List Effect} (h1 : R l a l1) (h2 : R l1 b l2) : R l (a ++ b) l2 := by
  intro h
  have t1 := h1 h
  have t2 := h2 t1.cur
  refine ⟨t2.cur, ?_, ?_, ?_, ?_⟩
  · intro f hf
    rw [touched_append, List.mem_append] at hf
    rcases hf with hf | hf
    · rcases t1.post f hf with h' | h'
      · rcases t2.old f h' with h'' | h''
        · exact .inl h''
        · exact .inr (List.mem_append_right _ h'')
      · exact .inr (List.mem_append_left _ h')
    · rcases t2.post f hf with h' | h'
      · exact .inl h'
      · exact .inr (List.mem_append_right _ h')
  · intro f hf
    rw [touched_append, List.mem_append] at hf
    rcases hf with hf | hf
    · rcases t1.pre f hf with h' | h'
      · exact .inl h'
      · exact .inr (List.mem_append_left _ h')
    · rcases t2.pre f hf with h' | h'
      · rcases t1.new f h' with h'' | ⟨h'', _⟩
        · exact .inl h''
        · exact .inr (List.mem_append_left _ h'')
      · exact .inr (List.mem_append_right _ h')
  · intro f hf
    rcases t2.new f hf with h' | ⟨hc, f', hf', hlt⟩
    · rcases t1.new f h' with h'' | ⟨hc, hx⟩
      · exact .inl h''
      · exact .inr ⟨List.mem_append_left _ hc, hx⟩
    · refine .inr ⟨List.mem_append_right _ hc, ?_⟩
      rcases t1.new f' hf' with h'' | ⟨_, f'', hf'', hlt'⟩
      · exact ⟨f', h'', hlt⟩
      · exact ⟨f'', hf'', Nat.lt_trans hlt' hlt⟩
  · intro f hf
    rcases t1.old f hf with h' | h'
    · rcases t2.old f h' with h'' | h''
      · exact .inl h''
      · exact .inr (List.mem_append_right _ h'')
    · exact .inr (List.mem_append_left _ h')

section
variable (g : Geom)

/-- The write path: a buffer is written in place, or after a roll-over into the next tracked file,
    or after the creation of `cur + 1` — the only way the tracked list grows. -/
theorem along_write_R : Along g fun l es _ l' => R l es l' :=
  .of_shapes (fun _ => R.same rfl rfl) R.trans
    (fun l _ _ _ => R.tracked rfl fun h => ⟨h, fun f hf => List.mem_singleton.mp hf ▸ h⟩)
    (fun l _ nf _ hnf => by
      have hmem : nf ∈ l.files := List.mem_of_find?_eq_some hnf
      refine R.tracked rfl fun h => ⟨hmem, ?_⟩
      show ∀ f ∈ [l.cur, nf, nf, nf], f ∈ l.files
      simp only [List.forall_mem_cons, h, hmem, true_and, List.not_mem_nil, false_imp_iff, implies_true])
    (fun l _ _ _ h => by
      have hn : l.cur + 1 ∈ l.files ++ [l.cur + 1] := List.mem_append_right _ List.mem_cons_self
      have ht : ∀ f ∈ [l.cur, l.cur + 1, l.cur + 1, l.cur + 1], f = l.cur ∨ f = l.cur + 1 := by simp
      refine ⟨hn, fun f hf => .inl ?_, fun f hf => ?_, fun f hf => ?_, fun f hf => .inl (List.mem_append_left _ hf)⟩
      · rcases ht f hf with rfl | rfl
        · exact List.mem_append_left _ h
        · exact hn
      · rcases ht f hf with rfl | rfl
        · exact .inl h
        · exact .inr (by simp)
      · rcases List.mem_append.mp hf with hf | hf
        · exact .inl hf
        · rw [List.mem_singleton.mp hf]
          exact .inr ⟨by simp, l.cur, h, Nat.lt_succ_self _⟩)

theorem persist_R (l : Log) (a : PersistAction) : R l (l.persistEffects a) l :=
  R.tracked rfl fun h => ⟨h, by cases a <;> simp [persistEffects, touchedFiles, effFiles, h]⟩

/-- the unlinks of a GC pass: exactly the files dropped from the tracked list, never the current one -/
theorem gc_R (l : Log) (pinned : Nat) :
    R l ((gcFiles (l.canDelete pinned) l.files).2.map Effect.unlink)
      { l with files := (gcFiles (l.canDelete pinned) l.files).1 } := by
  intro h
  have hsplit := gcFiles_split (l.canDelete pinned) l.files
  have hun : ∀ f ∈ touchedFiles ((gcFiles (l.canDelete pinned) l.files).2.map Effect.unlink),
      f ∈ (gcFiles (l.canDelete pinned) l.files).2 := by
    intro f hf
    obtain ⟨e, he, hfe⟩ := mem_touched.mp hf
    obtain ⟨d, hd, rfl⟩ := List.mem_map.mp he
    rw [List.mem_singleton.mp hfe]
    exact hd
  have hold : ∀ f ∈ l.files, f ∈ (gcFiles (l.canDelete pinned) l.files).1 ∨
      f ∈ (gcFiles (l.canDelete pinned) l.files).2 := fun f hf => by
    rw [← hsplit] at hf
    exact (List.mem_append.mp hf).symm
  refine ⟨?_, ?_, ?_, ?_, ?_⟩
  · -- the current file is not deletable
    refine (hold _ h).resolve_right fun hd => ?_
    have := gcFiles_deleted _ _ _ hd
    simp [canDelete] at this
  · exact fun f hf => .inr (List.mem_map.mpr ⟨f, hun f hf, rfl⟩)
  · exact fun f hf => .inl (hsplit ▸ List.mem_append_left _ (hun f hf))
  · exact fun f hf => .inl (hsplit ▸ List.mem_append_right _ hf)
  · exact fun f hf => (hold f hf).imp id fun hd => List.mem_map.mpr ⟨f, hd, rfl⟩

theorem along_R : AlongCall g fun l es _ l' => R l es l' :=
  (along_write_R g).call (sync := persist_R) (queues := fun _ _ => R.same rfl rfl)
    (unlinks := fun l pinned => (persist_R l .flushAndFsync).trans (gc_R l pinned))

end

variable (g : Geom) (l : Log) (c : Call) (tick : Bool) (order : List Bytes)

theorem step_R : R l (Log.step g l c tick order).2.2 (Log.step g l c tick order).1 :=
  (along_R g).step l c tick order

theorem cur_tracked (hcur : l.cur ∈ l.files) :
    (Log.step g l c tick order).1.cur ∈ (Log.step g l c tick order).1.files :=
  (step_R g l c tick order hcur).cur

/-- **C17.** Every file a call touches (create, set_len, open, write, fsync, unlink) is a tracked
    file number — tracked before or after the call — except possibly a file both created and
    unlinked by this very call. -/
theorem effects_named_partial (hcur : l.cur ∈ l.files) :
    let r := Log.step g l c tick order
    ∀ f ∈ touchedFiles r.2.2, f ∈ r.1.files ++ l.files ∨ (Effect.create f ∈ r.2.2 ∧ Effect.unlink f ∈ r.2.2) := by
  intro r f hf
  have t := step_R g l c tick order hcur
  rcases t.post f hf with h1 | h1
  · exact .inl (List.mem_append_left _ h1)
  · rcases t.pre f hf with h2 | h2
    · exact .inl (List.mem_append_right _ h2)
    · exact .inr ⟨h2, h1⟩

/-- a call that unlinks nothing (every `create`, `append`, `persist`; every `truncate`/`delete`
    that does not trigger a deletion) touches only files that are tracked after it -/
theorem effects_named_of_no_unlink (hcur : l.cur ∈ l.files)
    (hno : ∀ f, Effect.unlink f ∉ (Log.step g l c tick order).2.2) :
    ∀ f ∈ touchedFiles (Log.step g l c tick order).2.2, f ∈ (Log.step g l c tick order).1.files := by
  intro f hf
  rcases (step_R g l c tick order hcur).post f hf with h | h
  · exact h
  · exact absurd h (hno f)

/-- **C17.** The tracker only grows upwards: a file tracked after a call was tracked before
    or lies above a previously tracked one. -/
theorem files_grow_by_succ (hcur : l.cur ∈ l.files) :
    let r := Log.step g l c tick order
    ∀ f ∈ r.1.files, f ∈ l.files ∨ ∃ f' ∈ l.files, f' < f := by
  intro r f hf
  rcases (step_R g l c tick order hcur).new f hf with h | ⟨_, h⟩
  · exact .inl h
  · exact .inr h

theorem files_accounted (hcur : l.cur ∈ l.files) :
    let r := Log.step g l c tick order
    (∀ f ∈ r.1.files, f ∈ l.files ∨ Effect.create f ∈ r.2.2) ∧
    (∀ f ∈ l.files, f ∈ r.1.files ∨ Effect.unlink f ∈ r.2.2) := by
  intro r
  have t := step_R g l c tick order hcur
  exact ⟨fun f hf => (t.new f hf).imp id (·.1), t.old⟩

/-! `effects_named_partial` without its exception — "every touched file is tracked before or after the call"
— does not hold for every geometry: with 13-byte blocks and one block per file, the 12-byte
`DeleteQueue` entry needs two 13-byte frames; written at the end of file 0 it creates file 1 *and*
file 2, and the GC that follows (no queue is left) unlinks files 0 and 1. File 1 is created and
unlinked within the call: it is tracked neither before nor after. (With the production geometry
a `Truncate`/`DeleteQueue` entry is far smaller than a file, so this cannot happen there.) -/

def g13 : Geom := { B := 13, K := 1, hB := by decide, hK := by decide }
def lw : Log := { files := [0], cur := 0, off := 13, policy := .doNothing, queues := [([1], {})] }

theorem lw_bufs : ∃ b1 b2 : Bytes, b1.length = 13 ∧ b2.length = 13 ∧ entryBufs g13 lw (.delete [1] 0) = [b1, b2] := by
  refine ⟨encodeFrame (FrameType.ofFlags true false) [UInt8.ofNat Consts.TAG_DELETE, 0, 0, 0, 0, 0],
    encodeFrame (FrameType.ofFlags false true) [0, 0, 0, 1, 0, 1], by simp [Codec.length_encodeFrame],
    by simp [Codec.length_encodeFrame], ?_⟩
  simp [entryBufs, lw, g13, MRL.writeEntry, Entry.encode, Entry.encodeRaw, leBytes]
  rw [writeEntryBufs]
  simp [maxFrameLen, frameWrites, frameEndCursor, adv, Consts.HEADER_LEN]
  rw [writeEntryBufs]
  simp [maxFrameLen, frameWrites, Consts.HEADER_LEN]

theorem lw_write (b1 b2 : Bytes) (h1 : b1.length = 13) (h2 : b2.length = 13) :
    writeBufs g13 lw [b1, b2] =
      ({ lw with files := [0, 1, 2], cur := 2, off := 13 },
       [.flush, .fsyncFile 0, .fsyncDir, .create 1, .setLen 1 13, .write 1 0 b1,
        .flush, .fsyncFile 1, .fsyncDir, .create 2, .setLen 2 13, .write 2 0 b2]) := by
  have e1 : b1.isEmpty = false := by cases b1 <;> simp at h1 ⊢
  have e2 : b2.isEmpty = false := by cases b2 <;> simp at h2 ⊢
  simp [writeBufs, writeBuf, lw, g13, Geom.fileBytes, h1, h2, e1, e2, nextFile]

theorem lw_step : ∃ b1 b2 : Bytes,
    Log.step g13 lw (.delete [1]) false [] =
      ({ lw with files := [2], cur := 2, off := 13, queues := [] }, .deleted 26,
       [.flush, .fsyncFile 0, .fsyncDir, .create 1, .setLen 1 13, .write 1 0 b1,
        .flush, .fsyncFile 1, .fsyncDir, .create 2, .setLen 2 13, .write 2 0 b2,
        .flush, .fsyncFile 2, .fsyncDir, .unlink 0, .unlink 1, .flush, .fsyncFile 2, .fsyncDir]) := by
  obtain ⟨b1, b2, h1, h2, hb⟩ := lw_bufs
  refine ⟨b1, b2, ?_⟩
  have hq : lw.queues.get? [1] = some {} := rfl
  have hn : ({} : MemQueue).nextPosition = 0 := rfl
  simp only [step, hq, hn, writeEntry_eq, hb, lw_write b1 b2 h1 h2]
  simp [runGc, canDelete, lw, MemQueues.remove, MemQueues.refsFile, MemQueues.emptyNames, isPermOf,
    writeTouches, gcFiles, persistEffects, totalLen, h1, h2]

/-- **Finding.** `effects_named_partial` without its created-and-unlinked exception is false for the
    model over arbitrary geometries. -/
theorem effects_named_false :
    ¬ (∀ (g : Geom) (l : Log) (c : Call) (tick : Bool) (order : List Bytes), l.cur ∈ l.files →
        ∀ f ∈ touchedFiles (Log.step g l c tick order).2.2, f ∈ (Log.step g l c tick order).1.files ++ l.files) := by
  intro h
  have := h g13 lw (.delete [1]) false [] (by decide) 1
  obtain ⟨b1, b2, hs⟩ := lw_step
  rw [hs] at this
  -- `create 1` is the fourth effect, and file 1 is tracked neither before nor after
  have h2 : 1 ∈ [2] ++ [0] := this (mem_touched.mpr ⟨.create 1, List.mem_cons_of_mem _ (List.mem_cons_of_mem _
    (List.mem_cons_of_mem _ List.mem_cons_self)), List.mem_cons_self⟩)
  exact absurd h2 (by decide)

end MRL.C17
