/-
C03, process-crash durability (ordered persistence), from ANY state reachable with crashes and over
histories of calls AND restarts.

`C03D.C03_durable`, `C03_durable_after`, `C03_power_loss` (`C03Durable.lean`) are stated for a
`C01R.ReachD` state and runs of calls only, and follow from the theorems here: from any
`C02U.ReachX g cap l img b` state (clean restarts and crash-recoveries at any crash point, of calls
and of `open` itself) whose `BufWriter` is empty (`b.pend = []`), over any
history `evs : List PX.Ev` (calls under any policy, and `reopen`s):
* `C03_durableX`: a process crash after any number `k` of OS operations of the history, the `k`-th cut
  at any byte, recovers the state after SOME prefix of the events;
* `C03_durable_afterX`: never older than a point `m` of the history at which the `BufWriter` is empty,
  when the crash comes after the operations of the first `m` events;
* `C03_power_lossX`: in particular after a prefix whose effects end with
  `flush, fsync(file), fsync(dir)` (the last operation of that prefix is then a `sync`).

THE CONDITION `b.pend = []`. It holds right after every `open` (`recover_buf_empty`,
`reopen_buf_empty`: the effects of `recover` are `ensureLen` on the first file and the GC pass, which —
if it writes anything — ends with `flush, fsync, fsync(dir)` and the unlinks), hence for every state
produced by `ReachX.reopen`, `ReachX.crash`, `ReachX.crash2`, and after every call that ends with a
flush (every call under `Always(_)`, `create`, `delete`, `persist`); it fails only between such points,
while appended bytes sit in the `BufWriter` — there the theorem applies from the last such point.
-/
import MRL.Props.C03PosixX

namespace MRL.C03DX
open Log G H L Buf PX

abbrev AbsEq := H.AbsEq

theorem toOsOps_unlinks (cap : Nat) (b : BufSt) : ∀ U : List Nat, (toOsOps cap b (U.map Effect.unlink)).1 = b
  | [] => rfl
  | f :: U => by
    rw [List.map_cons, toOsOps_cons]
    exact toOsOps_unlinks cap b U

theorem recover_buf_empty (g : Geom) (cap : Nat) (X : Image) (policy : Policy) (order : List Bytes) (lp : Log)
    (F io : Nat) (r : Recovered)
    (hpre : recoverPre g X policy none = .ok (lp, [.ensureLen F g.fileBytes], io))
    (hrec : recover g X policy order none = .ok r) : (toOsOps cap {} r.effects).1.pend = [] := by
  rw [Rec.recover_none, hpre] at hrec
  simp only [Except.ok.injEq] at hrec
  subst hrec
  simp only
  rcases G.runGc_full g lp order with ⟨h1, _⟩ | ⟨names, _, _, h2⟩
  · rw [h1]; rfl
  · rw [h2]
    simp only
    rw [toOsOps_append, toOsOps_append, toOsOps_append]
    simp only
    rw [toOsOps_unlinks]
    simp [persistEffects, toOsOps, bufStep]

/-- after a clean restart from any `ReachX` state -/
theorem reopen_buf_empty (g : Geom) (hB : g.B ≤ 65542) (cap : Nat) {l : Log} {img : Image} {b : BufSt}
    (h : C02U.ReachX g cap l img b) (policy : Policy) (order : List Bytes) (r : Recovered)
    (hrec : recover g (C02U.flushDisk img b) policy order none = .ok r) :
    (toOsOps cap {} r.effects).1.pend = [] := by
  obtain ⟨⟨J, hc, hw⟩, _⟩ := C02U.reachX_inv g hB cap h
  obtain ⟨J', lp, io, r', hpre, _, _, _, _, _, _, _⟩ := recover_okX g hB hc hw policy order
  exact recover_buf_empty g cap _ policy order lp _ io r hpre hrec

/-- effects ending with `flush, fsync(file), fsync(dir)`: nothing stays buffered and the last OS
    operation is a `sync` -/
theorem fsync_tail (cap : Nat) (b : BufSt) (pre : List Effect) (f : Nat) :
    (toOsOps cap b (pre ++ [.flush, .fsyncFile f, .fsyncDir])).1.pend = [] ∧
    (toOsOps cap b (pre ++ [.flush, .fsyncFile f, .fsyncDir])).2.getLast? = some .sync := by
  rw [toOsOps_append]
  simp [toOsOps, bufStep]

theorem C03_durable_afterX (g : Geom) (hB : g.B ≤ 65542) (cap : Nat) (l : Log) (img : Image) (b : BufSt)
    (h : C02U.ReachX g cap l img b) (hb : b.pend = []) (evs : List Ev)
    (hfits : ∀ j ∈ jourX g l img evs, C07.WF j.e) (htorn : TornEffs (effsX g l img evs))
    (m : Nat) (hm : m ≤ evs.length)
    (hpm : (toOsOps cap b (effsX g l img (evs.take m))).1.pend = [])
    (k cut : Nat) (hk : (toOsOps cap b (effsX g l img (evs.take m))).2.length ≤ k)
    (policy' : Policy) (order' : List Bytes) :
    ∃ rec i, m ≤ i ∧ i ≤ evs.length ∧
      recover g (crashImage img (toOsOps cap b (effsX g l img evs)).2 k cut) policy' order' none = .ok rec ∧
      AbsEq rec.log.queues (logX g l img (evs.take i)).queues := by
  obtain ⟨⟨J, hc, hw⟩, st, hinv, hclean⟩ := C02U.reachX_inv g hB cap h
  rw [C02U.flushDisk_of_empty img b hb] at hc
  obtain ⟨Jm, hcm, hwm, hfR, htR⟩ := hist_rest g hB hc hw evs hfits htorn m
  -- the `BufWriter` along the first `m` events and along the rest
  obtain ⟨_, _, hdM⟩ := runX_inv g hB (evs.take m) hc hw
    (fun j hj => hfits j (by rw [jourX_split g l img evs m]; exact List.mem_append_left _ hj))
    (torn_left (by rw [← effsX_split g l img evs m]; exact htorn))
  obtain ⟨_, _, hdR⟩ := runX_inv g hB (evs.drop m) hcm hwm hfR htR
  obtain ⟨stm, hrunm, hclm⟩ := hdM st hclean
  obtain ⟨st', hrunr, _⟩ := hdR stm hclm
  obtain ⟨hfl, hinvm⟩ := flushDisk_toOsOps cap img b _ st stm hinv hrunm
  have hD : applyOsOps img (toOsOps cap b (effsX g l img (evs.take m))).2 = diskXs g l img (evs.take m) := by
    have hfl' : C02U.flushDisk _ _ = applyOsOps (C02U.flushDisk img b) _ := hfl
    rw [C02U.flushDisk_of_empty _ _ hpm, C02U.flushDisk_of_empty img b hb] at hfl'
    rw [diskXs_eq]; exact hfl'
  -- the crash image is a cut state of the rest, from the disk after the first `m` events
  have hX := crash_cut cap _ _ stm st' (diskXs g l img (evs.take m)) hinvm hrunr
    (k - (toOsOps cap b (effsX g l img (evs.take m))).2.length) cut
  rw [pendW_nil _ hpm, List.nil_append] at hX
  rw [effsX_split g l img evs m, toOsOps_append]
  simp only
  rw [crashImage_append_ge _ _ _ _ _ hk, hD]
  exact runX_cut_after g hB hc hw evs hfits htorn m hm false _ hX policy' order'

theorem C03_durableX (g : Geom) (hB : g.B ≤ 65542) (cap : Nat) (l : Log) (img : Image) (b : BufSt)
    (h : C02U.ReachX g cap l img b) (hb : b.pend = []) (evs : List Ev)
    (hfits : ∀ j ∈ jourX g l img evs, C07.WF j.e) (htorn : TornEffs (effsX g l img evs))
    (k cut : Nat) (policy' : Policy) (order' : List Bytes) :
    ∃ rec i, i ≤ evs.length ∧
      recover g (crashImage img (toOsOps cap b (effsX g l img evs)).2 k cut) policy' order' none = .ok rec ∧
      AbsEq rec.log.queues (logX g l img (evs.take i)).queues := by
  -- the case `m = 0` of `C03_durable_afterX`
  obtain ⟨rec, i, _, hi, hr, hq⟩ := C03_durable_afterX g hB cap l img b h hb evs hfits htorn 0 (Nat.zero_le _) hb k cut
    (Nat.zero_le _) policy' order'
  exact ⟨rec, i, hi, hr, hq⟩

theorem C03_power_lossX (g : Geom) (hB : g.B ≤ 65542) (cap : Nat) (l : Log) (img : Image) (b : BufSt)
    (h : C02U.ReachX g cap l img b) (hb : b.pend = []) (evs : List Ev)
    (hfits : ∀ j ∈ jourX g l img evs, C07.WF j.e) (htorn : TornEffs (effsX g l img evs))
    (m : Nat) (hm : m ≤ evs.length) (pre : List Effect) (f : Nat)
    (htail : effsX g l img (evs.take m) = pre ++ [.flush, .fsyncFile f, .fsyncDir]) :
    (toOsOps cap b (effsX g l img (evs.take m))).2.getLast? = some .sync ∧
    ∀ k cut policy' order', (toOsOps cap b (effsX g l img (evs.take m))).2.length ≤ k →
      ∃ rec i, m ≤ i ∧ i ≤ evs.length ∧
        recover g (crashImage img (toOsOps cap b (effsX g l img evs)).2 k cut) policy' order' none = .ok rec ∧
        AbsEq rec.log.queues (logX g l img (evs.take i)).queues := by
  have hft := fsync_tail cap b pre f
  rw [← htail] at hft
  refine ⟨hft.2, ?_⟩
  intro k cut policy' order' hk
  exact C03_durable_afterX g hB cap l img b h hb evs hfits htorn m hm hft.1 k cut hk policy' order'

end MRL.C03DX
