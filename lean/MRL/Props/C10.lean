/-
C10: `open` never panics on an arithmetic overflow, and the read accessors of the log it returns
do not either — for every image whose entries stay below `u64::MAX`. `MRL/Model/Panic.lean` is
the instrumented twin of recovery; here: it agrees with `recover` whenever it does not report a
panic, it never reports one under the hypotheses, the hypotheses are needed, and the reassembly
buffer never exceeds the bytes read.
-/
import MRL.Proofs.StepGc
import MRL.Proofs.FNGrow
import MRL.Proofs.RecFold

namespace MRL.C10
open MRL.Log Rec

theorem appendAllP_agrees (file : Nat) (recs : List (Nat × Bytes)) :
    ∀ (q : MemQueue) (x : Option MemQueue), appendAllP q file recs = .ok x → x = appendAll q file recs := by
  induction recs with
  | nil => intro q x h; cases h; rfl
  | cons r rs ih =>
    intro q x h
    obtain ⟨p, pl⟩ := r
    simp only [appendAllP] at h
    by_cases hq : q.poisoned = true
    · rw [if_pos hq] at h; cases h
    · rw [if_neg hq] at h
      simp only [appendAll]
      cases ha : q.appendRecord file p pl with
      | none => rw [ha] at h; cases h; rfl
      | some q' => rw [ha] at h; exact ih q' x h

theorem replayEntryP_agrees (qs : MemQueues) (file : Nat) (e : Entry) (x : Option MemQueues)
    (h : replayEntryP qs file e = .ok x) : x = replayEntry qs file e := by
  cases e with
  | append q pos recs =>
    simp only [replayEntryP] at h
    simp only [replayEntry]
    generalize (if qs.contains q then qs else qs.ackPosition q pos) = qs1 at h ⊢
    cases hg : qs1.get? q with
    | none => rw [hg] at h; cases h; rfl
    | some mq =>
      rw [hg] at h
      simp only at h ⊢
      cases ha : appendAllP mq file recs with
      | error u => rw [ha] at h; cases h
      | ok y =>
        rw [ha] at h
        rw [← appendAllP_agrees file recs mq y ha]
        cases y <;> (cases h; rfl)
  | truncate q p =>
    simp only [replayEntryP] at h
    simp only [replayEntry]
    cases hg : qs.get? q with
    | none => rw [hg] at h; cases h; rfl
    | some mq =>
      rw [hg] at h
      dsimp only at h ⊢
      cases ht : truncatePanics mq p with
      | true => rw [ht] at h; cases h
      | false => rw [ht] at h; cases h; rfl
  | touch q p => cases h; rfl
  | delete q p => cases h; rfl

theorem replayP_skip (qs : MemQueues) (file : Nat) (bytes : Bytes) (evs : List RecEv)
    (hd : Entry.decode bytes = none) : replayP qs (.entry file bytes :: evs) = replayP qs evs := by
  simp only [replayP, hd]

theorem replayP_entry (qs : MemQueues) (file : Nat) (bytes : Bytes) (evs : List RecEv) (e : Entry)
    (hd : Entry.decode bytes = some e) :
    replayP qs (.entry file bytes :: evs) =
      match replayEntryP qs file e with
      | .error () => .error ()
      | .ok none => .ok none
      | .ok (some qs') => replayP qs' evs := by
  simp only [replayP, hd]
  rcases replayEntryP qs file e with u | (_ | _) <;> rfl

theorem replayP_agrees (evs : List RecEv) :
    ∀ (qs : MemQueues) (x : Option MemQueues), replayP qs evs = .ok x → x = replay qs evs := by
  induction evs with
  | nil => intro qs x h; cases h; rfl
  | cons ev evs ih =>
    intro qs x h
    cases ev with
    | corrupt => exact ih qs x h
    | entry file bytes =>
      cases hd : Entry.decode bytes with
      | none =>
        rw [replayP_skip _ _ _ _ hd] at h
        rw [replay_skip _ _ _ _ hd]
        exact ih qs x h
      | some e =>
        rw [replayP_entry _ _ _ _ e hd] at h
        rw [replay_entry _ _ _ _ e hd]
        cases hr : replayEntryP qs file e with
        | error u => rw [hr] at h; cases h
        | ok y =>
          rw [hr] at h
          rw [← replayEntryP_agrees qs file e y hr]
          cases y with
          | none => cases h; rfl
          | some qs' => exact ih qs' x h

/-- Whenever the twin does not report a panic, it returns what `recover` returns. -/
theorem recoverP_agrees (g : Geom) (img : Image) (policy : Policy) (order : List Bytes) (failAt : Option Nat)
    (x : Except OpenErr Recovered) (h : recoverP g img policy order failAt = .ok x) :
    x = recover g img policy order failAt := by
  unfold recoverP at h
  split at h
  · cases h
  · split at h
    · split at h
      · cases h
      · cases h; rfl
    · cases h; rfl

/-- no record of the queue sits at `u64::MAX`, so `next_position()` (`position + 1` on the last
    record, mem/queue.rs:77) does not overflow -/
def SafeQ (q : MemQueue) : Prop := ∀ p ∈ q.recs.map (·.pos), p < U64MAX

def Safe (qs : MemQueues) : Prop := ∀ kv ∈ qs, SafeQ kv.2

def NeedsEntry : Entry → Prop
  | .append _ _ recs => ∀ r ∈ recs, r.1 < U64MAX
  | .truncate _ p => p < U64MAX
  | .touch _ _ => True
  | .delete _ _ => True

/-- the hypothesis on one entry as C10 states it: every position field below `u64::MAX`. Stronger
    than `NeedsEntry`: the entry's own position, and the positions of `RecordPosition` and
    `DeleteQueue` entries, are stored but never incremented by the replay -/
def NoMaxEntry : Entry → Prop
  | .append _ pos recs => pos < U64MAX ∧ ∀ r ∈ recs, r.1 < U64MAX
  | .truncate _ p => p < U64MAX
  | .touch _ p => p < U64MAX
  | .delete _ p => p < U64MAX

theorem NoMaxEntry.needs {e : Entry} (h : NoMaxEntry e) : NeedsEntry e := by
  cases e with
  | append q pos recs => exact h.2
  | truncate q p => exact h
  | touch q p => trivial
  | delete q p => trivial

def NoMax (evs : List RecEv) : Prop :=
  ∀ file bytes e, RecEv.entry file bytes ∈ evs → Entry.decode bytes = some e → NoMaxEntry e

def NoMaxFiles (img : Image) : Prop := ∀ f ∈ img.map (·.1), f < U64MAX

theorem SafeQ.not_poisoned {q : MemQueue} (h : SafeQ q) : q.poisoned = false := by
  unfold MemQueue.poisoned
  cases hr : q.recs.getLast? with
  | none => rfl
  | some r => exact decide_eq_false (Nat.not_le.mpr (h r.pos (List.mem_map.mpr ⟨r, List.mem_of_getLast? hr, rfl⟩)))

theorem SafeQ_empty (s : Nat) : SafeQ { start := s, recs := [] } := by
  intro p hp; cases hp

theorem SafeQ_appendRecord {q q' : MemQueue} {file pos : Nat} {pl : Bytes} (h : SafeQ q) (hp : pos < U64MAX)
    (ha : q.appendRecord file pos pl = some q') : SafeQ q' := by
  unfold MemQueue.appendRecord at ha
  by_cases hlt : pos < q.nextPosition
  · rw [if_pos hlt] at ha; cases ha
  · rw [if_neg hlt] at ha
    injection ha with ha
    subst ha
    intro p hm
    simp only [List.map_append, MemQueue.dropLastHandle_pos, List.map_cons, List.map_nil, List.mem_append,
      List.mem_singleton] at hm
    rcases hm with hm | rfl
    · exact h p hm
    · exact hp

theorem SafeQ_truncateHead {q : MemQueue} (h : SafeQ q) (p : Nat) : SafeQ (q.truncateHead p).1 := by
  unfold MemQueue.truncateHead
  by_cases h1 : q.start > p
  · rw [if_pos h1]; exact h
  · rw [if_neg h1]
    by_cases h2 : p + 1 ≥ q.nextPosition
    · rw [if_pos h2]; exact SafeQ_empty _
    · rw [if_neg h2]
      intro x hx
      simp only [List.map_drop] at hx
      exact h x (List.mem_of_mem_drop hx)

theorem Safe_nil : Safe [] := fun _ h => by cases h

theorem Safe.remove {qs : MemQueues} (h : Safe qs) (n : Bytes) : Safe (qs.remove n) :=
  all_remove h n

theorem Safe.not_accessorsPanic {qs : MemQueues} (h : Safe qs) : accessorsPanic qs = false := by
  unfold accessorsPanic
  rw [List.any_eq_false]
  intro kv hkv
  rw [(h kv hkv).not_poisoned]
  exact Bool.false_ne_true

theorem appendAllP_safe (file : Nat) (recs : List (Nat × Bytes)) :
    ∀ q : MemQueue, SafeQ q → (∀ r ∈ recs, r.1 < U64MAX) →
      ∃ x, appendAllP q file recs = .ok x ∧ ∀ q', x = some q' → SafeQ q' := by
  induction recs with
  | nil => intro q h _; exact ⟨some q, rfl, fun q' e => by cases e; exact h⟩
  | cons r rs ih =>
    intro q h hr
    obtain ⟨p, pl⟩ := r
    simp only [appendAllP, h.not_poisoned, Bool.false_eq_true, if_false]
    cases ha : q.appendRecord file p pl with
    | none => exact ⟨none, rfl, fun q' e => by cases e⟩
    | some q1 =>
      exact ih q1 (SafeQ_appendRecord h (hr (p, pl) List.mem_cons_self) ha)
        (fun r hm => hr r (List.mem_cons_of_mem _ hm))

theorem replayEntryP_safe (qs : MemQueues) (file : Nat) (e : Entry) (h : Safe qs) (he : NeedsEntry e) :
    ∃ x, replayEntryP qs file e = .ok x ∧ ∀ qs', x = some qs' → Safe qs' := by
  cases e with
  | append q pos recs =>
    simp only [replayEntryP]
    have h1 : Safe (if qs.contains q then qs else qs.ackPosition q pos) := by
      cases qs.contains q
      · exact all_ack h (SafeQ_empty _)
      · exact h
    generalize (if qs.contains q then qs else qs.ackPosition q pos) = qs1 at h1
    cases hg : qs1.get? q with
    | none => exact ⟨none, rfl, fun _ e => by cases e⟩
    | some mq =>
      obtain ⟨x, hx, hs⟩ := appendAllP_safe file recs mq (all_get h1 hg) he
      simp only [hx]
      cases x with
      | none => exact ⟨none, rfl, fun _ e => by cases e⟩
      | some mq' => exact ⟨_, rfl, fun qs' e => by cases e; exact all_set h1 (hs mq' rfl)⟩
  | truncate q p =>
    simp only [replayEntryP]
    cases hg : qs.get? q with
    | none => exact ⟨some qs, rfl, fun qs' e => by cases e; exact h⟩
    | some mq =>
      have hq : SafeQ mq := all_get h hg
      simp only [truncatePanics_false hq.not_poisoned he, Bool.false_eq_true, if_false]
      exact ⟨_, rfl, fun qs' e => by cases e; exact all_set h (SafeQ_truncateHead hq p)⟩
  | touch q p => exact ⟨_, rfl, fun qs' e => by cases e; exact all_ack h (SafeQ_empty _)⟩
  | delete q p => exact ⟨_, rfl, fun qs' e => by cases e; exact all_remove h q⟩

theorem replayP_safe (evs : List RecEv) : ∀ qs : MemQueues, Safe qs →
    (∀ file bytes e, RecEv.entry file bytes ∈ evs → Entry.decode bytes = some e → NeedsEntry e) →
    ∃ x, replayP qs evs = .ok x ∧ ∀ qs', x = some qs' → Safe qs' := by
  induction evs with
  | nil => intro qs h _; exact ⟨some qs, rfl, fun qs' e => by cases e; exact h⟩
  | cons ev evs ih =>
    intro qs h hn
    have hn' : ∀ file bytes e, RecEv.entry file bytes ∈ evs → Entry.decode bytes = some e → NeedsEntry e :=
      fun file bytes e hm hd => hn file bytes e (List.mem_cons_of_mem _ hm) hd
    cases ev with
    | corrupt => exact ih qs h hn'
    | entry file bytes =>
      cases hd : Entry.decode bytes with
      | none => rw [replayP_skip _ _ _ _ hd]; exact ih qs h hn'
      | some e =>
        rw [replayP_entry _ _ _ _ e hd]
        obtain ⟨x, hx, hs⟩ := replayEntryP_safe qs file e h (hn file bytes e List.mem_cons_self hd)
        rw [hx]
        cases x with
        | none => exact ⟨none, rfl, fun _ e => by cases e⟩
        | some qs1 => exact ih qs1 (hs qs1 rfl) hn'

/-- Entries below `u64::MAX`: the replay loop never overflows, and the queues
    it builds hold no position at `u64::MAX`. -/
theorem replay_no_panic (evs : List RecEv) (h : NoMax evs) :
    ∃ x, replayP [] evs = .ok x ∧ x = replay [] evs ∧ ∀ qs', x = some qs' → Safe qs' := by
  obtain ⟨x, hx, hs⟩ := replayP_safe evs [] Safe_nil (fun file bytes e hm hd => (h file bytes e hm hd).needs)
  exact ⟨x, hx, replayP_agrees evs [] x hx, hs⟩

/-- If every tracked file number, plus the number of buffers the GC pass writes,
    stays within `u64`, the pass never overflows a file number: an overflow would leave the `Nat`
    model above `u64::MAX`, and each buffer moves it up by at most one. -/
theorem runGc_no_panic (g : Geom) (l : Log) (order : List Bytes) (M : Nat) (h : Bnd M l)
    (hM : M + gcBufCount g l order ≤ U64MAX) : runGcPanics g l order = false := by
  obtain ⟨hg, hc⟩ := FN.runGc_grow g l order M h
  exact FN.runGcPanics_false g l order (Nat.le_trans hg.1.1 (Nat.le_trans (Nat.add_le_add_left hc M) hM))

/-- **C10, no panic.** For every image — arbitrary bytes, arbitrary lengths, any I/O fault plan — whose
    delivered entries stay below `u64::MAX` and whose file numbers leave room for the roll-overs
    of the final GC pass: `open` does not panic (the twin returns what `recover` returns), and no
    queue of the returned log is poisoned, so `last_position`, `summary`, `next_position` and
    every later `append_record`/`truncate_head` start from positions below `u64::MAX`. -/
theorem recover_no_panic (g : Geom) (img : Image) (policy : Policy) (order : List Bytes) (failAt : Option Nat)
    (hev : NoMax (deliveredEvents g img failAt))
    (hgc : ∀ lp e0 io, recoverPre g img policy failAt = .ok (lp, e0, io) →
      ∃ M, Bnd M lp ∧ M + gcBufCount g lp order ≤ U64MAX) :
    recoverP g img policy order failAt = .ok (recover g img policy order failAt) ∧
    recoverP g img policy order failAt ≠ .error () ∧
    ∀ r, recover g img policy order failAt = .ok r →
      Safe r.log.queues ∧ accessorsPanic r.log.queues = false := by
  obtain ⟨x, hx, hxr, hs⟩ := replay_no_panic _ hev
  have h1 : recoverP g img policy order failAt = .ok (recover g img policy order failAt) := by
    unfold recoverP
    rw [hx]
    simp only
    cases hpre : recoverPre g img policy failAt with
    | error e => rfl
    | ok r =>
      obtain ⟨lp, e0, io⟩ := r
      obtain ⟨M, hb, hM⟩ := hgc lp e0 io hpre
      simp only [runGc_no_panic g lp order M hb hM, Bool.false_eq_true, if_false]
  have h2 : recoverP g img policy order failAt ≠ .error () := by
    rw [h1]; intro h; cases h
  refine ⟨h1, h2, ?_⟩
  intro r hr
  obtain ⟨lp, e0, io, hpre, _, _⟩ := Step.recover_ok g img policy order failAt r hr
  have hsafe : Safe lp.queues := hs lp.queues (by rw [hxr]; exact deliveredEvents_of_pre hpre)
  rw [Step.recover_queues g hpre hr]
  exact ⟨hsafe, hsafe.not_accessorsPanic⟩

theorem recoverPre_bnd {g : Geom} {img : Image} {policy : Policy} {fa : Option Nat} {lp : Log}
    {e0 : List Effect} {io : Nat} {M : Nat} (hk : ∀ f ∈ img.map (·.1), f ≤ M)
    (h : recoverPre g img policy fa = .ok (lp, e0, io)) : Bnd M lp := by
  obtain ⟨hf, hc⟩ := recoverPre_files h
  have hall : ∀ f ∈ lp.files, f ≤ M := by
    intro f hm
    rw [hf, prepareImage_files] at hm
    by_cases hi : img = []
    · rw [if_pos hi] at hm; rw [List.mem_singleton.mp hm]; exact Nat.zero_le _
    · rw [if_neg hi] at hm; exact hk f hm
  exact ⟨hall _ hc, hall⟩

/-- Image form: `n` = room left for the roll-overs of the final GC pass (`0` when it
    writes nothing): file numbers `≤ u64::MAX - n` and entries below `u64::MAX` ⇒ no panic. -/
theorem recover_no_panic_img (g : Geom) (img : Image) (policy : Policy) (order : List Bytes)
    (failAt : Option Nat) (n : Nat) (hev : NoMax (deliveredEvents g img failAt))
    (hfiles : ∀ f ∈ img.map (·.1), f + n ≤ U64MAX) (hn : n ≤ U64MAX)
    (hcount : ∀ lp e0 io, recoverPre g img policy failAt = .ok (lp, e0, io) → gcBufCount g lp order ≤ n) :
    recoverP g img policy order failAt ≠ .error () ∧
    ∀ r, recover g img policy order failAt = .ok r → accessorsPanic r.log.queues = false := by
  have := recover_no_panic g img policy order failAt hev fun lp e0 io hpre =>
    ⟨U64MAX - n, recoverPre_bnd (fun f hf => Nat.le_sub_of_add_le (hfiles f hf)) hpre,
      Nat.le_trans (Nat.add_le_add_left (hcount lp e0 io hpre) _) (Nat.le_of_eq (Nat.sub_add_cancel hn))⟩
  exact ⟨this.2.1, fun r hr => (this.2.2 r hr).2⟩

/-- the hypotheses are needed (finding F4). A `Truncate { ..=u64::MAX }` entry on an existing queue: `truncate_up_to_pos + 1` overflows -/
theorem truncate_max_panics : replayEntryP [([1], {})] 0 (.truncate [1] U64MAX) = .error () := rfl

theorem truncate_max_panics' (qs : MemQueues) (file : Nat) (q : Bytes) (mq : MemQueue)
    (hg : qs.get? q = some mq) (hs : mq.start ≤ U64MAX) :
    replayEntryP qs file (.truncate q U64MAX) = .error () := by
  have : truncatePanics mq U64MAX = true := by
    unfold truncatePanics
    rw [if_neg (Nat.not_lt.mpr hs)]
    rfl
  simp only [replayEntryP, hg, this, if_true]

/-- the queue an `AppendRecords` entry with a record at `u64::MAX` leaves behind -/
def poisonedQs : MemQueues := [([1], { start := U64MAX, recs := [⟨U64MAX, [7], some 0⟩] })]

/-- such an entry is replayed without panic, but poisons the queue: `open` succeeds and returns a
    log whose `last_position`/`summary` panic, as does the replay of any later append to it -/
theorem append_max_poisons :
    replayEntryP [([1], {})] 0 (.append [1] 0 [(U64MAX, [7])]) = .ok (some poisonedQs) ∧
    accessorsPanic poisonedQs = true ∧
    replayEntryP poisonedQs 0 (.append [1] 0 [(5, [])]) = .error () ∧
    replayEntryP poisonedQs 0 (.truncate [1] 5) = .ok (some poisonedQs) :=
  ⟨rfl, rfl, rfl, rfl⟩

/-- all file numbers below `u64::MAX`, the current file full, two empty queues -/
def lmax : Log := { files := [U64MAX - 2, U64MAX - 1], cur := U64MAX - 1, off := 19, policy := .doNothing,
                    queues := [([1], {}), ([2], {})] }

/-- **Finding.** File numbers below `u64::MAX` alone (what `NoMaxFiles` asks of an image, here
    stated of the log `open` rebuilt from it) do not rule out the file-number overflow: a GC pass
    that rolls over twice — here two 19-byte `RecordPosition` entries with 19-byte files — creates
    file `u64::MAX` at the first roll-over and overflows `*curr.file_number + 1` at the second.
    Hence the slack `gcBufCount` in `runGc_no_panic`. -/
theorem noMaxFiles_insufficient :
    (∀ f ∈ lmax.files, f < U64MAX) ∧ lmax.cur < U64MAX ∧ runGcPanics g19 lmax [] = true := by
  refine ⟨by decide, by decide, ?_⟩
  have hn : gcNamesOf lmax [] = [[1], [2]] := rfl
  have ht1 : touchOf lmax [1] = .touch [1] 0 := rfl
  obtain ⟨hb1, hl, hne⟩ := entryBufsOf_g19 lmax (.touch [1] 0) (by decide) (by decide)
  -- the state after the first touch: rolled over into the new file `u64::MAX`
  have hw : (lmax.writeEntry g19 (.touch [1] 0)).1 =
      { lmax with files := [U64MAX - 2, U64MAX - 1, U64MAX], cur := U64MAX, off := 19 } := by
    rw [Step.writeEntry_eq]
    show (writeBufs g19 lmax (entryBufsOf g19 lmax (.touch [1] 0))).1 = _
    rw [hb1]
    have hnf : nextFile lmax.files lmax.cur = none := rfl
    simp only [writeBufs, writeBuf, hne, hl, hnf]
    rfl
  have ht2 : touchOf { lmax with files := [U64MAX - 2, U64MAX - 1, U64MAX], cur := U64MAX, off := 19 } [2] =
      .touch [2] 0 := rfl
  obtain ⟨hb2, hl2, hne2⟩ := entryBufsOf_g19
    { lmax with files := [U64MAX - 2, U64MAX - 1, U64MAX], cur := U64MAX, off := 19 } (.touch [2] 0)
    (by decide) (by decide)
  simp only [runGcPanics, hn, writeTouchesPanics, ht1, hw, ht2, writeEntryPanics, hb1, hb2, writeBufsPanics,
    writeBufPanics, hne, hne2, hl, hl2]
  decide

def frameBytes : List RdEv → Nat
  | [] => 0
  | .frame _ _ p :: evs => p.length + frameBytes evs
  | .corrupt _ :: evs => frameBytes evs

def frameBytes' : List FrameEv → Nat
  | [] => 0
  | .frame _ p :: evs => p.length + frameBytes' evs
  | .corrupt :: evs => frameBytes' evs

theorem frameBytes_append (a b : List RdEv) : frameBytes (a ++ b) = frameBytes a + frameBytes b := by
  induction a with
  | nil => exact (Nat.zero_add _).symm
  | cons e es ih =>
    cases e with
    | frame f t p =>
      show p.length + frameBytes (es ++ b) = p.length + frameBytes es + frameBytes b
      rw [ih, Nat.add_assoc]
    | corrupt f => exact ih

theorem frameBytes_tag (file : Nat) (evs : List FrameEv) : frameBytes (tagEvs file evs) = frameBytes' evs := by
  induction evs with
  | nil => rfl
  | cons e es ih =>
    cases e with
    | frame t p => exact congrArg (p.length + ·) ih
    | corrupt => exact ih

def entryBytes : List RecEv → Nat
  | [] => 0
  | .entry _ bytes :: evs => bytes.length + entryBytes evs
  | .corrupt :: evs => entryBytes evs

theorem entryBytes_mem {f : Nat} {bytes : Bytes} {evs : List RecEv} (h : RecEv.entry f bytes ∈ evs) :
    bytes.length ≤ entryBytes evs := by
  induction evs with
  | nil => cases h
  | cons ev evs ih =>
    rcases List.mem_cons.mp h with rfl | hm
    · exact Nat.le_add_right _ _
    · cases ev with
      | entry _ _ => exact Nat.le_trans (ih hm) (Nat.le_add_left _ _)
      | corrupt => exact ih hm

/-- the entries `assemble` delivers are made of disjoint frame payloads (and of the carried-over
    buffer, when it is inside an entry) -/
theorem assemble_entryBytes (evs : List RdEv) : ∀ (st : AsmSt),
    entryBytes (assemble st evs) ≤ (if st.within then st.buf.length else 0) + frameBytes evs := by
  induction evs with
  | nil => intro st; exact Nat.zero_le _
  | cons ev evs ih =>
    intro st
    cases ev with
    | corrupt file =>
      exact Nat.le_trans (ih { within := false, buf := st.buf, attr := file })
        (Nat.add_le_add_right (Nat.zero_le _) _)
    | frame file t p =>
      simp only [assemble, frameBytes]
      by_cases hw : (st.within || t.isFirst) = true
      · rw [if_pos hw, ← Nat.add_assoc]
        -- the buffer restarts at a first frame; otherwise the reader was inside an entry
        have hb : ((if t.isFirst then [] else st.buf) ++ p).length ≤
            (if st.within then st.buf.length else 0) + p.length := by
          cases hf : t.isFirst
          · rw [hf, Bool.or_false] at hw
            rw [if_pos hw, if_neg Bool.false_ne_true, List.length_append]
            exact Nat.le_refl _
          · exact Nat.le_add_left _ _
        by_cases hl : t.isLast = true
        · rw [if_pos hl]
          have := ih { within := false, buf := (if t.isFirst then [] else st.buf) ++ p, attr := file }
          rw [if_neg Bool.false_ne_true, Nat.zero_add] at this
          exact Nat.add_le_add hb this
        · rw [if_neg hl]
          exact Nat.le_trans (ih { within := true, buf := (if t.isFirst then [] else st.buf) ++ p, attr := st.attr })
            (Nat.add_le_add_right hb _)
      · rw [if_neg hw]
        exact Nat.le_trans (ih st) (Nat.add_le_add_left (Nat.le_add_left _ _) _)

theorem scanBlockFrom_bytes (g : Geom) (rest : Bytes) (c : Nat) :
    frameBytes' (scanBlockFrom g rest c).1 ≤ rest.length := by
  fun_induction scanBlockFrom g rest c with
  | case1 => exact Nat.zero_le _
  | case2 => exact Nat.zero_le _
  | case3 => exact Nat.zero_le _
  | case4 => exact Nat.zero_le _
  | case5 rest c h hdr hz t ht len c1 hfit body p ev evs e hrec ih =>
    rw [hrec] at ih
    have hev : frameBytes' (ev :: evs) ≤ p.length + frameBytes' evs := by
      by_cases hcrc : frameCrc t p = leNat (hdr.take 4)
      · rw [show ev = .frame t p from if_pos hcrc]; exact Nat.le_refl _
      · rw [show ev = .corrupt from if_neg hcrc]; exact Nat.le_add_left _ _
    have hp : (body.take len).length + (body.drop len).length ≤ rest.length := by
      rw [← List.length_append, List.take_append_drop]
      exact Nat.le_trans (Nat.le_of_eq List.length_drop) (Nat.sub_le _ _)
    exact Nat.le_trans hev (Nat.le_trans (Nat.add_le_add_left ih _) hp)

def blocksBytes (bs : List Blk) : Nat := (bs.map (·.data.length)).sum

theorem scanBlock_bytes (g : Geom) (data : Bytes) (c : Nat) : frameBytes' (scanBlock g data c).1 ≤ data.length :=
  Nat.le_trans (scanBlockFrom_bytes g _ c) (by rw [List.length_drop]; exact Nat.sub_le _ _)

theorem scanPrefix_bytes (g : Geom) (fa : Option Nat) (rest : List Blk) : ∀ (io : Nat) (cur : Blk) (c : Nat),
    frameBytes (scanPrefix g fa io cur c rest) ≤ blocksBytes (cur :: rest) := by
  induction rest with
  | nil =>
    intro io cur c
    have h1 := scanBlock_bytes g cur.data c
    unfold scanPrefix
    rcases hs : scanBlock g cur.data c with ⟨fe, c' | c'⟩ <;> rw [hs] at h1 <;>
      exact Nat.le_trans (Nat.le_of_eq (frameBytes_tag _ _)) h1
  | cons b rest' ih =>
    intro io cur c
    have h1 := scanBlock_bytes g cur.data c
    unfold scanPrefix
    rcases hs : scanBlock g cur.data c with ⟨fe, c' | c'⟩ <;> rw [hs] at h1 <;> dsimp only <;>
      show _ ≤ cur.data.length + blocksBytes (b :: rest')
    · rw [frameBytes_tag]; exact Nat.le_trans h1 (Nat.le_add_right _ _)
    · cases hio : ioFails fa io (io + b.cost)
      · rw [if_neg Bool.false_ne_true, frameBytes_append, frameBytes_tag]
        exact Nat.add_le_add h1 (ih (io + b.cost) b 0)
      · rw [if_pos rfl, frameBytes_tag]; exact Nat.le_trans h1 (Nat.le_add_right _ _)

def imageBytes (img : Image) : Nat := (img.map (·.2.length)).sum

theorem fileBlocks_bytes (g : Geom) (f fc : Nat) (n : Nat) : ∀ (content : Bytes) (i : Nat),
    blocksBytes (fileBlocks g f content fc i n) ≤ content.length := by
  induction n with
  | zero => intro content i; exact Nat.zero_le _
  | succ n ih =>
    intro content i
    have h := Nat.add_le_add_left (ih (content.drop g.B) (i + 1)) (content.take g.B).length
    rwa [← List.length_append, List.take_append_drop] at h

theorem blocksOf_bytes (g : Geom) (img : Image) : ∀ p, blocksBytes (blocksOf g img p).1 ≤ imageBytes img := by
  induction img with
  | nil => intro p; exact Nat.zero_le _
  | cons fc img ih =>
    intro p
    obtain ⟨f, content⟩ := fc
    show _ ≤ content.length + imageBytes img
    simp only [blocksOf]
    by_cases hn : content.length / g.B = 0
    · rw [if_pos hn]
      exact Nat.le_trans (ih (p + 2)) (Nat.le_add_left _ _)
    · rw [if_neg hn]
      unfold blocksBytes
      rw [List.map_append, List.sum_append]
      exact Nat.add_le_add (fileBlocks_bytes g f (p + 2) _ content 0) (ih 1)

theorem delivered_bytes (g : Geom) (img : Image) (failAt : Option Nat) :
    entryBytes (deliveredEvents g img failAt) ≤ imageBytes (prepareImage g img).1 := by
  have h3 := blocksOf_bytes g (prepareImage g img).1 1
  unfold deliveredEvents
  generalize blocksOf g (prepareImage g img).1 1 = r at h3 ⊢
  obtain ⟨_ | ⟨b0, rest⟩, trail⟩ := r
  · exact Nat.zero_le _
  · dsimp only at h3 ⊢
    cases ioFails failAt 0 b0.cost
    · rw [if_neg Bool.false_ne_true]
      exact Nat.le_trans (assemble_entryBytes _ _) (Nat.le_trans (Nat.le_of_eq (Nat.zero_add _))
        (Nat.le_trans (scanPrefix_bytes g failAt rest b0.cost b0 0) h3))
    · exact Nat.zero_le _

/-- **C10, reassembly buffer.** Every entry `open` reassembles COMPLETELY (First … Last, delivered to the
    replay) is no longer than the (prepared) image. The buffer of an entry that is never completed (frames
    without a Last) is not spoken of: `assemble_entryBytes` accounts for it inside the induction, but no
    statement exports a bound on the final `AsmSt.buf`. -/
theorem recover_buf_bounded (g : Geom) (img : Image) (failAt : Option Nat) (f : Nat) (bytes : Bytes)
    (h : RecEv.entry f bytes ∈ deliveredEvents g img failAt) :
    bytes.length ≤ imageBytes (prepareImage g img).1 :=
  Nat.le_trans (entryBytes_mem h) (delivered_bytes g img failAt)

/-- `replayP` is defined by structural recursion on the events, so Lean accepts it as total; this
    only spells out the two forms its value takes: a reported panic, or a result -/
theorem replayP_total (qs : MemQueues) (evs : List RecEv) :
    replayP qs evs = .error () ∨ ∃ x, replayP qs evs = .ok x := by
  cases h : replayP qs evs with
  | error u => exact .inl rfl
  | ok x => exact .inr ⟨x, rfl⟩

/-- entries below the bound are accepted: the replay of an append at position 41 and a
    truncation keeps the invariant -/
example : NoMaxEntry (.append [1] 41 [(41, [7]), (42, [8])]) ∧ NoMaxEntry (.truncate [1] 41) ∧
    ¬ NoMaxEntry (.truncate [1] U64MAX) ∧ ¬ NeedsEntry (.append [1] 0 [(U64MAX, [7])]) := by
  refine ⟨⟨by decide, ?_⟩, (by decide : 41 < U64MAX), (fun h => Nat.lt_irrefl _ h), ?_⟩
  · intro r hr
    simp only [List.mem_cons, List.not_mem_nil, or_false] at hr
    rcases hr with rfl | rfl <;> decide
  · intro h
    have := h (U64MAX, [7]) List.mem_cons_self
    exact absurd this (by decide)

/-- the empty directory: `open` creates `wal-0`, nothing is replayed, nothing can overflow -/
example : NoMax (deliveredEvents g19 [] none) ∧ NoMaxFiles [] := by
  constructor
  · intro file bytes e hm hd
    -- nothing is delivered: the first header of the fresh file is all zeros
    exfalso
    revert hm
    unfold deliveredEvents
    have hb : blocksOf g19 (prepareImage g19 []).1 1 =
        ([{ file := 0, idx := 0, data := zeros 19, cost := 3 }], 1) := rfl
    rw [hb]
    simp only [ioFails, Bool.false_eq_true, if_false]
    have hs : scanPrefix g19 none 3 { file := 0, idx := 0, data := zeros 19, cost := 3 } 0 [] = [] := by
      unfold scanPrefix scanBlock
      rw [scanBlockFrom, dif_neg (by decide)]
      dsimp only
      rw [if_pos (by decide)]
      rfl
    rw [hs]
    exact List.not_mem_nil
  · intro f hf; cases hf

end MRL.C10
