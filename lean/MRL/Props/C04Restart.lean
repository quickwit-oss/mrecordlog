/-
C04, restart leg: positions are not reused — even after the queue has been emptied, every WAL file
that mentioned it has been deleted, AND the log has been restarted. From C01 (end to end): a restart
gives back the same next position for every queue, so the monotonicity and freshness theorems of C04
go through restarts. They give `next ≤ p` for the first position `p` of an append; that an automatic
position is exactly `next` is C05's (`Spec.step`).
-/
import MRL.Proofs.LegRestart
import MRL.Props.C04
import MRL.Props.C08

namespace MRL.C04R
open Log C01R Restart

variable {g : Geom} {cap : Nat}

/-- **A restart keeps every queue's next position.** -/
theorem C04_restart_next (g : Geom) (hB : g.B ≤ 65542) (cap : Nat) (l : Log) (J : List JE) (img : Image)
    (b : BufSt) (h : ReachD g cap l J img b) (hfits : ∀ j ∈ J, C07.WF j.e) (policy : Policy)
    (order : List Bytes) (r : Recovered) (hr : recover g (flushDisk img b) policy order none = .ok r)
    (q : Bytes) : C04.nextOf r.log q = C04.nextOf l q :=
  (restart_queues hB h hfits hr).map_get (·.nextPosition) (fun _ _ h => h.2) q

theorem reopens_next (hB : g.B ≤ 65542) {s s' : Sys} (h : Reach g cap s) (hwf : WFJ s) {policy : Policy}
    {order : List Bytes} (hr : Reopens g cap s policy order s') (q : Bytes) :
    C04.nextOf s'.l q = C04.nextOf s.l q := by
  obtain ⟨lp, e0, io, r, _, hrec, rfl⟩ := hr
  exact C04_restart_next g hB cap s.l s.J s.img s.b h hwf policy order r hrec q

/-- **C04 across a restart.** The first effective append after a restart gets fresh consecutive
    positions starting at or above the next position the queue had BEFORE the restart, on top of
    the records it had before the restart. -/
theorem C04_restart_append_fresh (g : Geom) (hB : g.B ≤ 65542) (cap : Nat) (l : Log) (J : List JE)
    (img : Image) (b : BufSt) (h : ReachD g cap l J img b) (hfits : ∀ j ∈ J, C07.WF j.e)
    (policy : Policy) (order : List Bytes) (r : Recovered)
    (hr : recover g (flushDisk img b) policy order none = .ok r)
    (tick : Bool) (order' : List Bytes) (q : Bytes) (pos : Option Nat) (pls : List Bytes) (last w : Nat)
    (mq : MemQueue) (hg : l.queues.get? q = some mq)
    (hout : (Log.step g r.log (.append q pos pls) tick order').2.1 = .appended (some last) w) :
    ∃ mq' p, (Log.step g r.log (.append q pos pls) tick order').1.queues.get? q = some mq' ∧
      mq.nextPosition ≤ p ∧
      mq'.abs.recs = mq.abs.recs ++ numberFrom p pls ∧
      (numberFrom p pls).map (·.1) = List.range' p pls.length ∧
      last + 1 = mq'.nextPosition := by
  obtain ⟨mqr, hgr, hrecs, hnext⟩ := C01_no_loss g hB cap l J img b h hfits policy order r hr q mq hg
  have hI := C08.recover_sorted g _ policy order none r hr
  obtain ⟨mq', p, h1, h2, h3, h4, h5⟩ :=
    C04.C04_model_append_fresh g r.log hI tick order' q pos pls last w mqr hgr hout
  refine ⟨mq', p, h1, by omega, ?_, h4, h5⟩
  rw [h3]
  unfold MemQueue.abs
  rw [hrecs]

/-- `s'` is reached from `s` by calls other than `delete q` and by restarts -/
inductive Later (g : Geom) (cap : Nat) (q : Bytes) (s : Sys) : Sys → Prop
  | refl : Later g cap q s s
  | step {t : Sys} (c : Call) (tick : Bool) (order : List Bytes) :
      Later g cap q s t → c ≠ .delete q → Later g cap q s (t.step g cap c tick order)
  | reopen {t t' : Sys} (policy : Policy) (order : List Bytes) :
      Later g cap q s t → Reopens g cap t policy order t' → Later g cap q s t'

theorem Later.reach {q : Bytes} {s s' : Sys} (hl : Later g cap q s s') (h : Reach g cap s) : Reach g cap s' := by
  induction hl with
  | refl => exact h
  | step c tick order _ _ ih => exact ih.step c tick order
  | reopen policy order _ hr ih => exact ih.reopen hr

/-- **C04 along any derivation, restarts included**: as long as `q` is not deleted, its next
    position never decreases — whatever is appended, truncated, garbage-collected or restarted. -/
theorem C04_reach_next_mono (hB : g.B ≤ 65542) (q : Bytes) {s s' : Sys} (h : Reach g cap s)
    (hl : Later g cap q s s') (hwf : WFJ s') (n : Nat) (hn : C04.nextOf s.l q = some n) :
    ∃ n', C04.nextOf s'.l q = some n' ∧ n ≤ n' := by
  induction hl with
  | refl => exact ⟨n, hn, Nat.le_refl _⟩
  | @step t c tick order hl hc ih =>
    have hwft : WFJ t := fun j hj => hwf j (List.mem_append_left _ hj)
    obtain ⟨n1, h1, hle⟩ := ih hwft
    have hI := (hl.reach h).inv hB hwft
    obtain ⟨n2, h2, hle2⟩ := C04.C04_model_next_mono g t.l hI c tick order q n1 hc h1
    exact ⟨n2, h2, Nat.le_trans hle hle2⟩
  | @reopen t t' policy order hl hr ih =>
    have hwft : WFJ t := WFJ.of_reopen hr hwf
    obtain ⟨n1, h1, hle⟩ := ih hwft
    exact ⟨n1, by rw [reopens_next hB (hl.reach h) hwft hr]; exact h1, hle⟩

/-- `Reopens` has a witness: from any reachable state, after `create q`, if the journal is
    serialisable a restart exists, and it keeps the next position of `q` -/
example (hB : g.B ≤ 65542) (q : Bytes) (s : Sys) (h : Reach g cap s)
    (hwf : WFJ (s.step g cap (.create q) false [])) :
    ∃ s', Reopens g cap (s.step g cap (.create q) false []) .doNothing [] s' ∧
      C04.nextOf s'.l q = C04.nextOf (s.step g cap (.create q) false []).l q := by
  obtain ⟨s', hs'⟩ := reopens_exists hB (h.step (.create q) false []) hwf .doNothing []
  exact ⟨s', hs', reopens_next hB (h.step _ _ _) hwf hs' q⟩

end MRL.C04R
