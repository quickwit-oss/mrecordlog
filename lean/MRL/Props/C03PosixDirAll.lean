/-
C03 under power loss with a lazy directory — the full statement, without the hypothesis `lateSync = false`
of `C03PD.C03_posix_dir_partial`. For every history of calls and restarts from a crash-reachable state,
every promise point `m` (an event ending with `flush, fsync(file), fsync(dir)`), every instant `k` at or
after it, and every number `u` of durable pending unlinks: `recover g (powerImageD img (opsP.take k) u) …`
succeeds with queues `AbsEq` to a state `i ≥ m` of the history. In particular: `truncate` (GC pass) under a
policy that does not fsync, then appends, then `persist FlushAndFsync` with the power lost between its
`fsync(file)` and its `fsync(dir)`; and restarts while the unlinks of a GC pass are not yet covered by an
`fsync(dir)`.

Where `lateSync = true` the image is the volatile image of the effects with the late unlinks beyond the
first `u` UNDONE (`PDC.skipLate u`): the collected files are back, next to everything written since.
Opening it: next to the real log — which issues the effects, and may be re-read by a restart in between — a
log that still tracks the collected files is carried along with the invariant `L.CInvA`; the writer does not
look at the files in front, and at a restart the reader of the disk with the collected files in front ends
where the reader of the real disk ends (`PDA.recoverPre_suffix`), until the next `fsync(dir)`, where the two
logs coincide again.
-/
import MRL.Proofs.PDWin
import MRL.Props.C03PosixDir

namespace MRL.PDC
open Buf G H L Log K C01J Codec P PX PD

/-- `PDA.power_reductionD_late` for histories satisfying `noReopenPend`; the condition is not used -/
theorem power_reductionD_hard (g : Geom) (hB : g.B ≤ 65542) (cap : Nat) (l : Log) (J : List JE) (D : Image)
    (b : BufSt) (hc : CInvX g l J D) (hwJ : ∀ j ∈ J, C07.WF j.e) (hb : b.pend = []) (evs : List Ev)
    (hwf : ∀ j ∈ jourX g l D evs, C07.WF j.e) (htorn : TornEffs (effsX g l D evs))
    (m : Nat) (pre : List Effect) (f : Nat)
    (htail : effsX g l D (evs.take m) = pre ++ [.flush, .fsyncFile f, .fsyncDir])
    (k : Nat) (hk : (toOsOpsP cap b (effsX g l D (evs.take m))).2.length ≤ k)
    (hns : lateSync D ((toOsOpsP cap b (effsX g l D evs)).2.take k) = true)
    (hnr : noReopenPend g l D false evs = true) (u : Nat) :
    ∃ n, powerImageD D ((toOsOpsP cap b (effsX g l D evs)).2.take k) u =
      applyOsOps (diskXs g l D (evs.take m))
        (directOps (skipLate u
          ((effsX g (logX g l D (evs.take m)) (diskXs g l D (evs.take m)) (evs.drop m)).take n))) :=
  PDA.power_reductionD_late g hB cap l J D b hc hwJ hb evs hwf htorn m pre f htail k hk hns u

end MRL.PDC

namespace MRL.C03PD
open Log C05 C01J G H L K Buf Codec P PX PD PDC PDA

theorem C03_posix_dir_full_cinvx (g : Geom) (hB : g.B ≤ 65542) (cap : Nat) (l : Log) (J : List JE) (D : Image)
    (b : BufSt) (hc : CInvX g l J D) (hwJ : ∀ j ∈ J, C07.WF j.e) (hb : b.pend = []) (evs : List Ev)
    (hfits : ∀ j ∈ jourX g l D evs, C07.WF j.e) (htorn : TornEffs (effsX g l D evs))
    (m : Nat) (hm : m ≤ evs.length) (pre : List Effect) (f : Nat)
    (htail : effsX g l D (evs.take m) = pre ++ [.flush, .fsyncFile f, .fsyncDir])
    (k : Nat) (hk : (toOsOpsP cap b (effsX g l D (evs.take m))).2.length ≤ k)
    (u : Nat) (policy' : Policy) (order' : List Bytes) :
    ∃ rec i, m ≤ i ∧ i ≤ evs.length ∧
      recover g (powerImageD D ((toOsOpsP cap b (effsX g l D evs)).2.take k) u) policy' order' none = .ok rec ∧
      AbsEq rec.log.queues (logX g l D (evs.take i)).queues := by
  cases hns : lateSync D ((toOsOpsP cap b (effsX g l D evs)).2.take k) with
  | false => exact C03_posix_dir_cinvx g hB cap l J D b hc hwJ hb evs hfits htorn m hm pre f htail k hk hns u policy' order'
  | true =>
    obtain ⟨n, hred⟩ := power_reductionD_late g hB cap l J D b hc hwJ hb evs hfits htorn m pre f htail k hk hns u
    obtain ⟨Jm, hcm, hwm, hfR, htR⟩ := hist_rest g hB hc hwJ evs hfits htorn m
    obtain ⟨i, lp, e0, io, hi, hrec, hq⟩ := vrecA g hB u (evs.drop m) hcm hwm hfR htR n policy'
    rw [hred]
    exact recover_rest g l D evs m hm order' hi hrec hq

/-- **C03 under power loss with a lazy directory**: every history of calls and restarts, every `u`, EVERY
    instant at or after the promise — no condition on restarts -/
theorem C03_posix_dir_full (g : Geom) (hB : g.B ≤ 65542) (cap : Nat) (l : Log) (img : Image) (b : BufSt)
    (h : C02U.ReachX g cap l img b) (hb : b.pend = []) (evs : List Ev)
    (hfits : ∀ j ∈ jourX g l img evs, C07.WF j.e) (htorn : TornEffs (effsX g l img evs))
    (m : Nat) (hm : m ≤ evs.length) (pre : List Effect) (f : Nat)
    (htail : effsX g l img (evs.take m) = pre ++ [.flush, .fsyncFile f, .fsyncDir])
    (k : Nat) (hk : (toOsOpsP cap b (effsX g l img (evs.take m))).2.length ≤ k)
    (u : Nat) (policy' : Policy) (order' : List Bytes) :
    ∃ rec i, m ≤ i ∧ i ≤ evs.length ∧
      recover g (powerImageD img ((toOsOpsP cap b (effsX g l img evs)).2.take k) u) policy' order' none = .ok rec ∧
      AbsEq rec.log.queues (logX g l img (evs.take i)).queues := by
  obtain ⟨J, hc, hw⟩ := C02U.reachX_boundary g hB cap h hb
  exact C03_posix_dir_full_cinvx g hB cap l J img b hc hw hb evs hfits htorn m hm pre f htail k hk u policy' order'

/-! `NoReopenWhilePending g l D evs`: walking through the history, no `Ev.reopen` starts while an unlink is not
yet covered by an `fsync(dir)` (`PDC.noReopenPend`: the flag is set by every `unlink` effect and cleared by
every `fsync(dir)` effect). The GC pass of `open` itself followed by calls satisfies it: the window then
BEGINS at a restart; only a SECOND restart before the next `fsync(dir)` does not. `C03_posix_dir_calls` is
an instance of `C03_posix_dir_full`, which holds of every history. -/

def noReopenWhilePending (g : Geom) (l : Log) (D : Image) (evs : List Ev) : Bool := noReopenPend g l D false evs

def NoReopenWhilePending (g : Geom) (l : Log) (D : Image) (evs : List Ev) : Prop :=
  noReopenWhilePending g l D evs = true

instance (g : Geom) (l : Log) (D : Image) (evs : List Ev) : Decidable (NoReopenWhilePending g l D evs) := by
  unfold NoReopenWhilePending; exact inferInstance

/-- a history without restarts satisfies the condition, whatever its calls do -/
theorem noReopenWhilePending_calls (g : Geom) (l : Log) (D : Image) (evs : List Ev)
    (h : evs.all (fun e => match e with | .call .. => true | .reopen .. => false) = true) :
    NoReopenWhilePending g l D evs := by
  suffices hh : ∀ (evs : List Ev), evs.all (fun e => match e with | .call .. => true | .reopen .. => false) = true →
      ∀ (l : Log) (D : Image) (p : Bool), noReopenPend g l D p evs = true from hh evs h l D false
  intro evs
  induction evs with
  | nil => intro _ l D p; rfl
  | cons e es ih =>
    intro h l D p
    rw [List.all_cons, Bool.and_eq_true] at h
    cases e with
    | call c t o => simp only [noReopenPend, ih h.2, Bool.and_true]
    | reopen _ _ => exact absurd h.1 Bool.false_ne_true

/-- **C03 under power loss with a lazy directory, histories without a restart while unlinks are
    pending**: every `u`, EVERY instant -/
theorem C03_posix_dir_calls (g : Geom) (hB : g.B ≤ 65542) (cap : Nat) (l : Log) (img : Image) (b : BufSt)
    (h : C02U.ReachX g cap l img b) (hb : b.pend = []) (evs : List Ev)
    (hfits : ∀ j ∈ jourX g l img evs, C07.WF j.e) (htorn : TornEffs (effsX g l img evs))
    (m : Nat) (hm : m ≤ evs.length) (pre : List Effect) (f : Nat)
    (htail : effsX g l img (evs.take m) = pre ++ [.flush, .fsyncFile f, .fsyncDir])
    (k : Nat) (hk : (toOsOpsP cap b (effsX g l img (evs.take m))).2.length ≤ k)
    (hnr : NoReopenWhilePending g l img evs) (u : Nat) (policy' : Policy) (order' : List Bytes) :
    ∃ rec i, m ≤ i ∧ i ≤ evs.length ∧
      recover g (powerImageD img ((toOsOpsP cap b (effsX g l img evs)).2.take k) u) policy' order' none = .ok rec ∧
      AbsEq rec.log.queues (logX g l img (evs.take i)).queues :=
  C03_posix_dir_full g hB cap l img b h hb evs hfits htorn m hm pre f htail k hk u policy' order'

end MRL.C03PD
