/-
C09 about `open`, for states reached without crashes (`C09V`): instances of `C09X.one_frame_tape`.
The tape of such a state is an item tape of frames as written, without residue (`L.tapeD_of_cinv`),
and a frame of it with its checksum and payload bytes replaced is the item `C09X.damaged`. The tape
may end anywhere — within the last 6 bytes (HEADER_LEN − 1) of the last block of the last tracked
file, or exactly at its end; `C09_recover_one_frame` keeps the hypothesis `7 ≤ z` of the
single-stream `C09.C09_one_frame`, which is not needed.
-/
import MRL.Props.C09Crash

namespace MRL.C09V
open Drop Codec Torn G L LR Img

/-- For the image `W` of ANY reachable state there is a frame layout
    `fs` of its tape (then `z` zeros, any `z`) such that for ANY frame `(t, p)` of it, any
    replacement `crc'`, `p'` (same lengths) of its checksum/payload bytes that fails the frame's
    check, and any image `W'` of the same shape carrying the damaged stream: `recover` succeeds on
    `W'`, and for some journal index `a` every record of every live queue that was not appended by
    `J[a]` is in the recovered log with the same position and payload. -/
theorem C09_recover_one_frame_all (g : Geom) (hB : g.B ≤ 65542) (cap : Nat) (l : Log) (J : List JE) (img : Image)
    (b : BufSt) (h : C01R.ReachD g cap l J img b) (hwf : ∀ j ∈ J, C07.WF j.e) :
    ∃ fs z, streamOf (C01R.flushDisk img b) = (layoutBufs g 0 fs).flatten ++ zeros z ∧ Fits g 0 fs ∧
      ∀ fs1 t p fs2, fs = fs1 ++ (t, p) :: fs2 →
      ∀ crc' p' : Bytes, crc'.length = 4 → p'.length = p.length → frameCrc t p' ≠ leNat crc' →
      ∀ W', SameShape (C01R.flushDisk img b) W' →
        streamOf W' = (C09.damagedBufs g 0 fs1 t fs2 crc' p').flatten ++ zeros z →
      ∀ (policy : Policy) (order : List Bytes),
        ∃ r a, recover g W' policy order none = .ok r ∧
          ∀ name q, l.queues.get? name = some q → ∀ rc ∈ q.recs, ¬ RecordOfIdx J a name rc →
            ∃ q', r.log.queues.get? name = some q' ∧ ∃ r' ∈ q'.recs, r'.pos = rc.pos ∧ r'.payload = rc.payload := by
  have hc := (C01R.reach_rinv g hB cap h hwf).c
  obtain ⟨cs, x, afs, lead, segs, z0, z1, hd⟩ := tapeD_of_cinv hc
  obtain ⟨qs, hrep, hEq, _⟩ := hc.jinv.rep
  obtain ⟨Lf, hrun, heq, hw⟩ := reachD_run g hB cap h hwf
  have hR : RunOK J l.queues := ⟨[], Lf, QsWF.nil, hrun, hw, H.AbsEq.of_qsEquiv heq⟩
  have hfits : Fits g 0 (untag afs) := by have := hd.fits; rwa [frs_plain] at this
  refine ⟨untag afs, z0 + z1, by rw [hd.stream, flatJ_plain, zeros_add]; simp, hfits, ?_⟩
  intro fs1 t p fs2 hfs crc' p' h4 hp hdet W' hshape hS' policy order
  obtain ⟨a1, r2, hafs, h1, hr2⟩ := List.map_eq_append_iff.mp hfs
  obtain ⟨a, a2, rfl, hx, h2⟩ := List.map_eq_cons_iff.mp hr2
  have h1 : untag a1 = fs1 := h1
  have h2 : untag a2 = fs2 := h2
  have hx1 : a.2.1 = t := congrArg Prod.fst hx
  have hx2 : a.2.2 = p := congrArg Prod.snd hx
  exact C09X.one_frame_tape_some g hB hd hwf hc.jinv.chunk.mono qs l.queues hrep hEq hR (plain a1) (a, none)
    (plain a2) (by rw [hafs, plain_append, plain_cons]) rfl crc' p' h4 (by rw [hx2]; exact hp)
    (by rw [hx1]; exact hdet) W' hshape (by
      rw [hS', flatJ_append, flatJ_plain, h1, zeros_add]
      unfold C09.damagedBufs
      rw [rawLayout_damaged g 0 fs1 p fs2 (crc', t, p') hp]
      simp only [List.flatten_append, rawWrites_flatten, flatJ, slot, C09X.damaged, Option.getD_some, flatJ_plain,
        frs_plain, h1, h2, hx1, hp, List.append_assoc, List.append_nil, Raw.bytes]) policy order

theorem C09_recover_one_frame (g : Geom) (hB : g.B ≤ 65542) (cap : Nat) (l : Log) (J : List JE) (img : Image)
    (b : BufSt) (h : C01R.ReachD g cap l J img b) (hwf : ∀ j ∈ J, C07.WF j.e) :
    ∃ fs z, streamOf (C01R.flushDisk img b) = (layoutBufs g 0 fs).flatten ++ zeros z ∧ Fits g 0 fs ∧
      ∀ fs1 t p fs2, fs = fs1 ++ (t, p) :: fs2 →
      ∀ crc' p' : Bytes, crc'.length = 4 → p'.length = p.length → frameCrc t p' ≠ leNat crc' → 7 ≤ z →
      ∀ W', SameShape (C01R.flushDisk img b) W' →
        streamOf W' = (C09.damagedBufs g 0 fs1 t fs2 crc' p').flatten ++ zeros z →
      ∀ (policy : Policy) (order : List Bytes),
        ∃ r a, recover g W' policy order none = .ok r ∧
          ∀ name q, l.queues.get? name = some q → ∀ rc ∈ q.recs, ¬ RecordOfIdx J a name rc →
            ∃ q', r.log.queues.get? name = some q' ∧ ∃ r' ∈ q'.recs, r'.pos = rc.pos ∧ r'.payload = rc.payload := by
  obtain ⟨fs, z, h1, h2, h3⟩ := C09_recover_one_frame_all g hB cap l J img b h hwf
  exact ⟨fs, z, h1, h2, fun fs1 t p fs2 hfs crc' p' h4 hp hdet _ => h3 fs1 t p fs2 hfs crc' p' h4 hp hdet⟩

end MRL.C09V
