/-
C05, implementation level: the in-memory queue as the code stores it — one ring buffer of
concatenated payloads plus per-record start offsets (`MRL/Model/RollingBuffer.lean`) — is
abstracted by the one-payload-per-record `MemQueue` of the log model, for EVERY wrap point of the
ring buffer and every bound shape.
-/
import MRL.Model.RollingBuffer
import MRL.Proofs.QMemQueue

namespace MRL.C05I
open MRL.MemQueueI

/-- **`get_range` is slicing of the logical content**, wherever `as_slices` cuts it. -/
theorem getRange_split (left right : Bytes) (start end_ : Nat) (h1 : start ≤ end_) :
    getRange left right start end_ = ((left ++ right).drop start).take (end_ - start) := by
  rw [List.drop_append, List.take_append]
  simp only [List.length_drop]
  unfold getRange
  by_cases ha : end_ < left.length
  · rw [if_pos ha]
    have : end_ - start - (left.length - start) = 0 := by
      rw [Nat.sub_sub_sub_cancel_right (Nat.le_trans h1 (Nat.le_of_lt ha))]
      exact Nat.sub_eq_zero_of_le (Nat.le_of_lt ha)
    rw [this, List.take_zero, List.append_nil]
  · rw [if_neg ha]
    by_cases hb : start ≥ left.length
    · rw [if_pos hb]
      have h0 : left.drop start = [] := List.drop_of_length_le hb
      have : end_ - left.length - (start - left.length) = end_ - start := Nat.sub_sub_sub_cancel_right hb
      simp only [h0, List.take_nil, List.nil_append, this]
      rw [Nat.sub_eq_zero_of_le hb, Nat.sub_zero]
    · rw [if_neg hb]
      have h0 : (left.drop start).take (end_ - start) = left.drop start :=
        List.take_of_length_le (by rw [List.length_drop]; exact Nat.sub_le_sub_right (Nat.le_of_not_lt ha) _)
      have h3 : start - left.length = 0 := Nat.sub_eq_zero_of_le (Nat.le_of_not_le hb)
      have h4 : end_ - start - (left.length - start) = end_ - left.length :=
        Nat.sub_sub_sub_cancel_right (Nat.le_of_not_le hb)
      rw [h0, h3, List.drop_zero, h4]

theorem getRange_buf (buf : Bytes) (split start end_ : Nat) (h1 : start ≤ end_) :
    getRange (buf.take split) (buf.drop split) start end_ = (buf.drop start).take (end_ - start) := by
  have := getRange_split (buf.take split) (buf.drop split) start end_ h1
  rw [List.take_append_drop] at this
  exact this

theorem slots_map_fst (ms : List MetaI) (n : Nat) : (slots ms n).map (·.1) = ms := by
  induction ms with
  | nil => rfl
  | cons m ms ih =>
    cases ms with
    | nil => rfl
    | cons m' rest => simp only [slots, List.map_cons, ih]

theorem slots_length (ms : List MetaI) (n : Nat) : (slots ms n).length = ms.length := by
  rw [← List.length_map (f := (·.1)), slots_map_fst]

theorem slots_getLast? (ms : List MetaI) (n : Nat) : (slots ms n).getLast? = ms.getLast?.map fun m => (m, n) := by
  induction ms with
  | nil => rfl
  | cons m ms ih =>
    cases ms with
    | nil => rfl
    | cons m' rest =>
      simp only [slots]
      cases hs : slots (m' :: rest) n with
      | nil =>
        have := slots_length (m' :: rest) n
        rw [hs] at this; cases this
      | cons s t =>
        rw [List.getLast?_cons_cons, ← hs, List.getLast?_cons_cons]
        exact ih

def recOf (buf : Bytes) (s : MetaI × Nat) : Rec :=
  { pos := s.1.pos, payload := (buf.drop s.1.startOff).take (s.2 - s.1.startOff), file := s.1.file }

theorem absI_eq (q : MemQueueI) :
    absI q = { start := q.start, recs := (slots q.metas q.buf.length).map (recOf q.buf) } := rfl

def Off (ms : List MetaI) (n : Nat) : Prop := ∀ s ∈ slots ms n, s.1.startOff ≤ s.2 ∧ s.2 ≤ n

/-- **Representation invariant**: offsets start at 0, are non-decreasing and `≤ buf.length`; an
    empty queue has an empty buffer; positions as in `C05.QInv`. -/
structure RepInv (q : MemQueueI) : Prop where
  off : Off q.metas q.buf.length
  head0 : ∀ m, q.metas.head? = some m → m.startOff = 0
  empty : q.metas = [] → q.buf = []
  pos : C05.QInv (absI q)

theorem repInv_empty (s : Nat) : RepInv { start := s, metas := [], buf := [] } :=
  ⟨fun _ h => (by cases h), fun _ h => (by cases h), fun _ => rfl,
    ⟨List.Pairwise.nil, fun _ h => (by cases h)⟩⟩

theorem absI_pos (q : MemQueueI) : (absI q).recs.map (·.pos) = q.metas.map (·.pos) := by
  rw [absI_eq]
  simp only [List.map_map]
  rw [← slots_map_fst q.metas q.buf.length, List.map_map]
  simp only [slots_map_fst]
  rfl

theorem absI_length (q : MemQueueI) : (absI q).recs.length = q.metas.length := by
  rw [absI_eq]; simp [slots_length]

theorem absI_nextPosition (q : MemQueueI) : (absI q).nextPosition = q.nextPosition := by
  unfold MemQueue.nextPosition MemQueueI.nextPosition
  rw [absI_eq]
  simp only [List.getLast?_map, slots_getLast?]
  cases q.metas.getLast? <;> rfl

theorem absI_isEmpty (q : MemQueueI) : (absI q).recs.isEmpty = q.metas.isEmpty := by
  have := absI_length q
  cases h1 : (absI q).recs <;> cases h2 : q.metas <;> simp_all

/-! ### The image of a per-record queue

`conc m` is the ring-buffer queue that stores `m`: the payloads end to end, each record's offset the
length of what precedes it. `absI (conc m) = m`, and the representation invariant says exactly that
`q` is such an image (`repInv_conc`, `conc_absI`). So it is enough to know what an operation does to
an image: it yields the image of what the operation does to `m` (`conc_appendRecord`,
`conc_truncateHead`) — the abstraction commutes and the invariant is kept for the same reason. -/

def offs : Nat → List Rec → List MetaI
  | _, [] => []
  | a, r :: rs => ⟨a, r.file, r.pos⟩ :: offs (a + r.payload.length) rs

def bytesOf (rs : List Rec) : Bytes := (rs.map (·.payload)).flatten

def conc (m : MemQueue) : MemQueueI := ⟨m.start, offs 0 m.recs, bytesOf m.recs⟩

theorem bytesOf_cons (r : Rec) (rs : List Rec) : bytesOf (r :: rs) = r.payload ++ bytesOf rs := rfl

theorem bytesOf_append (a b : List Rec) : bytesOf (a ++ b) = bytesOf a ++ bytesOf b := by
  simp [bytesOf]

theorem offs_append (a : Nat) (xs ys : List Rec) :
    offs a (xs ++ ys) = offs a xs ++ offs (a + (bytesOf xs).length) ys := by
  induction xs generalizing a with
  | nil => simp [offs, bytesOf]
  | cons r xs ih => simp [offs, ih, bytesOf_cons, Nat.add_assoc]

theorem slots_offs (pre post : Bytes) : ∀ (rs : List Rec) (a : Nat), a = pre.length →
    (slots (offs a rs) (a + (bytesOf rs).length)).map (recOf (pre ++ bytesOf rs ++ post)) = rs := by
  intro rs
  induction rs generalizing pre with
  | nil => intro a _; rfl
  | cons r rs ih =>
    intro a ha
    have hrec : recOf (pre ++ bytesOf (r :: rs) ++ post)
        (⟨a, r.file, r.pos⟩, a + r.payload.length) = r := by
      subst ha
      simp [recOf, bytesOf_cons]
    have ih' := ih (pre ++ r.payload) (a + r.payload.length) (by simp [ha])
    simp only [bytesOf_cons, List.append_assoc, List.length_append] at ih' hrec ⊢
    cases rs with
    | nil => simpa [offs, slots, bytesOf] using hrec
    | cons r' rs' =>
      simp only [offs, slots, List.map_cons] at ih' ⊢
      rw [hrec]
      simp only [bytesOf_cons, List.length_append, Nat.add_assoc] at ih' ⊢
      rw [ih']

theorem absI_conc (m : MemQueue) : absI (conc m) = m := by
  have := slots_offs [] [] m.recs 0 rfl
  simp only [List.nil_append, List.append_nil, Nat.zero_add] at this
  cases m
  simp only [absI_eq, conc] at this ⊢
  rw [this]

theorem off_offs : ∀ (rs : List Rec) (a : Nat), ∀ s ∈ slots (offs a rs) (a + (bytesOf rs).length),
    s.1.startOff ≤ s.2 ∧ s.2 ≤ a + (bytesOf rs).length := by
  intro rs
  induction rs with
  | nil => intro a s hs; cases hs
  | cons r rs ih =>
    intro a s hs
    cases rs with
    | nil =>
      simp only [offs, slots, List.mem_singleton] at hs
      subst hs
      exact ⟨Nat.le_add_right _ _, Nat.le_refl _⟩
    | cons r' rs' =>
      simp only [offs, slots, List.mem_cons, bytesOf_cons, List.length_append] at hs ih ⊢
      rcases hs with rfl | hs
      · exact ⟨Nat.le_add_right _ _, by simp only; omega⟩
      · have := ih (a + r.payload.length) s (by simpa [Nat.add_assoc] using hs)
        omega

theorem repInv_conc {m : MemQueue} (h : C05.QInv m) : RepInv (conc m) where
  off s hs := by
    have := off_offs m.recs 0 s (by simpa [conc] using hs)
    exact ⟨this.1, by simpa [conc] using this.2⟩
  head0 mm hm := by cases hr : m.recs <;> simp [conc, offs, hr] at hm; rw [← hm]
  empty he := by cases hr : m.recs <;> simp [conc, offs, hr, bytesOf] at he ⊢
  pos := by rw [absI_conc]; exact h

theorem offs_slots (buf : Bytes) : ∀ (ms : List MetaI) (m : MetaI), Off (m :: ms) buf.length →
    offs m.startOff ((slots (m :: ms) buf.length).map (recOf buf)) = m :: ms ∧
    bytesOf ((slots (m :: ms) buf.length).map (recOf buf)) = buf.drop m.startOff := by
  intro ms
  induction ms with
  | nil =>
    intro m h
    have h1 := h (m, buf.length) (by simp [slots])
    simp [slots, offs, recOf, bytesOf, List.take_of_length_le]
  | cons m' rest ih =>
    intro m h
    have h1 := h (m, m'.startOff) List.mem_cons_self
    obtain ⟨i1, i2⟩ := ih m' fun s hs => h s (List.mem_cons_of_mem _ hs)
    have hlen : ((buf.drop m.startOff).take (m'.startOff - m.startOff)).length = m'.startOff - m.startOff := by
      rw [List.length_take, List.length_drop]; omega
    simp only [slots, List.map_cons, offs, bytesOf_cons, recOf] at i1 i2 ⊢
    simp only at h1
    rw [hlen, Nat.add_sub_cancel' h1.1, i1, i2]
    refine ⟨rfl, ?_⟩
    conv => rhs; rw [← List.take_append_drop (m'.startOff - m.startOff) (buf.drop m.startOff)]
    rw [List.drop_drop, Nat.add_sub_cancel' h1.1]

theorem conc_absI {q : MemQueueI} (h : RepInv q) : conc (absI q) = q := by
  obtain ⟨st, ms, buf⟩ := q
  cases ms with
  | nil => have := h.empty rfl; simp only at this; subst this; rfl
  | cons m ms =>
    obtain ⟨h1, h2⟩ := offs_slots buf ms m h.off
    have h0 := h.head0 m rfl
    simp only [conc, absI_eq] at h1 h2 ⊢
    rw [h0] at h1 h2
    rw [h1, h2]; rfl

theorem offs_length (a : Nat) (rs : List Rec) : (offs a rs).length = rs.length := by
  induction rs generalizing a with
  | nil => rfl
  | cons r rs ih => simp [offs, ih]

theorem offs_snoc (a : Nat) (xs : List Rec) (r : Rec) :
    offs a (xs ++ [r]) = offs a xs ++ [⟨a + (bytesOf xs).length, r.file, r.pos⟩] := by
  rw [offs_append]; rfl

theorem conc_nextPosition (m : MemQueue) : (conc m).nextPosition = m.nextPosition := by
  unfold MemQueueI.nextPosition MemQueue.nextPosition conc
  rcases List.eq_nil_or_concat m.recs with h | ⟨xs, r, h⟩ <;> rw [h]
  · rfl
  · simp [List.concat_eq_append, offs_snoc]

/-- moving the handle off the last record touches neither offsets nor bytes -/
theorem offs_dlh (a : Nat) (rs : List Rec) (file : Nat) :
    offs a (MemQueue.dropLastHandle rs file) = dropLastHandle (offs a rs) file ∧
    bytesOf (MemQueue.dropLastHandle rs file) = bytesOf rs := by
  unfold MemQueue.dropLastHandle dropLastHandle
  rcases List.eq_nil_or_concat rs with h | ⟨xs, r, h⟩ <;> subst h
  · exact ⟨rfl, rfl⟩
  · simp only [List.concat_eq_append, List.getLast?_concat, offs_snoc, List.dropLast_concat]
    by_cases hf : r.file = some file
    · simp [hf, offs_snoc, bytesOf]
    · rw [if_neg hf, if_neg hf, offs_snoc]; exact ⟨rfl, rfl⟩

theorem conc_appendRecord (m : MemQueue) (file pos : Nat) (pl : Bytes) :
    (conc m).appendRecordI file pos pl = (m.appendRecord file pos pl).map conc := by
  unfold appendRecordI MemQueue.appendRecord
  rw [conc_nextPosition]
  by_cases hp : pos < m.nextPosition
  · simp [hp]
  · simp only [hp, if_false, Option.map_some, Option.some.injEq]
    have he : (conc m).metas.isEmpty = m.recs.isEmpty := by
      cases h : m.recs <;> simp [conc, offs, h]
    obtain ⟨h1, h2⟩ := offs_dlh 0 m.recs file
    have he' : (offs 0 m.recs = []) = (m.recs = []) := by cases h : m.recs <;> simp [offs]
    simp only [conc, offs_snoc, bytesOf_append, h1, h2, Nat.zero_add, List.isEmpty_iff, he']
    simp [bytesOf]

/-- **`append_record` commutes with the abstraction.** -/
theorem absI_appendRecordI (q : MemQueueI) (h : RepInv q) (file pos : Nat) (pl : Bytes) :
    (q.appendRecordI file pos pl).map absI = (absI q).appendRecord file pos pl := by
  conv => lhs; rw [← conc_absI h]
  rw [conc_appendRecord, Option.map_map]
  cases (absI q).appendRecord file pos pl <;> simp [absI_conc]

theorem repInv_appendRecordI (q q' : MemQueueI) (h : RepInv q) (file pos : Nat) (pl : Bytes)
    (ha : q.appendRecordI file pos pl = some q') : RepInv q' := by
  rw [← conc_absI h, conc_appendRecord] at ha
  obtain ⟨m', hm', rfl⟩ := Option.map_eq_some_iff.mp ha
  exact repInv_conc (appendRecord_inv h.pos hm')

theorem takeWhile_length_lt {α} (P : α → Bool) (l : List α) (x : α) (hx : x ∈ l) (hP : P x = false) :
    (l.takeWhile P).length < l.length := by
  induction l with
  | nil => cases hx
  | cons a l ih =>
    by_cases ha : P a = true
    · simp only [List.takeWhile_cons, ha, if_true, List.length_cons]
      rcases List.mem_cons.mp hx with rfl | hm
      · rw [hP] at ha; cases ha
      · exact Nat.succ_lt_succ (ih hm)
    · rw [List.takeWhile_cons, if_neg ha]; exact Nat.succ_pos _

theorem takeWhile_len (q : MemQueueI) (P : Nat → Bool) :
    ((absI q).recs.takeWhile fun r => P r.pos).length = (q.metas.takeWhile fun m => P m.pos).length := by
  rw [absI_eq]
  simp only [List.takeWhile_map, List.length_map]
  conv => rhs; rw [← slots_map_fst q.metas q.buf.length]
  rw [List.takeWhile_map, List.length_map]
  rfl

theorem offs_takeWhile (P : Nat → Bool) : ∀ (rs : List Rec) (a : Nat),
    ((offs a rs).takeWhile fun m => P m.pos).length = (rs.takeWhile fun r => P r.pos).length := by
  intro rs
  induction rs with
  | nil => intro a; rfl
  | cons r rs ih =>
    intro a
    simp only [offs, List.takeWhile_cons]
    cases P r.pos <;> simp [ih]

theorem offs_rebase (d : Nat) : ∀ (rs : List Rec) (a : Nat),
    (offs (a + d) rs).map (fun m => { m with startOff := m.startOff - d }) = offs a rs := by
  intro rs
  induction rs with
  | nil => intro a; rfl
  | cons r rs ih =>
    intro a
    simp only [offs, List.map_cons, Nat.add_sub_cancel]
    rw [Nat.add_right_comm, ih]

theorem conc_truncateHead (m : MemQueue) (p : Nat) :
    (conc m).truncateHeadI p = (conc (m.truncateHead p).1, (m.truncateHead p).2) := by
  unfold truncateHeadI MemQueue.truncateHead
  rw [conc_nextPosition, show (conc m).start = m.start from rfl]
  by_cases h1 : m.start > p
  · simp [h1]
  by_cases h2 : p + 1 ≥ m.nextPosition
  · simp [h1, h2, conc, offs, bytesOf, offs_length]
  rw [if_neg h1, if_neg h2, if_neg h1, if_neg h2]
  -- the records split at the first one kept
  have hk : idxOf (conc m).metas (p + 1) = (m.recs.takeWhile (·.pos ≤ p)).length := by
    unfold idxOf conc
    rw [offs_takeWhile (fun x => decide (x < p + 1))]
    congr 2; funext r; exact decide_eq_decide.mpr Nat.lt_succ_iff
  have hlt : (m.recs.takeWhile (·.pos ≤ p)).length < m.recs.length := by
    unfold MemQueue.nextPosition at h2
    cases hl : m.recs.getLast? with
    | none => rw [hl] at h2; simp only at h2; omega
    | some r =>
      rw [hl] at h2
      simp only at h2
      exact takeWhile_length_lt _ _ r (List.mem_of_getLast? hl) (by simp; omega)
  simp only [hk]
  generalize (m.recs.takeWhile (·.pos ≤ p)).length = k at hlt
  have hsplit := (List.take_append_drop k m.recs).symm
  have hA : (m.recs.take k).length = k := List.length_take_of_le (Nat.le_of_lt hlt)
  obtain ⟨b, B, hB⟩ : ∃ b B, m.recs.drop k = b :: B := by
    cases h : m.recs.drop k with
    | nil => rw [List.drop_eq_nil_iff] at h; omega
    | cons b B => exact ⟨b, B, rfl⟩
  have hmetas : (conc m).metas = offs 0 (m.recs.take k) ++ offs (bytesOf (m.recs.take k)).length (m.recs.drop k) := by
    show offs 0 m.recs = _
    conv => lhs; rw [hsplit, offs_append, Nat.zero_add]
  have hbuf : (conc m).buf = bytesOf (m.recs.take k) ++ bytesOf (m.recs.drop k) := by
    show bytesOf m.recs = _
    conv => lhs; rw [hsplit, bytesOf_append]
  have hlenA : (offs 0 (m.recs.take k)).length = k := by rw [offs_length, hA]
  have hget : (conc m).metas[k]? = some ⟨(bytesOf (m.recs.take k)).length, b.file, b.pos⟩ := by
    rw [hmetas, List.getElem?_append_right (Nat.le_of_eq hlenA), hlenA, Nat.sub_self, hB]; rfl
  have hdrop : (conc m).metas.drop k = offs (bytesOf (m.recs.take k)).length (m.recs.drop k) := by
    rw [hmetas, List.drop_left' hlenA]
  simp only [hget, hdrop, hbuf, List.drop_left]
  have := offs_rebase (bytesOf (m.recs.take k)).length (m.recs.drop k) 0
  rw [Nat.zero_add] at this
  rw [this]; rfl

/-- **`truncate_head` commutes with the abstraction**, with the same evicted count. -/
theorem absI_truncateHeadI (q : MemQueueI) (h : RepInv q) (p : Nat) :
    absI (q.truncateHeadI p).1 = ((absI q).truncateHead p).1 ∧
    (q.truncateHeadI p).2 = ((absI q).truncateHead p).2 := by
  have := conc_truncateHead (absI q) p
  rw [conc_absI h] at this
  rw [this, absI_conc]; exact ⟨rfl, rfl⟩

theorem repInv_truncateHeadI (q : MemQueueI) (h : RepInv q) (p : Nat) : RepInv (q.truncateHeadI p).1 := by
  rw [← conc_absI h, conc_truncateHead]
  exact repInv_conc (truncateHead_inv h.pos p)

/-- **`range` returns exactly the abstract records' bytes**, for every wrap point `split` of the
    ring buffer and every shape of bounds. -/
theorem rangeI_eq (q : MemQueueI) (h : RepInv q) (lo hi : MemQueue.Bound) (split : Nat) :
    q.rangeI lo hi split = (absI q).range lo hi := by
  have key : ∀ k : Nat,
      (((slots q.metas q.buf.length).drop k).takeWhile fun s => lo.okLo s.1.pos && hi.okHi s.1.pos).map
        (fun s => (s.1.pos, getRange (q.buf.take split) (q.buf.drop split) s.1.startOff s.2)) =
      (((absI q).recs.drop k).takeWhile fun r => lo.okLo r.pos && hi.okHi r.pos).map
        fun r => (r.pos, r.payload) := by
    intro k
    rw [absI_eq]
    simp only [← List.map_drop, List.takeWhile_map, List.map_map]
    apply List.map_congr_left
    intro s hs
    have hmem : s ∈ slots q.metas q.buf.length :=
      List.mem_of_mem_drop ((List.takeWhile_sublist _).subset hs)
    simp only [Function.comp, recOf]
    rw [getRange_buf _ _ _ _ (h.off s hmem).1]
  cases lo with
  | unbounded => exact key 0
  | incl n =>
    unfold rangeI MemQueue.range idxOf
    simp only
    rw [takeWhile_len q (fun x => decide (x < n))]
    exact key _
  | excl n =>
    unfold rangeI MemQueue.range
    simp only
    rw [takeWhile_len q (fun x => decide (x ≤ n))]
    exact key _

/-- **`last_record`**, likewise. -/
theorem lastRecordI_eq (q : MemQueueI) (h : RepInv q) (split : Nat) :
    q.lastRecordI split = (absI q).lastRecord := by
  unfold lastRecordI MemQueue.lastRecord
  rw [absI_eq]
  simp only [List.getLast?_map, slots_getLast?, Option.map_map]
  cases hl : q.metas.getLast? with
  | none => rfl
  | some m =>
    simp only [Option.map_some, Function.comp, recOf]
    have hmem : (m, q.buf.length) ∈ slots q.metas q.buf.length := by
      have := slots_getLast? q.metas q.buf.length
      rw [hl] at this
      exact List.mem_of_getLast? this
    rw [getRange_buf _ _ _ _ (h.off _ hmem).1]

/-- **`size()`** is the abstract size: the buffer holds exactly the payloads. -/
theorem sizeI_eq (q : MemQueueI) (h : RepInv q) (msz : Nat) : q.sizeI msz = (absI q).size msz := by
  have : (conc (absI q)).sizeI msz = (absI q).size msz := by
    simp [sizeI, MemQueue.size, conc, offs_length, bytesOf, List.length_flatten, List.map_map, Function.comp_def]
  rwa [conc_absI h] at this

/-- the empty queue satisfies the invariant; `repInv_appendRecordI` and `repInv_truncateHeadI` keep it -/
theorem repInv_default : RepInv {} := repInv_empty 0

/-- three records `3 ↦ [1,2]`, `4 ↦ [3,4,5]`, `6 ↦ [6,7]` in one 7-byte buffer -/
def qEx : MemQueueI :=
  { start := 3, metas := [⟨0, none, 3⟩, ⟨2, some 0, 4⟩, ⟨5, some 1, 6⟩], buf := [1, 2, 3, 4, 5, 6, 7] }

theorem qEx_inv : RepInv qEx :=
  ⟨(by unfold Off; decide), (fun m hm => by cases hm; rfl), (fun he => by cases he),
    (by unfold C05.QInv; decide)⟩

example : absI qEx = { start := 3, recs := [⟨3, [1, 2], none⟩, ⟨4, [3, 4, 5], some 0⟩, ⟨6, [6, 7], some 1⟩] } := rfl

/-- the ring wraps in the middle of record 4 (`left = [1,2,3]`, `right = [4,5,6,7]`): the record
    is reassembled from both slices -/
example : qEx.rangeI .unbounded .unbounded 3 = [(3, [1, 2]), (4, [3, 4, 5]), (6, [6, 7])] ∧
    qEx.rangeI (.excl 3) (.incl 5) 3 = [(4, [3, 4, 5])] ∧
    qEx.lastRecordI 6 = some (6, [6, 7]) ∧
    getRange [1, 2, 3] [4, 5, 6, 7] 2 5 = [3, 4, 5] := ⟨rfl, rfl, rfl, rfl⟩

/-- … and for every wrap point the answers are the same -/
example : ∀ split, split ≤ 7 →
    qEx.rangeI (.incl 4) .unbounded split = [(4, [3, 4, 5]), (6, [6, 7])] ∧
    qEx.lastRecordI split = some (6, [6, 7]) := by
  intro split _
  rw [rangeI_eq qEx qEx_inv, lastRecordI_eq qEx qEx_inv]
  exact ⟨rfl, rfl⟩

/-- truncating `..=3` drops the first record and re-bases the offsets by 2 -/
example : qEx.truncateHeadI 3 =
    ({ start := 4, metas := [⟨0, some 0, 4⟩, ⟨3, some 1, 6⟩], buf := [3, 4, 5, 6, 7] }, 1) := rfl

/-- appending at position 9 from file 1 moves the handle off record 6 -/
example : qEx.appendRecordI 1 9 [8] =
    some { start := 3, metas := [⟨0, none, 3⟩, ⟨2, some 0, 4⟩, ⟨5, none, 6⟩, ⟨7, some 1, 9⟩],
           buf := [1, 2, 3, 4, 5, 6, 7, 8] } ∧ qEx.appendRecordI 1 6 [8] = none := ⟨rfl, rfl⟩

end MRL.C05I
