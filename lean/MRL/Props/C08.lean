/-
C08 — positions within each queue are strictly increasing, whatever bytes are on disk; and every
recovered record is a record of an `append` entry the reader delivered.

First half (`recover_sorted`): for EVERY image (arbitrary bytes, arbitrary lengths), policy, GC
order and fault plan, a successful `recover` returns a log satisfying the representation
invariant `C05.Inv`: distinct queue names, and in every queue strictly increasing positions, none
below the queue's `start`. The reason is that the replay goes through `append_record`, which
checks `pos ≥ next_position` record by record (a batch with out-of-order positions makes `open`
fail with `Corruption` instead — see the second example).

Second half (`replay_records_subset`, `recover_records_subset`): every record `(queue, position,
payload)` in the recovered queues is a record of some `append` entry among the entries that
`assemble` delivered and `Entry.decode` accepted. The remaining link — a delivered entry is a
written entry — needs a collision clause and is in `Props/C08Genuine.lean` (one stream) and
`Props/C08Recover.lean`, `Props/CrashDamageClean.lean` (images).
-/
import MRL.Proofs.RecReplay

namespace MRL.C08
open Rec

theorem inv_iff (l : Log) : C05.Inv l ↔ QsInv l.queues := Iff.rfl

theorem replayEntry_sorted (qs qs' : MemQueues) (file : Nat) (e : Entry)
    (h : replayEntry qs file e = some qs') (hI : QsInv qs) : QsInv qs' :=
  QsInv_replayEntry h hI

theorem replay_sorted (evs : List RecEv) (qs : MemQueues) (h : replay [] evs = some qs) : QsInv qs :=
  QsInv_replay evs [] qs h QsInv_nil

/-- **C08, first half.** Whatever the image, a recovered log satisfies `C05.Inv`: distinct queue
    names, every queue sorted and above its `start` (hence the name). -/
theorem recover_sorted (g : Geom) (img : Image) (policy : Policy) (order : List Bytes)
    (failAt : Option Nat) (r : Recovered) (h : recover g img policy order failAt = .ok r) :
    C05.Inv r.log := by
  obtain ⟨evs, he⟩ := recover_ok_replay h
  exact replay_sorted evs _ he

theorem recover_sorted' (g : Geom) (img : Image) (policy : Policy) (order : List Bytes)
    (failAt : Option Nat) (r : Recovered) (h : recover g img policy order failAt = .ok r) :
    (r.log.queues.map (·.1)).Nodup ∧
    ∀ kv ∈ r.log.queues,
      (kv.2.recs.map (·.pos)).Pairwise (· < ·) ∧ (∀ rec ∈ kv.2.recs, kv.2.start ≤ rec.pos) ∧
      (∀ rec ∈ kv.2.recs, rec.pos < kv.2.nextPosition) := by
  have hI := recover_sorted g img policy order failAt r h
  refine ⟨hI.1, fun kv hkv => ?_⟩
  have hq := hI.2 kv hkv
  exact ⟨(MemQueue.sorted_iff_pos _).mp hq.1, hq.2, MemQueue.lt_nextPosition _ hq.1⟩

/-- After a successful replay of ANY list of (file, entry), every
    record of every queue is a record of one of the `append` entries of the list, under the
    same queue name, with the same position and payload. -/
theorem replay_records_subset (es : List (Nat × Entry)) (qs : MemQueues)
    (h : replayEntries [] es = some qs) :
    ∀ kv ∈ qs, ∀ rec ∈ kv.2.recs, (kv.1, rec.pos, rec.payload) ∈ recordsOf es := by
  have hA := AllIn_replayEntries es [] [] qs h (fun kv hkv => by cases hkv)
  intro kv hkv rec hrec
  have := hA kv hkv (rec.pos, rec.payload) (List.mem_map_of_mem (f := fun r : Rec => (r.pos, r.payload)) hrec)
  simpa using this

/-- `replay` acts exactly on the record events that are entries and decode (`decoded`): corrupt
    events and undecodable entries are skipped -/
theorem replay_is_fold (evs : List RecEv) (qs : MemQueues) :
    replay qs evs = replayEntries qs (decoded evs) := replay_eq evs qs

/-- **C08, second half (at the level of delivered entries).** The records of a recovered log are
    records of the `append` entries among what `assemble` delivered — for the frames the scan of
    the prepared image returned — and `Entry.decode` accepted. -/
theorem recover_records_subset (g : Geom) (img : Image) (policy : Policy) (order : List Bytes)
    (failAt : Option Nat) (r : Recovered) (h : recover g img policy order failAt = .ok r) :
    ∃ b0 rest trail rdEvs e io,
      blocksOf g (prepareImage g img).1 1 = (b0 :: rest, trail) ∧
      scanBlocks g failAt trail b0.cost b0 0 rest = some (rdEvs, e, io) ∧
      ∀ kv ∈ r.log.queues, ∀ rec ∈ kv.2.recs,
        (kv.1, rec.pos, rec.payload) ∈
          recordsOf (decoded (assemble { within := false, buf := [], attr := b0.file } rdEvs)) := by
  obtain ⟨b0, rest, trail, rdEvs, e, io, h1, h2, h3⟩ := recover_ok_scan_replay h
  refine ⟨b0, rest, trail, rdEvs, e, io, h1, h2, ?_⟩
  rw [replay_eq] at h3
  exact replay_records_subset _ _ h3

/-- a batch with increasing (even non-contiguous) positions replays; the records are kept -/
example : replayEntries [] [(0, .touch [1] 5), (0, .append [1] 5 [(5, [9]), (7, [8])]), (1, .append [1] 9 [(9, [])])]
    = some [([1], { start := 5, recs := [⟨5, [9], none⟩, ⟨7, [8], some 0⟩, ⟨9, [], some 1⟩] })] := by
  decide +kernel

/-- a batch with decreasing positions is rejected: `open` fails with `Corruption` rather than
    building an unsorted queue -/
example : replayEntries [] [(0, .append [1] 5 [(7, [8]), (5, [9])])] = none := by decide +kernel

/-- a batch below the queue's next position is rejected too -/
example : replayEntries [] [(0, .touch [1] 5), (0, .append [1] 3 [(3, [8])])] = none := by decide +kernel

end MRL.C08
