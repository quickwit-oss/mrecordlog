/-
C05 (bounds): the API calls over `u64`. `MRL/Model/PanicCalls.lean` is the panic-instrumented
twin `Log.stepP` of `Log.step`; here:
(0) whenever the twin does not report a panic it returns the value of `Log.step`;
(1) it does not report one when the positions of the state and of the call, and the file numbers,
    stay below `u64::MAX` (`stepP_agrees_cur`; `stepP_agrees` with the file bound of C10), so every
    theorem about `Log.step` over `Nat` is a theorem about the checked code under that bound;
(2) the bound is kept along runs: from a log whose positions are small, no call of a history with
    small explicit positions, few appended records and few WAL bytes panics (`run_no_panic`);
(3) the bound is needed: witnesses on tiny states.
-/
import MRL.Model.PanicCalls
import MRL.Proofs.FNGrow
import MRL.Props.C05

namespace MRL.C05B
open MRL.Log

theorem okIs_ok {ε α : Type} {s : α} : ∀ x, (Except.ok s : Except ε α) = .ok x → x = s :=
  fun _ h => by cases h; rfl

theorem okIs_error {ε α : Type} {s : α} {e : ε} : ∀ x, (Except.error e : Except ε α) = .ok x → x = s :=
  fun _ h => by cases h

/-- `stepP` is made of three shapes — a value (`okIs_ok`), a panic (`okIs_error`) and a test between
    two results: if both return only `s`, so does the test -/
theorem okIs_ite {ε α : Type} {c : Prop} [Decidable c] {a b : Except ε α} {s : α}
    (ha : ∀ x, a = .ok x → x = s) (hb : ∀ x, b = .ok x → x = s) :
    ∀ x, (if c then a else b) = .ok x → x = s := by
  intro x h
  by_cases hc : c
  · rw [if_pos hc] at h; exact ha x h
  · rw [if_neg hc] at h; exact hb x h

theorem stepP_ok (g : Geom) (l : Log) (c : Call) (tick : Bool) (order : List Bytes)
    (x : Log × Outcome × List Effect) (h : stepP g l c tick order = .ok x) :
    x = step g l c tick order := by
  -- every `.ok` leaf of `stepP` carries the value of `step`; the proof follows the tests of `stepP`
  revert x
  cases c with
  | persist a => exact okIs_ok
  | create q =>
    simp only [stepP]
    exact okIs_ite okIs_ok (okIs_ite okIs_error okIs_ok)
  | delete q =>
    simp only [stepP]
    cases l.queues.get? q with
    | none => exact okIs_ok
    | some mq => exact okIs_ite okIs_error (okIs_ite okIs_error (okIs_ite okIs_error okIs_ok))
  | truncate q p =>
    simp only [stepP]
    cases l.queues.get? q with
    | none => exact okIs_ok
    | some mq => exact okIs_ite okIs_error (okIs_ite okIs_error (okIs_ite okIs_error okIs_ok))
  | append q pos? pls =>
    simp only [stepP]
    cases l.queues.get? q with
    | none => exact okIs_ok
    | some mq =>
      refine okIs_ite okIs_error (okIs_ite okIs_error ?_)
      cases appendStart mq pos? with
      | none => exact okIs_ok
      | some pos => exact okIs_ite okIs_error (okIs_ite okIs_ok (okIs_ite okIs_error okIs_ok))

theorem stepPU_ok (g : Geom) (l : Log) (c : Call) (tick : Bool) (order : List Bytes)
    (x : Log × Outcome × List Effect) (h : stepPU g l c tick order = .ok x) :
    x = step g l c tick order := by
  unfold stepPU at h
  split at h
  · cases h
  · rename_i r hr
    cases h
    exact stepP_ok g l c tick order _ hr

/-- the three views of the twin say the same thing -/
theorem stepPanics_iff (g : Geom) (l : Log) (c : Call) (tick : Bool) (order : List Bytes) :
    (stepPanics g l c tick order = false ↔ stepP g l c tick order = .ok (step g l c tick order)) ∧
    (stepPanics g l c tick order = false ↔ stepPU g l c tick order = .ok (step g l c tick order)) := by
  unfold stepPanics stepPU
  cases h : stepP g l c tick order with
  | error es => simp
  | ok r =>
    have := stepP_ok g l c tick order r h
    subst this
    simp

def PosBnd (K : Nat) (l : Log) : Prop := ∀ kv ∈ l.queues, kv.2.nextPosition ≤ K

/-- what the call asks of the positions, for a state whose next positions are at most `K`:
    explicit (or implicit) position plus batch length, and truncate bound, below `u64::MAX` -/
def CallOK (K : Nat) : Call → Prop
  | .append _ (some p) pls => p + pls.length < U64MAX
  | .append _ none pls => K + pls.length < U64MAX
  | .truncate _ p => p < U64MAX
  | _ => True

theorem PosBnd.mono {K K' : Nat} {l : Log} (h : PosBnd K l) (hk : K ≤ K') : PosBnd K' l :=
  fun kv hkv => Nat.le_trans (h kv hkv) hk

theorem not_poisoned_of_next {q : MemQueue} (h : q.nextPosition < U64MAX) : q.poisoned = false := by
  unfold MemQueue.poisoned
  unfold MemQueue.nextPosition at h
  split
  · rename_i r hr
    rw [hr] at h
    simp only at h
    simp only [decide_eq_false_iff_not]
    omega
  · rfl

theorem PosBnd.get {K : Nat} {l : Log} (h : PosBnd K l) {q : Bytes} {mq : MemQueue}
    (hg : l.queues.get? q = some mq) : mq.nextPosition ≤ K := h (q, mq) (AL.get?_mem hg)

theorem CallOK.append_lt {K : Nat} {l : Log} {q : Bytes} {pos? : Option Nat} {pls : List Bytes}
    {mq : MemQueue} {pos : Nat} (hc : CallOK K (.append q pos? pls)) (hp : PosBnd K l)
    (hg : l.queues.get? q = some mq) (ha : Step.appendAt mq pos? pls = .ok pos) :
    pos + pls.length < U64MAX := by
  rw [(Step.appendAt_eq_ok.mp ha).2.1]
  cases pos? with
  | none => exact Nat.lt_of_le_of_lt (Nat.add_le_add_right (hp.get hg) _) hc
  | some p => exact hc

section
variable (g : Geom)

theorem appendStart_some {mq : MemQueue} {pos? : Option Nat} {pos : Nat} (h : appendStart mq pos? = some pos) :
    mq.nextPosition ≤ pos ∧ (pos? = some pos ∨ (pos? = none ∧ pos = mq.nextPosition)) := by
  cases pos? with
  | none =>
    simp only [appendStart, Option.some.injEq] at h
    exact ⟨Nat.le_of_eq h, .inr ⟨rfl, h.symm⟩⟩
  | some p =>
    simp only [appendStart] at h
    by_cases h1 : p + 1 = mq.nextPosition
    · rw [if_pos h1] at h; cases h
    by_cases h2 : p < mq.nextPosition
    · rw [if_neg h1, if_pos h2] at h; cases h
    · rw [if_neg h1, if_neg h2] at h; cases h
      exact ⟨Nat.le_of_not_lt h2, .inl rfl⟩

/-- **C05B (1), tight form.** Positions: every next position of the state is at most `K < u64::MAX`
    and the call satisfies `CallOK K`. File numbers: the `Nat` model ends the call with a current
    file that fits a `u64`. Then the checked code does not panic, and returns what `Log.step`
    returns. (The file hypothesis is exact: an overflowing roll-over leaves the model at
    `u64::MAX + 1` or above, `writeBufPanics_cur`.) -/
theorem stepP_agrees_cur (l : Log) (c : Call) (tick : Bool) (order : List Bytes) (K : Nat)
    (hpos : PosBnd K l) (hK : K < U64MAX) (hc : CallOK K c)
    (hcur : (step g l c tick order).1.cur ≤ U64MAX) :
    stepP g l c tick order = .ok (step g l c tick order) := by
  -- every test of the twin is discharged: the position tests by `hpos`, `hc`; the file-number tests
  -- because the entry, and then the GC pass, left the current file within `u64` (`cur` only moves up)
  cases c with
  | persist a => rfl
  | create q =>
    cases hq : l.queues.contains q with
    | true => simp only [stepP, hq, if_true]
    | false =>
      rw [Step.step_create_eq g l q tick order hq] at hcur
      simp only [stepP, hq, FN.writeEntryPanics_false g l _ hcur, Bool.false_eq_true, if_false]
  | delete q =>
    cases hg : l.queues.get? q with
    | none => simp only [stepP, hg]
    | some mq =>
      have hnp : mq.poisoned = false := not_poisoned_of_next (Nat.lt_of_le_of_lt (hpos.get hg) hK)
      rw [Step.step_delete_eq g l q mq tick order hg] at hcur
      have hgc := FN.runGcPanics_false g { (l.writeEntry g (.delete q mq.nextPosition)).1 with
        queues := (l.writeEntry g (.delete q mq.nextPosition)).1.queues.remove q } order hcur
      have hw := FN.writeEntryPanics_false g l (.delete q mq.nextPosition)
        (Nat.le_trans (Step.runGc_cur_le g { (l.writeEntry g (.delete q mq.nextPosition)).1 with
          queues := (l.writeEntry g (.delete q mq.nextPosition)).1.queues.remove q } order) hcur)
      simp only [stepP, hg, hnp, hw, hgc, Bool.false_eq_true, if_false]
  | truncate q p =>
    cases hg : l.queues.get? q with
    | none => simp only [stepP, hg]
    | some mq =>
      have hnp : mq.poisoned = false := not_poisoned_of_next (Nat.lt_of_le_of_lt (hpos.get hg) hK)
      have ht : truncatePanics mq p = false := C10.truncatePanics_false hnp hc
      rw [Step.step_truncate_eq g l q p mq tick order hg] at hcur
      have hgc := FN.runGcPanics_false g { (l.writeEntry g (.truncate q p)).1 with
        queues := (l.writeEntry g (.truncate q p)).1.queues.set q (mq.truncateHead p).1 } order hcur
      have hw := FN.writeEntryPanics_false g l (.truncate q p)
        (Nat.le_trans (Step.runGc_cur_le g { (l.writeEntry g (.truncate q p)).1 with
          queues := (l.writeEntry g (.truncate q p)).1.queues.set q (mq.truncateHead p).1 } order) hcur)
      simp only [stepP, hg, ht, hw, hgc, Bool.false_eq_true, if_false]
  | append q pos? pls =>
    cases hg : l.queues.get? q with
    | none => simp only [stepP, hg]
    | some mq =>
      have hnext := hpos.get hg
      have hnp : mq.poisoned = false := not_poisoned_of_next (Nat.lt_of_le_of_lt hnext hK)
      have hnomax : explicitAtMax pos? = false := by
        cases pos? with
        | none => rfl
        | some p =>
          exact decide_eq_false (Nat.not_le_of_lt (Nat.lt_of_le_of_lt (Nat.le_add_right _ _) hc))
      cases hs : appendStart mq pos? with
      | none => simp only [stepP, hg, hnp, hnomax, hs, Bool.false_eq_true, if_false]
      | some pos =>
        obtain ⟨hle, hp⟩ := appendStart_some hs
        have hser : ¬ U64MAX ≤ pos + pls.length := by
          rcases hp with rfl | ⟨rfl, rfl⟩
          · exact Nat.not_le_of_lt hc
          · exact Nat.not_le_of_lt (Nat.lt_of_le_of_lt (Nat.add_le_add_right hnext _) hc)
        cases hne : pls.isEmpty with
        | true => simp only [stepP, hg, hnp, hnomax, hs, hser, hne, Bool.false_eq_true, if_false, if_true]
        | false =>
          have hat : Step.appendAt mq pos? pls = .ok pos := Step.appendAt_eq_ok.mpr
            ⟨fun e => (by rw [e] at hne; cases hne), (by rcases hp with rfl | ⟨rfl, rfl⟩ <;> rfl), hle⟩
          obtain ⟨mq', hall⟩ := Step.appendAll_isSome l.cur pls mq pos hle
          rw [Step.step_append_eq g l q mq mq' pos? pls pos tick order hg hat hall] at hcur
          simp only [stepP, hg, hnp, hnomax, hs, hser, hne, FN.writeEntryPanics_false g l _ hcur,
            Bool.false_eq_true, if_false]

/-- **File numbers vs. bytes.** A call moves the file numbers up by at most the number of WAL
    bytes it reports (`wal_bytes_written`): every roll-over is caused by a non-empty buffer. -/
theorem step_bndB (l : Log) (c : Call) (tick : Bool) (order : List Bytes) (M : Nat) (h : C10.Bnd M l) :
    C10.Bnd (M + Step.outBytes (step g l c tick order).2.1) (step g l c tick order).1 :=
  have ⟨hg, hc⟩ := FN.step_grow g l c tick order M h
  hg.1.mono (Nat.add_le_add_left hc M)

/-- **C05B (1), `Bnd` form** (the file hypothesis of C10): `M` bounds the current and the tracked
    file numbers, and `M` plus the WAL bytes the call reports fits a `u64`. -/
theorem stepP_agrees (l : Log) (c : Call) (tick : Bool) (order : List Bytes) (K M : Nat)
    (hpos : PosBnd K l) (hK : K < U64MAX) (hc : CallOK K c)
    (hfiles : C10.Bnd M l) (hM : M + Step.outBytes (step g l c tick order).2.1 ≤ U64MAX) :
    stepP g l c tick order = .ok (step g l c tick order) ∧
    C10.Bnd (M + Step.outBytes (step g l c tick order).2.1) (step g l c tick order).1 := by
  have hb := step_bndB g l c tick order M hfiles
  exact ⟨stepP_agrees_cur g l c tick order K hpos hK hc (Nat.le_trans hb.1 hM), hb⟩

/-- the largest next position a call can install, in a state bounded by `K` -/
def callTop (K : Nat) : Call → Nat
  | .append _ (some p) pls => p + pls.length
  | .append _ none pls => K + pls.length
  | .truncate _ p => p + 1
  | _ => 0

theorem step_posBnd (l : Log) (hI : C05.Inv l) (c : Call) (tick : Bool) (order : List Bytes) (K : Nat)
    (hpos : PosBnd K l) : PosBnd (max K (callTop K c)) (step g l c tick order).1 := by
  refine Step.step_all (P := fun kv => kv.2.nextPosition ≤ max K (callTop K c)) g l c tick order
    (hpos.mono (Nat.le_max_left _ _)) (fun _ _ => Nat.zero_le _) ?_ ?_
  · intro q p mq e hg _
    subst e
    have hqi := hI.get hg
    rw [(MemQueue.truncateHead_spec mq p hqi.1 hqi.2).2.1]
    exact Nat.max_le.mpr ⟨Nat.le_trans (hpos.get hg) (Nat.le_max_left _ _), Nat.le_max_right _ _⟩
  · intro q pos? pls mq pos mq' e hg _ hat hall
    subst e
    have hqi := hI.get hg
    obtain ⟨hne, hpos', hle⟩ := Step.appendAt_eq_ok.mp hat
    obtain ⟨mq'', hall', _, hn, _⟩ := appendAll_spec l.cur pls mq pos hqi.1 hqi.2 hle
    rw [hall] at hall'
    cases hall'
    show mq'.nextPosition ≤ _
    rw [hn hne, hpos']
    cases pos? with
    | none => exact Nat.le_trans (Nat.add_le_add_right (hpos.get hg) _) (Nat.le_max_right _ _)
    | some p => exact Nat.le_max_right _ _

end

/-- the twin of `C05.run`: stop at the first panic -/
def runP (g : Geom) (l : Log) : List (Call × Bool × List Bytes) → Except (List Effect) Log
  | [] => .ok l
  | (c, tick, order) :: cs =>
    match stepP g l c tick order with
    | .error es => .error es
    | .ok r => runP g r.1 cs

def CallBelow (P : Nat) : Call → Prop
  | .append _ (some p) _ => p < P
  | .truncate _ p => p < P
  | _ => True

def callRecs : Call → Nat
  | .append _ _ pls => pls.length
  | _ => 0

def histRecs (cs : List (Call × Bool × List Bytes)) : Nat := (cs.map fun x => callRecs x.1).sum

theorem CallBelow.callOK {P K : Nat} {c : Call} (h : CallBelow P c) (hPK : P ≤ K)
    (hK : K + callRecs c < U64MAX) : CallOK K c := by
  cases c with
  | append q pos? pls =>
    cases pos? with
    | none => exact hK
    | some p => exact Nat.lt_of_le_of_lt (Nat.add_le_add_right (Nat.le_of_lt (Nat.lt_of_lt_of_le h hPK)) _) hK
  | truncate q p => exact Nat.lt_trans (Nat.lt_of_lt_of_le h hPK) hK
  | create q => trivial
  | delete q => trivial
  | persist a => trivial

theorem CallBelow.callTop_le {P K : Nat} {c : Call} (h : CallBelow P c) (hPK : P ≤ K) :
    max K (callTop K c) ≤ K + callRecs c := by
  refine Nat.max_le.mpr ⟨Nat.le_add_right _ _, ?_⟩
  cases c with
  | append q pos? pls =>
    cases pos? with
    | none => exact Nat.le_refl _
    | some p => exact Nat.add_le_add_right (Nat.le_of_lt (Nat.lt_of_lt_of_le h hPK)) _
  | truncate q p => exact Nat.lt_of_lt_of_le h hPK
  | _ => exact Nat.zero_le _

theorem CallOK.callTop_le {K : Nat} {c : Call} (hc : CallOK K c) (hK : K < U64MAX) :
    max K (callTop K c) ≤ U64MAX := by
  refine Nat.max_le.mpr ⟨Nat.le_of_lt hK, ?_⟩
  cases c with
  | append q pos? pls => cases pos? <;> exact Nat.le_of_lt hc
  | truncate q p => exact hc
  | _ => exact Nat.zero_le _

def histBytes (g : Geom) (l : Log) (cs : List (Call × Bool × List Bytes)) : Nat :=
  ((C05.outcomes g l cs).map Step.outBytes).sum

theorem histRecs_cons (c : Call) (tick : Bool) (order : List Bytes) (cs : List (Call × Bool × List Bytes)) :
    histRecs ((c, tick, order) :: cs) = callRecs c + histRecs cs := rfl

theorem histBytes_cons (g : Geom) (l : Log) (c : Call) (tick : Bool) (order : List Bytes)
    (cs : List (Call × Bool × List Bytes)) :
    histBytes g l ((c, tick, order) :: cs) =
      Step.outBytes (step g l c tick order).2.1 + histBytes g (step g l c tick order).1 cs := rfl

/-- **C05B (2).** From a log that satisfies the representation invariant, whose next positions are
    at most `K` and whose file numbers are at most `M`: a history whose explicit positions and
    truncate bounds are below `P`, that appends at most `R` records with `max K P + R < u64::MAX`,
    and whose calls report at most `u64::MAX - M` WAL bytes in total, never panics — the checked
    code computes exactly the run of the `Nat` model. -/
theorem run_no_panic (g : Geom) (P : Nat) (cs : List (Call × Bool × List Bytes)) :
    ∀ (l : Log) (K M : Nat), C05.Inv l → PosBnd K l → C10.Bnd M l → P ≤ K →
      (∀ x ∈ cs, CallBelow P x.1) → K + histRecs cs < U64MAX → M + histBytes g l cs ≤ U64MAX →
      runP g l cs = .ok (C05.run g l cs) ∧
      PosBnd (K + histRecs cs) (C05.run g l cs) ∧ C10.Bnd (M + histBytes g l cs) (C05.run g l cs) := by
  induction cs with
  | nil => intro l K M _ hpos hb _ _ _ _; exact ⟨rfl, hpos, hb⟩
  | cons x cs ih =>
    intro l K M hI hpos hb hPK hbelow hrec hbytes
    obtain ⟨c, tick, order⟩ := x
    rw [histRecs_cons, ← Nat.add_assoc] at hrec ⊢
    rw [histBytes_cons, ← Nat.add_assoc] at hbytes ⊢
    have hKc : K + callRecs c < U64MAX := Nat.lt_of_le_of_lt (Nat.le_add_right _ _) hrec
    have hcb : CallBelow P c := hbelow (c, tick, order) List.mem_cons_self
    obtain ⟨hok, hb'⟩ := stepP_agrees g l c tick order K M hpos (Nat.lt_of_le_of_lt (Nat.le_add_right _ _) hKc)
      (hcb.callOK hPK hKc) hb (Nat.le_trans (Nat.le_add_right _ _) hbytes)
    have hpos' : PosBnd (K + callRecs c) (step g l c tick order).1 :=
      (step_posBnd g l hI c tick order K hpos).mono (hcb.callTop_le hPK)
    have hI' : C05.Inv (step g l c tick order).1 := (C05.C05_refines g l hI c tick order).2.2
    obtain ⟨h1, h2, h3⟩ := ih (step g l c tick order).1 (K + callRecs c)
      (M + Step.outBytes (step g l c tick order).2.1) hI' hpos' hb' (Nat.le_trans hPK (Nat.le_add_right _ _))
      (fun x hx => hbelow x (List.mem_cons_of_mem _ hx)) hrec hbytes
    refine ⟨?_, h2, h3⟩
    simp only [runP, hok, C05.run]
    exact h1

/-- the log right after `open` created `wal-0` in an empty directory (`l0` of `C01R.init_pre`) -/
def fresh (policy : Policy) : Log := { files := [0], cur := 0, off := 0, queues := [], policy := policy }

/-- **C05B (2), from the fresh log**, with the quantifier of the properties: explicit positions
    and truncate bounds below `2^62`, fewer than `2^62` records appended, fewer than `2^63` WAL
    bytes reported. No call panics, every next position stays below `2^63`. -/
theorem fresh_no_panic (g : Geom) (policy : Policy) (cs : List (Call × Bool × List Bytes))
    (hbelow : ∀ x ∈ cs, CallBelow (2 ^ 62) x.1) (hrec : histRecs cs < 2 ^ 62)
    (hbytes : histBytes g (fresh policy) cs < 2 ^ 63) :
    runP g (fresh policy) cs = .ok (C05.run g (fresh policy) cs) ∧
    PosBnd (2 ^ 63) (C05.run g (fresh policy) cs) := by
  have hI : C05.Inv (fresh policy) := C05.Inv_empty [0] 0 0 policy
  have hpos : PosBnd (2 ^ 62) (fresh policy) := fun kv hkv => by cases hkv
  have hb : C10.Bnd 0 (fresh policy) := ⟨Nat.le_refl _, fun f hf => Nat.le_of_eq (List.mem_singleton.mp hf)⟩
  have hK : 2 ^ 62 + histRecs cs < 2 ^ 62 + 2 ^ 62 := Nat.add_lt_add_left hrec _
  obtain ⟨h1, h2, _⟩ := run_no_panic g (2 ^ 62) cs (fresh policy) (2 ^ 62) 0 hI hpos hb (Nat.le_refl _) hbelow
    (Nat.lt_of_lt_of_le hK (by decide))
    (by rw [Nat.zero_add]; exact Nat.le_of_lt (Nat.lt_of_lt_of_le hbytes (by decide)))
  exact ⟨h1, h2.mono (Nat.le_of_lt (Nat.lt_of_lt_of_le hK (by decide)))⟩

section
variable (g : Geom) (l : Log) (tick : Bool) (order : List Bytes)

/-- **Finding (F4 on the API path).** `truncate(q, ..=u64::MAX)` on an existing queue (whose start
    position fits a `u64`) panics in `truncate_head` (`truncate_up_to_pos + 1`, mem/queue.rs:172)
    *after* the `Truncate` entry has been handed to the writer (multi_record_log.rs:275-280): the
    partial effect is the whole `write_record`. On restart the replay of that entry panics again
    (C10, `truncatePanics`). -/
theorem truncate_at_max_panics (q : Bytes) (mq : MemQueue) (hg : l.queues.get? q = some mq)
    (hs : mq.start ≤ U64MAX) (hw : writeEntryPanics g l (.truncate q U64MAX) = false) :
    stepP g l (.truncate q U64MAX) tick order = .error (l.writeEntry g (.truncate q U64MAX)).2.1 := by
  have ht : truncatePanics mq U64MAX = true := by
    unfold truncatePanics
    rw [if_neg (by omega)]
    simp
  unfold stepP
  simp only [hg, hw, ht, Bool.false_eq_true, if_false, if_true]

/-- an explicit position at `u64::MAX` panics at once (`position + 1`, multi_record_log.rs:190),
    whatever the queue holds and whatever the payloads — also for an empty batch; nothing has
    been written -/
theorem append_at_max_panics (q : Bytes) (mq : MemQueue) (pls : List Bytes) (hg : l.queues.get? q = some mq) :
    stepP g l (.append q (some U64MAX) pls) tick order = .error [] := by
  have hmax : explicitAtMax (some U64MAX) = true := decide_eq_true (Nat.le_refl U64MAX)
  cases hp : mq.poisoned <;> simp only [stepP, hg, hp, hmax, Bool.false_eq_true, if_false, if_true]

/-- `CallOK` is tight for appends: a batch that would end at `u64::MAX - 1` or above panics in
    `MultiRecord::serialize` (`(position..).zip(..)`, record.rs:228) before anything is written -/
theorem append_serialize_panics (q : Bytes) (mq : MemQueue) (pos? : Option Nat) (pls : List Bytes) (pos : Nat)
    (hg : l.queues.get? q = some mq) (hs : appendStart mq pos? = some pos) (hp : U64MAX ≤ pos + pls.length) :
    stepP g l (.append q pos? pls) tick order = .error [] := by
  unfold stepP
  simp only [hg, hs, if_pos hp]
  repeat' (first | rfl | split)

end

/-- 19-byte blocks, one block per file: a 12-byte entry fills a file -/
abbrev g19 : Geom := C10.g19

/-- one empty queue, nothing written yet -/
def lq : Log := { files := [0], cur := 0, off := 0, queues := [([1], {})], policy := .doNothing }

theorem lq_writes (e : Entry) (hlen : e.encode.length = 12) :
    writeEntryPanics g19 lq e = false ∧
    (lq.writeEntry g19 e).2.1 = [.write 0 0 (encodeFrame .full e.encode)] ∧
    (lq.writeEntry g19 e).1 = { lq with off := 19 } := by
  obtain ⟨hb, hl, hne⟩ := C10.entryBufsOf_g19 lq e hlen rfl
  have hfit : ¬ (lq.off + 19 > g19.fileBytes) := by decide
  refine ⟨?_, ?_, ?_⟩
  · simp only [writeEntryPanics, hb, writeBufsPanics, writeBufPanics, hne, hl]
    decide
  · rw [Step.writeEntry_eq]
    show (writeBufs g19 lq (entryBufsOf g19 lq e)).2 = _
    rw [hb]
    simp only [writeBufs, writeBuf, hne, hl, Bool.false_eq_true, if_false, if_neg hfit, List.append_nil]
    rfl
  · rw [Step.writeEntry_eq]
    show (writeBufs g19 lq (entryBufsOf g19 lq e)).1 = _
    rw [hb]
    simp only [writeBufs, writeBuf, hne, hl, Bool.false_eq_true, if_false, if_neg hfit]
    rfl

/-- **Witness 1.** `truncate(q, ..=u64::MAX)` on a fresh queue: the 19-byte frame of the `Truncate`
    entry is written to `wal-0` at offset 0, then `truncate_head` panics. -/
theorem witness_truncate_max :
    stepP g19 lq (.truncate [1] U64MAX) false [] =
      .error [.write 0 0 (encodeFrame .full (Entry.truncate [1] U64MAX).encode)] ∧
    stepPanics g19 lq (.truncate [1] U64MAX) false [] = true ∧
    -- one below: no panic
    stepP g19 lq (.truncate [1] (U64MAX - 1)) false [] = .ok (step g19 lq (.truncate [1] (U64MAX - 1)) false []) := by
  have hlen : (Entry.truncate [1] U64MAX).encode.length = 12 := by
    simp [Entry.encode, Entry.encodeRaw, Codec.length_leBytes]
  obtain ⟨hw, he, _⟩ := lq_writes _ hlen
  have h1 := truncate_at_max_panics g19 lq false [] [1] {} (by decide) (by decide) hw
  rw [he] at h1
  refine ⟨h1, ?_, ?_⟩
  · unfold stepPanics; rw [h1]
  · have hlen' : (Entry.truncate [1] (U64MAX - 1)).encode.length = 12 := by
      simp [Entry.encode, Entry.encodeRaw, Codec.length_leBytes]
    obtain ⟨hw', _, hst⟩ := lq_writes _ hlen'
    have hgc : ∀ qs, runGcPanics g19 { (lq.writeEntry g19 (.truncate [1] (U64MAX - 1))).1 with queues := qs } [] = false := by
      intro qs
      rw [hst]
      rfl
    unfold stepP
    have hg : lq.queues.get? [1] = some {} := by decide
    have ht : truncatePanics ({} : MemQueue) (U64MAX - 1) = false := by decide
    simp only [hg, hw', ht, hgc, Bool.false_eq_true, if_false]

/-- **Witness 2.** `append(q, Some(u64::MAX), [p])` on a fresh queue panics (checked build) before
    anything is written; so does **witness 3**, the same call with an empty batch — while the `Nat`
    model accepts the first (a record at `u64::MAX`) and makes the second a no-op. One record
    can be appended at `u64::MAX - 2`, none at `u64::MAX - 1`. -/
theorem witness_append_max :
    stepP g19 lq (.append [1] (some U64MAX) [[7]]) false [] = .error [] ∧
    stepP g19 lq (.append [1] (some U64MAX) []) false [] = .error [] ∧
    (step g19 lq (.append [1] (some U64MAX) []) false []) = (lq, .appended none 0, []) ∧
    (step g19 lq (.append [1] (some U64MAX) [[7]]) false []).2.1 ≠ .past ∧
    stepP g19 lq (.append [1] (some (U64MAX - 1)) [[7]]) false [] = .error [] ∧
    stepP g19 lq (.append [1] (some (U64MAX - 1)) []) false [] =
      .ok (step g19 lq (.append [1] (some (U64MAX - 1)) []) false []) := by
  have hg : lq.queues.get? [1] = some {} := by decide
  refine ⟨append_at_max_panics g19 lq false [] [1] {} _ hg, append_at_max_panics g19 lq false [] [1] {} _ hg,
    ?_, ?_, ?_, ?_⟩
  · exact Step.step_skip g19 lq
      (Step.Does.appendEmpty [1] {} (some U64MAX) hg fun p hp => Nat.zero_le _).act_eq false []
  · obtain ⟨_, n, hn⟩ := Step.step_log g19 lq (Step.Does.append [1] {} _ (some U64MAX) [[7]] U64MAX hg
      (Step.appendAt_eq_ok.mpr ⟨by simp, rfl, Nat.zero_le _⟩) rfl).act_eq false []
    rw [hn]; intro h; cases h
  · exact append_serialize_panics g19 lq false [] [1] {} (some (U64MAX - 1)) [[7]] (U64MAX - 1) hg (by decide) (by decide)
  · unfold stepP
    simp only [hg]
    have h1 : ({} : MemQueue).poisoned = false := rfl
    have h2 : explicitAtMax (some (U64MAX - 1)) = false := by decide
    have h3 : appendStart ({} : MemQueue) (some (U64MAX - 1)) = some (U64MAX - 1) := by decide
    have h4 : ¬ U64MAX ≤ U64MAX - 1 + ([] : List Bytes).length := by decide
    simp only [h1, h2, h3, Bool.false_eq_true, if_false]
    rw [if_neg h4]
    rfl

/-- **Witness 4 (implicit position).** After `truncate(q, ..=u64::MAX - 1)` — which does not panic —
    the queue's next position is `u64::MAX`: every later `append(q, None, _)`, even of an empty
    batch, panics in `MultiRecord::serialize`. -/
theorem witness_implicit_max (g : Geom) (l : Log) (q : Bytes) (pls : List Bytes) (tick : Bool) (order : List Bytes)
    (hg : l.queues.get? q = some (MemQueue.withNextPosition U64MAX)) :
    stepP g l (.append q none pls) tick order = .error [] :=
  append_serialize_panics g l tick order q _ none pls U64MAX hg rfl (Nat.le_add_right _ _)

/-- the current file is `u64::MAX` and full -/
def lfull : Log := { files := [U64MAX], cur := U64MAX, off := 19, queues := [], policy := .doNothing }

/-- **Witness 5 (file numbers).** `create_queue` when the current file `u64::MAX` is full: the
    roll-over flushes and syncs, then `FileTracker::inc` overflows (rolling/file_number.rs:59). -/
theorem witness_file_max :
    stepP g19 lfull (.create [1]) false [] = .error [.flush, .fsyncFile U64MAX, .fsyncDir] := by
  obtain ⟨hb, hl, hne⟩ := C10.entryBufsOf_g19 lfull (.touch [1] 0) (by decide) rfl
  have hp : writeBufPanics g19 lfull (encodeFrame .full (Entry.touch [1] 0).encode) = true := by
    simp only [writeBufPanics, hne, hl]
    decide
  unfold stepP
  have hc : lfull.queues.contains [1] = false := rfl
  simp only [hc, Bool.false_eq_true, if_false, writeEntryPanics, writeEntryPre, hb, writeBufsPanics, writeBufsPre,
    hp, Bool.true_or, if_true]
  rfl

end MRL.C05B
