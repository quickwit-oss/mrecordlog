/-
C10, oversize: no image the log itself produces — clean restarts and crashes at ANY byte included
— has a file longer than the nominal size, so on all of them `open` as the code does it since fix
F6 (`recoverC = recover ∘ clipImage`) IS `recover`. Every theorem stated with `recover` on reachable
images, on the crash images of a call and on the crash images of `open` itself is a theorem about
`recoverC`.

* `noOversize_of_cinvx`: the relaxed invariant `CInvX` gives full-size or empty files (`L.dshape_of_cinvx`).
* `stop_noOversize`: every image a process on a `C02U.ReachX` state leaves for the next `open` (`L.Stop`), through
  `noOversize_of_xinvres`; the next three are its cases.
* `reach_noOversize` (`C02U.ReachX`), `reachD_noOversize` (`C01R.ReachD`): the flushed disk.
* `crash_noOversize`: every crash image `crashImage img ops k cut` of a call from a `ReachX` call
  boundary — exactly the images `C02U.ReachX.crash` ranges over (same hypotheses: `b.pend = []`,
  serialisable entries, the CRC clause `TornStep`).
* `crash2_noOversize`: every crash image of `open` itself (those of `C02U.ReachX.crash2`).
* `recoverC_reach`, `recoverC_reachD`, `recoverC_crash`, `recoverC_crash2`: `recoverC = recover` there.
-/
import MRL.Props.C10Oversize
import MRL.Props.C02Usable
import MRL.Proofs.LShape

namespace MRL.C10V
open Log C10A C01J G H L Buf Codec

theorem noOversize_of_cinvx {g : Geom} {l : Log} {J : List JE} {D : Image} (h : L.CInvX g l J D) :
    NoOversize g D := by
  intro kv hkv
  rcases Nat.lt_or_ge l.cur kv.1 with hlt | hle
  · rw [(L.dshape_of_cinvx h).empty kv hkv hlt]; exact Nat.zero_le _
  · exact Nat.le_of_eq ((L.dshape_of_cinvx h).full kv hkv hle)

theorem noOversize_of_xinvres {g : Geom} {qB qA : MemQueues} {X : Image} (h : XInvRes g qB qA X) :
    NoOversize g X := by
  obtain ⟨_, _, _, _, _, _, hc, _⟩ := h .doNothing
  exact noOversize_of_cinvx hc

/-- no image a process leaves for the next `open` has an oversize file -/
theorem stop_noOversize (g : Geom) (hB : g.B ≤ 65542) (cap : Nat) {l lA : Log} {img X : Image} {b : BufSt}
    (h : C02U.ReachX g cap l img b) (hs : Stop g cap C07.WF l img b lA X) : NoOversize g X :=
  noOversize_of_xinvres (C02U.stop_res g hB cap h hs)

theorem reach_noOversize (g : Geom) (hB : g.B ≤ 65542) (cap : Nat) {l : Log} {img : Image} {b : BufSt}
    (h : C02U.ReachX g cap l img b) : NoOversize g (C02U.flushDisk img b) :=
  stop_noOversize g hB cap h .clean

theorem reachD_noOversize (g : Geom) (hB : g.B ≤ 65542) (cap : Nat) {l : Log} {J : List JE} {img : Image}
    {b : BufSt} (h : C01R.ReachD g cap l J img b) (hwf : ∀ j ∈ J, C07.WF j.e) :
    NoOversize g (C01R.flushDisk img b) :=
  reach_noOversize g hB cap (C02U.ReachX.base h hwf)

theorem crash_noOversize (g : Geom) (hB : g.B ≤ 65542) (cap : Nat) {l : Log} {img : Image} {b : BufSt}
    (h : C02U.ReachX g cap l img b) (hb : b.pend = []) (c : Call) (tick : Bool) (order : List Bytes)
    (hfits : ∀ j ∈ l.stepJ g c order, C07.WF j.e) (htorn : C02A.TornStep g l c tick order) (k cut : Nat) :
    NoOversize g (crashImage img (toOsOps cap b (l.step g c tick order).2.2).2 k cut) :=
  stop_noOversize g hB cap h (.call c tick order k cut hb hfits htorn)

theorem crash2_noOversize (g : Geom) (hB : g.B ≤ 65542) (cap : Nat) {l : Log} {img : Image} {b : BufSt}
    (h : C02U.ReachX g cap l img b) (policy : Policy) (order : List Bytes) (lp0 : Log)
    (e00 : List Effect) (io0 : Nat) (r0 : Recovered)
    (hpre0 : recoverPre g (C02U.flushDisk img b) policy none = .ok (lp0, e00, io0))
    (hrec0 : recover g (C02U.flushDisk img b) policy order none = .ok r0)
    (hgw0 : ∀ j ∈ lp0.gcJ g order, C07.WF j.e) (htorn : TornEffs r0.effects) (k cut : Nat) :
    NoOversize g (crashImage (C02U.flushDisk img b) (toOsOps cap {} r0.effects).2 k cut) :=
  stop_noOversize g hB cap h (.opened policy order lp0 e00 io0 r0 k cut hpre0 hrec0 hgw0 htorn)

theorem recoverC_reach (g : Geom) (hB : g.B ≤ 65542) (cap : Nat) {l : Log} {img : Image} {b : BufSt}
    (h : C02U.ReachX g cap l img b) (policy : Policy) (order : List Bytes) (failAt : Option Nat) :
    recoverC g (C02U.flushDisk img b) policy order failAt = recover g (C02U.flushDisk img b) policy order failAt :=
  recoverC_eq_recover g _ policy order failAt (reach_noOversize g hB cap h)

theorem recoverC_reachD (g : Geom) (hB : g.B ≤ 65542) (cap : Nat) {l : Log} {J : List JE} {img : Image}
    {b : BufSt} (h : C01R.ReachD g cap l J img b) (hwf : ∀ j ∈ J, C07.WF j.e) (policy : Policy)
    (order : List Bytes) (failAt : Option Nat) :
    recoverC g (C01R.flushDisk img b) policy order failAt = recover g (C01R.flushDisk img b) policy order failAt :=
  recoverC_eq_recover g _ policy order failAt (reachD_noOversize g hB cap h hwf)

theorem recoverC_crash (g : Geom) (hB : g.B ≤ 65542) (cap : Nat) {l : Log} {img : Image} {b : BufSt}
    (h : C02U.ReachX g cap l img b) (hb : b.pend = []) (c : Call) (tick : Bool) (order : List Bytes)
    (hfits : ∀ j ∈ l.stepJ g c order, C07.WF j.e) (htorn : C02A.TornStep g l c tick order) (k cut : Nat)
    (policy' : Policy) (order' : List Bytes) (failAt : Option Nat) :
    recoverC g (crashImage img (toOsOps cap b (l.step g c tick order).2.2).2 k cut) policy' order' failAt =
      recover g (crashImage img (toOsOps cap b (l.step g c tick order).2.2).2 k cut) policy' order' failAt :=
  recoverC_eq_recover g _ policy' order' failAt (crash_noOversize g hB cap h hb c tick order hfits htorn k cut)

theorem recoverC_crash2 (g : Geom) (hB : g.B ≤ 65542) (cap : Nat) {l : Log} {img : Image} {b : BufSt}
    (h : C02U.ReachX g cap l img b) (policy : Policy) (order : List Bytes) (lp0 : Log)
    (e00 : List Effect) (io0 : Nat) (r0 : Recovered)
    (hpre0 : recoverPre g (C02U.flushDisk img b) policy none = .ok (lp0, e00, io0))
    (hrec0 : recover g (C02U.flushDisk img b) policy order none = .ok r0)
    (hgw0 : ∀ j ∈ lp0.gcJ g order, C07.WF j.e) (htorn : TornEffs r0.effects) (k cut : Nat)
    (policy' : Policy) (order' : List Bytes) (failAt : Option Nat) :
    recoverC g (crashImage (C02U.flushDisk img b) (toOsOps cap {} r0.effects).2 k cut) policy' order' failAt =
      recover g (crashImage (C02U.flushDisk img b) (toOsOps cap {} r0.effects).2 k cut) policy' order' failAt :=
  recoverC_eq_recover g _ policy' order' failAt
    (crash2_noOversize g hB cap h policy order lp0 e00 io0 r0 hpre0 hrec0 hgw0 htorn k cut)

end MRL.C10V
