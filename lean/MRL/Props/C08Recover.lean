/-
C08 and C12 about `open` itself — arbitrary in-place damage of the image of ANY reachable state.

Setting: `h : C01R.ReachD g cap l J img b` (any history of calls and restarts), serialisable
entries; `W := flushDisk img b` the clean image; `W'` ANY image with the same file numbers and the
same file lengths (`Img.SameShape`). The files back to back form the stream (`Img.streamOf`); the
tape of `W` is a frame layout from position 0 followed by zeros (`Img.TapeLayout`; the disk
invariant provides one: the tail frames of an entry cut by a file deletion, then the frames of the
journal entries located in the tracked files). `Img.NoAccidentalFrameImg g W W'` — the "up to a
CRC-32 collision" clause: wherever the reader's acceptance test passes on the stream of `W'`, the
tape of `W` has that very frame, type and payload, at that very location.

* `C08V.C08_recover_genuine`: if `recover g W' … = .ok r` then `C05.Inv r.log`, every record of
  every queue of `r.log` is `(name, position, payload)` of an `append` entry of the journal — of an
  append call of the history (`appended J`) — and the queues are the replay of a list `L` of
  entries that is a SUB-SEQUENCE of the journal entries located in the tracked files.
* `C12V.C12_recover_damage`: for that `L`, `C12C.AllOrSuffix L r.log.queues`.
-/
import MRL.Proofs.LInv
import MRL.Proofs.ImgTape
import MRL.Props.C01Restart
import MRL.Props.C12Compose

namespace MRL.C08V
open Codec Img L

/-- the records appended by the calls of the history -/
def appended (J : List JE) : List (Bytes × Nat × Bytes) := Rec.recordsOf (J.map fun j => (j.attr, j.e))

/-- what a successful `recover` of a (possibly damaged) image delivers, against a journal `J` -/
def _root_.MRL.C08X.Genuine (J : List JE) (F : Nat) (r : Recovered) : Prop :=
  C05.Inv r.log ∧
  (∀ kv ∈ r.log.queues, ∀ rec ∈ kv.2.recs, (kv.1, rec.pos, rec.payload) ∈ C08V.appended J) ∧
  ∃ L : List (Nat × Entry), Rec.replayEntries [] L = some r.log.queues ∧
    List.Sublist (L.map (·.2)) ((J.filter fun j => decide (F ≤ j.loc)).map (·.e))

theorem genuine_of_delivered (g : Geom) (W' : Image) (policy : Policy) (order : List Bytes) (r : Recovered)
    (hr : recover g W' policy order none = .ok r) (J : List JE) (F : Nat) (L : List (Nat × Entry))
    (hL1 : Rec.replayEntries [] L = some r.log.queues)
    (hL2 : List.Sublist (L.map (·.2)) ((J.filter fun j => decide (F ≤ j.loc)).map (·.e))) :
    C08X.Genuine J F r := by
  refine ⟨C08.recover_sorted g W' policy order none r hr, ?_, L, hL1, hL2⟩
  intro kv hkv rec hrec
  have h1 := C08.replay_records_subset L _ hL1 kv hkv rec hrec
  rw [recordsOf_eq] at h1
  have h3 : List.Sublist ((J.filter fun j => decide (F ≤ j.loc)).map (·.e)) (J.map (·.e)) :=
    List.filter_sublist.map _
  have h4 := recordsOfE_sublist (hL2.trans h3) _ h1
  unfold appended
  rw [recordsOf_eq, List.map_map]
  exact h4

/-- the damaged read of an item tape is genuine, the collision clause being `Gen.NoAcc` against
    the genuine frames of the tape; every clause on images is used through this one -/
theorem _root_.MRL.C08X.genuine_tapeD (g : Geom) {D : Image} {F : Nat} {J : List JE} {cs : List Bytes} {x : Bool}
    {ais lead : List AItm} {gs : List Grp} {res : Bytes} {z0 z1 : Nat}
    (hd : TapeD g D F J cs x ais lead gs res z0 z1) (hwf : ∀ j ∈ J, C07.WF j.e) (W' : Image)
    (hshape : SameShape D W') (hN : Gen.NoAcc g (glocs g 0 ais) (streamOf W'))
    (policy : Policy) (order : List Bytes) (r : Recovered) (hr : recover g W' policy order none = .ok r) :
    C08X.Genuine J F r := by
  obtain ⟨L, hL1, hL2⟩ := tapeD_delivered g hd hwf W' hshape hN policy order r hr
  exact genuine_of_delivered g W' policy order r hr J F L hL1 hL2

theorem C08_recover_genuine (g : Geom) (hB : g.B ≤ 65542) (cap : Nat) (l : Log) (J : List JE) (img : Image)
    (b : BufSt) (h : C01R.ReachD g cap l J img b) (hwf : ∀ j ∈ J, C07.WF j.e)
    (W' : Image) (hshape : SameShape (C01R.flushDisk img b) W')
    (hN : NoAccidentalFrameImg g (C01R.flushDisk img b) W')
    (policy : Policy) (order : List Bytes) (r : Recovered) (hr : recover g W' policy order none = .ok r) :
    C05.Inv r.log ∧
    (∀ kv ∈ r.log.queues, ∀ rec ∈ kv.2.recs, (kv.1, rec.pos, rec.payload) ∈ appended J) ∧
    ∃ L : List (Nat × Entry), Rec.replayEntries [] L = some r.log.queues ∧
      List.Sublist (L.map (·.2)) ((J.filter fun j => decide (l.files.headD 0 ≤ j.loc)).map (·.e)) := by
  obtain ⟨cs, x, afs, lead, segs, z0, z1, hd⟩ := tapeD_of_cinv (C01R.reach_rinv g hB cap h hwf).c
  refine C08X.genuine_tapeD g hd hwf W' hshape ?_ policy order r hr
  rw [glocs_plain]
  refine hN _ ⟨by have := hd.fits; rwa [frs_plain] at this, z0 + z1, ?_⟩
  rw [hd.stream, flatJ_plain, zeros_add]; simp

end MRL.C08V

namespace MRL.C12V
open Img

/-- After any in-place damage of the image of any reachable state, if `open`
    succeeds, its queues are the replay of a sub-sequence `L` of the retained journal entries, and
    every batch of `L` is all-or-suffix (`C12C.AllOrSuffix`, `C12C.BatchSuffix`: the surviving
    records of the batch are a contiguous suffix `b.drop k'`). -/
theorem C12_recover_damage (g : Geom) (hB : g.B ≤ 65542) (cap : Nat) (l : Log) (J : List JE) (img : Image)
    (b : BufSt) (h : C01R.ReachD g cap l J img b) (hwf : ∀ j ∈ J, C07.WF j.e)
    (W' : Image) (hshape : SameShape (C01R.flushDisk img b) W')
    (hN : NoAccidentalFrameImg g (C01R.flushDisk img b) W')
    (policy : Policy) (order : List Bytes) (r : Recovered) (hr : recover g W' policy order none = .ok r) :
    ∃ L : List (Nat × Entry),
      List.Sublist (L.map (·.2)) ((J.filter fun j => decide (l.files.headD 0 ≤ j.loc)).map (·.e)) ∧
      C12C.AllOrSuffix L r.log.queues := by
  obtain ⟨_, _, L, hL1, hL2⟩ := C08V.C08_recover_genuine g hB cap l J img b h hwf W' hshape hN policy order r hr
  exact ⟨L, hL2, C12C.allOrSuffix_of_replay L _ hL1⟩

end MRL.C12V
