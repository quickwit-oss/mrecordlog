/-
C09 (byte level) — damage confined to the checksum and/or payload bytes of a single frame costs
at most the one WAL entry that frame belongs to.

Setting of C07: entries `es` written from cursor `c`, the complete stream followed by zeros. The
frames of the layout are `Torn.framesOf g c hc es = fs1 ++ (t, p) :: fs2` (`framesOf_is_layout`:
the writer's buffers are `layoutBufs` of them); the damaged stream has, in place of the buffer
`encodeFrame t p` of the chosen frame, `crc' ++ len(2) ++ type(1) ++ p'` with ARBITRARY `crc'`
(4 bytes) and `p'` (same length as `p`) — length field and type byte untouched, everything else
identical (`damaged_buffers`; with the original bytes it is the original stream, `undamaged`).
`hdet` is the detection hypothesis: the altered frame fails its check.

`C09_one_frame`: the damaged stream is read to its end, stopping where the writer stopped, and
the entries delivered (corrupt events dropped) are `es` with exactly entry `a` removed, in
order, `a` being the entry the frame belongs to — whatever the frame's role (Full, First, Middle,
Last) and position (next to a block end, followed by padding …). The length field is intact, so
the reader resynchronises on the next frame; `assemble` leaves the entry on the corrupt event,
ignores the remaining Middle/Last frames of entry `a`, and the next First/Full starts cleanly.

Proof machinery: MRL/Proofs/TornDamage.lean (the damaged stream is a tape of items with one junk slot;
reassembly around it), MRL/Proofs/TornRead.lean (`Torn.read_tape1`), MRL/Proofs/TornCount.lean.
-/
import MRL.Proofs.TornDamage
import MRL.Props.C02

namespace MRL.C09
open Consts Codec Torn

/-- the frames of the entries are what the writer lays out -/
theorem framesOf_is_layout (g : Geom) (c : Nat) (hc : c < g.B) (es : List Bytes) :
    C07.writeEntriesBufs g c hc es = layoutBufs g c (framesOf g c hc es) ∧
    EntriesFrames es (framesOf g c hc es) ∧ Fits g c (framesOf g c hc es) :=
  framesOf_spec g es c hc

/-- the buffers of the stream with frame `(t, p)` (after the frames `fs1`, before `fs2`) damaged:
    checksum bytes `crc'`, payload `p'` -/
def damagedBufs (g : Geom) (c : Nat) (fs1 : List Frm) (t : FrameType) (fs2 : List Frm) (crc' p' : Bytes) :
    List Bytes :=
  rawLayout g c (fs1.map good ++ (crc', t, p') :: fs2.map good)

/-- the damaged stream is the original one, buffer by buffer, except for the frame's buffer,
    which keeps its length, its length field and its type byte -/
theorem damaged_buffers (g : Geom) (c : Nat) (fs1 : List Frm) (t : FrameType) (p : Bytes) (fs2 : List Frm)
    (crc' p' : Bytes) (hp : p'.length = p.length) :
    damagedBufs g c fs1 t fs2 crc' p' =
      layoutBufs g c fs1 ++
        ((if g.B - endCursor g c fs1 < HEADER_LEN then [zeros (g.B - endCursor g c fs1)] else []) ++
          [crc' ++ leBytes p.length 2 ++ [t.code.toUInt8] ++ p'] ++
          layoutBufs g (frameEndCursor g (endCursor g c fs1) p.length) fs2) ∧
    layoutBufs g c (fs1 ++ (t, p) :: fs2) =
      layoutBufs g c fs1 ++
        ((if g.B - endCursor g c fs1 < HEADER_LEN then [zeros (g.B - endCursor g c fs1)] else []) ++
          [leBytes (frameCrc t p) 4 ++ leBytes p.length 2 ++ [t.code.toUInt8] ++ p] ++
          layoutBufs g (frameEndCursor g (endCursor g c fs1) p.length) fs2) := by
  constructor
  · unfold damagedBufs
    rw [rawLayout_damaged g c fs1 p fs2 (crc', t, p') hp, rawWrites_eq]
    simp only [Raw.bytes, hp]
  · rw [layout_split, frameWrites_eq]; rfl

/-- with the original checksum and payload it is the original stream -/
theorem undamaged (g : Geom) (c : Nat) (fs1 : List Frm) (t : FrameType) (p : Bytes) (fs2 : List Frm) :
    damagedBufs g c fs1 t fs2 (leBytes (frameCrc t p) 4) p = layoutBufs g c (fs1 ++ (t, p) :: fs2) := by
  unfold damagedBufs
  have : fs1.map good ++ (leBytes (frameCrc t p) 4, t, p) :: fs2.map good = (fs1 ++ (t, p) :: fs2).map good := by
    simp [good]
  rw [this, rawLayout_good]

/-- **C09.** One damaged frame costs exactly the entry it belongs to. `7 ≤ z`: the reader must meet
    a zero header behind the last frame to stop there. -/
theorem C09_one_frame (g : Geom) (hB : g.B ≤ 65542) (c : Nat) (hc : c < g.B) (es : List Bytes)
    (file z : Nat) (hz : 7 ≤ z) (fs1 : List Frm) (t : FrameType) (p : Bytes) (fs2 : List Frm)
    (hfs : framesOf g c hc es = fs1 ++ (t, p) :: fs2)
    (crc' p' : Bytes) (h4 : crc'.length = 4) (hp : p'.length = p.length)
    (hdet : frameCrc t p' ≠ leNat crc') :
    let stream' := zeros c ++ (damagedBufs g c fs1 t fs2 crc' p').flatten ++ zeros z
    stream'.length % g.B = 0 →
    ∃ a, a < es.length ∧
      (framesOf g c hc (es.take a)).length ≤ fs1.length ∧
      fs1.length < (framesOf g c hc (es.take (a + 1))).length ∧
      ∃ b0 rest evs e io,
        fileBlocks g file stream' 1 0 (stream'.length / g.B) = b0 :: rest ∧
        scanBlocks g none 1 0 b0 c rest = some (evs, e, io) ∧
        entriesOf (assemble { within := false, buf := [], attr := file } evs) =
          (es.eraseIdx a).map (RecEv.entry file) ∧
        e.file = file ∧
        e.idx * g.B + e.cursor = finalPos g (c + totalLen (C07.writeEntriesBufs g c hc es)) := by
  intro stream' hmod
  obtain ⟨a, gp1, gs', ha, h1, h2, h3⟩ := next_frame g es c hc fs1 t p fs2 hfs
  obtain ⟨rest, hsplit, hR⟩ := framesOf_split g es c hc (a + 1)
  have hfs2 : fs2 = gs' ++ rest := by
    rw [hfs, h3, h1, List.append_assoc, List.append_assoc, List.append_assoc] at hsplit
    have := List.append_cancel_left (List.append_cancel_left hsplit)
    simpa using this
  refine ⟨a, ha, by rw [h1]; simp, by rw [h3, h1]; simp, ?_⟩
  have hF := (framesOf_spec g es c hc).2.2
  rw [hfs] at hF
  obtain ⟨A, hA1, hA2, hA3, hA4, hA5, hA6⟩ := damaged_tape g c file hc fs1 t p fs2 crc' p' h4 hp hdet hF
  obtain ⟨n, hn⟩ := whole_blocks g stream' hmod (pos_of_zeros _ (Nat.lt_of_lt_of_le (by decide) hz))
  have hdrop : stream'.drop c = L.flatJ g c A ++ zeros z := by
    show (zeros c ++ (damagedBufs g c fs1 t fs2 crc' p').flatten ++ zeros z).drop c = _
    rw [List.append_assoc, List.drop_left' (length_zeros c), ← hA1]; rfl
  obtain ⟨e, e1, e2, e3⟩ := read_tape1 g hB file A stream' n c z hc hn hA2 (hA4 _) hA3 hdrop hz
  obtain ⟨b0, rest', io, hfb, hsb⟩ := pipeline g file stream' c n hn
  rw [e1] at hsb
  refine ⟨b0, rest', _, e, io, hfb, hsb, ?_, e2, ?_⟩
  · rw [hA5, h1, hfs2]
    have := asm_damaged file (es.take a) _ gp1 gs' rest (t, p) (es.drop (a + 1))
      (framesOf_spec g (es.take a) c hc).2.1 h2 hR
    rw [List.eraseIdx_eq_take_drop_succ]
    exact this
  · rw [e3, hA6, (framesOf_spec g es c hc).1, hfs]; rfl

/-! ### non-vacuity on `g.B = 16` (the two entries of the C02 example) -/

open C02 in
theorem exFrames : framesOf g16 0 (by decide) exEs =
    [(.full, [1, 2]), (.first, []), (.middle, [3, 0, 0, 0, 0, 0, 0, 0, 0]), (.last, [0, 0, 4])] := by
  apply layoutBufs_inj g16 _ _ 0
  rw [← (framesOf_spec g16 exEs 0 (by decide)).1, exBufs]
  simp [layoutBufs, frameWrites, frameEndCursor, adv, g16, HEADER_LEN]

theorem crcEx : frameCrc .middle [3, 0, 0, 0, 0, 0, 0, 0, 0] ≠ leNat [0, 0, 0, 0] ∧
    frameCrc .full [9, 9] ≠ frameCrc .full [1, 2] := by
  simp only [Twin.frameCrc_eq]; decide +kernel

open C02 in
/-- checksum bytes of the Middle frame of entry 1 zeroed (payload intact): entry 1 is lost, entry
    0 is delivered. The executable model gives `[entry 5 [1, 2], corrupt]`. -/
example := C09_one_frame g16 (by decide) 0 (by decide) exEs 5 22 (by decide)
  [(.full, [1, 2]), (.first, [])] .middle [3, 0, 0, 0, 0, 0, 0, 0, 0] [(.last, [0, 0, 4])] exFrames
  [0, 0, 0, 0] [3, 0, 0, 0, 0, 0, 0, 0, 0] rfl rfl crcEx.1
  (by decide)

open C02 in
/-- payload of the Full frame of entry 0 altered (checksum bytes intact): entry 0 is lost, entry
    1 is delivered although its first frame sits right behind the damaged one, at the very end
    of the block. The executable model gives `[corrupt, entry 5 [3, 0, …, 4]]`. -/
example := C09_one_frame g16 (by decide) 0 (by decide) exEs 5 22 (by decide)
  [] .full [1, 2] [(.first, []), (.middle, [3, 0, 0, 0, 0, 0, 0, 0, 0]), (.last, [0, 0, 4])] exFrames
  (leBytes (frameCrc .full [1, 2]) 4) [9, 9] (length_leBytes _ _) rfl
  (by rw [leNat_leBytes4 _ (frameCrc_lt _ _)]; exact crcEx.2)
  (by decide)

end MRL.C09
