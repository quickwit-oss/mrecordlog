/-
C07F: the hypothesis "every journal entry serialises" (`C07.WF`) of the end-to-end theorems,
discharged from conditions on the CALLS.

* `CallFits c`: what the API's types and limits give — a `create` names its queue by valid UTF-8 of
  fewer than 65536 bytes, every payload of an `append` is shorter than 2^32 bytes;
* `C05B.CallBelow P c`: the explicit position of an `append` and the bound of a `truncate` are below
  `P`, with `P` plus the number of records appended so far below `u64::MAX` (the quantifier
  "positions < 2^62" of the properties is `P = 2^62`);
* `NamesFit l`: the names of the existing queues fit (an invariant: names only enter through `create`).

Under these conditions every entry a call or a GC pass journals satisfies `EntryFits`: it serialises
(`C07.WF`) and its positions are below `u64::MAX` (`C10.NoMaxEntry`, what the replay of `open` needs not
to overflow). `ReachDF` / `ReachXF` are `C01R.ReachD` / `C02U.ReachX` with `CallFits` and the position
bookkeeping of `C05B.run_no_panic` at every step, and NO `WF` premise; the corollaries `…_calls` restate
`C01_restart_exact`, `C02_crash_atomic`, `C02_usable_crash_atomic`, `C02_usable_restart`, `C03_durable`
and `C03_posix_reachX` with no hypothesis on the journal.

`gcJ_wf` / `stepJ_wf` (registered in `tools/propcfg.py`) state serialisability alone, under the weakest bounds
(`K < 2^64`, `C05B.CallOK`); the proofs below go through `Fit.gcJ` / `Fit.step`, which give `EntryFits` from
`Fit K l` and `C05B.CallBelow`.
-/
import MRL.Props.C05Bounds
import MRL.Props.C10
import MRL.Props.C02Usable
import MRL.Props.C02Atomic
import MRL.Props.C03Durable
import MRL.Props.C03PosixX
import MRL.Proofs.LProvReach

namespace MRL.C07F
open MRL.Log

/-- a queue name the codec can carry: valid UTF-8 (it is a `&str`), length in a `u16` -/
def NameFits (q : Bytes) : Prop := utf8Valid q = true ∧ q.length < 65536

/-- the limits the API puts on the arguments of a call, positions apart -/
def CallFits : Call → Prop
  | .create q => NameFits q
  | .append _ _ pls => ∀ p ∈ pls, p.length < 2 ^ 32
  | _ => True

def NamesFit (l : Log) : Prop := ∀ kv ∈ l.queues, NameFits kv.1

theorem U64MAX_lt : U64MAX < 2 ^ 64 := by decide

theorem NamesFit.get {l : Log} (h : NamesFit l) {q : Bytes} {mq : MemQueue}
    (hg : l.queues.get? q = some mq) : NameFits q := h (q, mq) (AL.get?_mem hg)

theorem NamesFit.remove {l l' : Log} {q : Bytes} (h : NamesFit l) (hq : l'.queues = l.queues.remove q) :
    NamesFit l' := by
  intro kv hkv
  rw [hq] at hkv
  exact h kv (mem_remove hkv)

structure Fit (K : Nat) (l : Log) : Prop where
  inv : C05.Inv l
  names : NamesFit l
  pos : C05B.PosBnd K l

theorem Fit.mono {K K' : Nat} {l : Log} (h : Fit K l) (hk : K ≤ K') : Fit K' l :=
  ⟨h.inv, h.names, h.pos.mono hk⟩

theorem Fit.of_queues {K : Nat} {l l' : Log} (hq : l'.queues = l.queues) (h : Fit K l) : Fit K l' :=
  ⟨C05.Inv.of_queues hq h.inv, fun kv hkv => h.names kv (hq ▸ hkv), fun kv hkv => h.pos kv (hq ▸ hkv)⟩

/-- what is asked of every journal entry: it serialises, and no position field is `u64::MAX` -/
abbrev EntryFits : Entry → Prop := LP.WFP C10.NoMaxEntry

section
variable (g : Geom)

theorem touchNext_le {K : Nat} {l : Log} (hp : C05B.PosBnd K l) (n : Bytes) : touchNext l n ≤ K := by
  unfold touchNext
  cases hg : l.queues.get? n with
  | none => exact Nat.zero_le K
  | some q => exact hp.get hg

theorem touch_wf {K : Nat} {l : Log} (hn : NamesFit l) (hp : C05B.PosBnd K l) (hK : K < 2 ^ 64)
    {kv : Bytes × MemQueue} (hkv : kv ∈ l.queues) : C07.WF (.touch kv.1 (touchNext l kv.1)) :=
  ⟨(hn kv hkv).1, (hn kv hkv).2, Nat.lt_of_le_of_lt (touchNext_le hp kv.1) hK⟩

/-- **the GC pass**: the position entries it writes serialise -/
theorem gcJ_wf (l : Log) (order : List Bytes) (K : Nat) (hn : NamesFit l) (hp : C05B.PosBnd K l)
    (hK : K < 2 ^ 64) : ∀ j ∈ l.gcJ g order, C07.WF j.e := by
  intro j hj
  obtain ⟨kv, hkv, he⟩ := gcJ_mem g l order j hj
  rw [he]; exact touch_wf hn hp hK hkv

/-- names only enter through `create` -/
theorem step_namesFit (l : Log) (c : Call) (tick : Bool) (order : List Bytes) (hn : NamesFit l)
    (hf : CallFits c) : NamesFit (step g l c tick order).1 :=
  Step.step_all (P := fun kv => NameFits kv.1) g l c tick order hn
    (fun _ e => by subst e; exact hf) (fun _ _ _ _ _ h => h) (fun _ _ _ _ _ _ _ _ h _ _ => h)

theorem Fit.act {K : Nat} {l : Log} (h : Fit K l) (hK : K < U64MAX) {c : Call} (hf : CallFits c)
    (hc : C05B.CallOK K c) {e : Entry} {qs' : MemQueues} {out : Nat → Outcome}
    (ha : Step.act l c = .log e qs' out) : EntryFits e := by
  have hU : ∀ {n}, n < U64MAX → n < 2 ^ 64 := fun h => Nat.lt_trans h U64MAX_lt
  have hd := Step.act_does l c
  rw [ha] at hd
  cases hd with
  | create q _ => exact ⟨⟨hf.1, hf.2, by decide⟩, Nat.lt_of_le_of_lt (Nat.zero_le K) hK⟩
  | delete q mq hg =>
    have := Nat.lt_of_le_of_lt (h.pos.get hg) hK
    exact ⟨⟨(h.names.get hg).1, (h.names.get hg).2, hU this⟩, this⟩
  | truncate q p mq hg => exact ⟨⟨(h.names.get hg).1, (h.names.get hg).2, hU hc⟩, hc⟩
  | append q mq _ pos? pls pos hg hat _ =>
    have hpos := hc.append_lt h.pos hg hat
    have h0 := Nat.lt_of_le_of_lt (Nat.le_add_right _ _) hpos
    refine ⟨⟨(h.names.get hg).1, (h.names.get hg).2, hU h0, fun r hr => ?_⟩, h0, fun r hr => ?_⟩
    · obtain ⟨_, h2, h3⟩ := mem_numberFrom pls pos r hr
      exact ⟨hU (Nat.lt_trans h2 hpos), hf _ h3⟩
    · exact Nat.lt_trans (mem_numberFrom pls pos r hr).2.1 hpos

/-- **one call**: every journal entry it writes — its own and the GC's — serialises. (A `truncate` up to
    `u64::MAX - 1` is allowed here: it leaves a next position `u64::MAX`, which the GC may record.) -/
theorem stepJ_wf (l : Log) (c : Call) (order : List Bytes) (K : Nat) (hI : C05.Inv l) (hn : NamesFit l)
    (hp : C05B.PosBnd K l) (hK : K < U64MAX) (hf : CallFits c) (hc : C05B.CallOK K c) :
    ∀ j ∈ l.stepJ g c order, C07.WF j.e := by
  intro j hj
  rcases stepJ_mem g l c order j hj with ⟨e, qs', out, ha, he⟩ | ⟨kv, hkv, he⟩
  · rw [he]; exact (Fit.act ⟨hI, hn, hp⟩ hK hf hc ha).1
  · rw [he]
    exact touch_wf (step_namesFit g l c false order hn hf) (C05B.step_posBnd g l hI c false order K hp)
      (Nat.lt_of_le_of_lt (hc.callTop_le hK) U64MAX_lt) hkv
end

theorem fits_of_absEq {a b : Log} {K : Nat} (hI : C05.Inv a) (h : H.AbsEq a.queues b.queues)
    (hn : NamesFit b) (hp : C05B.PosBnd K b) : NamesFit a ∧ C05B.PosBnd K a := by
  have key : ∀ kv ∈ a.queues, ∃ y, b.queues.get? kv.1 = some y ∧ kv.2.abs = y.abs :=
    fun kv hkv => h.get_some (AL.get?_of_mem_nodup hI.1 hkv)
  constructor
  · intro kv hkv
    obtain ⟨y, hy, _⟩ := key kv hkv
    exact hn.get hy
  · intro kv hkv
    obtain ⟨y, hy, he⟩ := key kv hkv
    rw [H.abs_next he]
    exact hp.get hy

theorem Fit.touch {K : Nat} {l : Log} (h : Fit K l) (hK : K < U64MAX) {kv : Bytes × MemQueue}
    (hkv : kv ∈ l.queues) : EntryFits (.touch kv.1 (touchNext l kv.1)) :=
  ⟨touch_wf h.names h.pos (Nat.lt_trans hK U64MAX_lt) hkv, Nat.lt_of_le_of_lt (touchNext_le h.pos kv.1) hK⟩

theorem Fit.gcJ (g : Geom) {K : Nat} {l : Log} (h : Fit K l) (hK : K < U64MAX) (order : List Bytes) :
    ∀ j ∈ l.gcJ g order, EntryFits j.e := by
  intro j hj
  obtain ⟨kv, hkv, he⟩ := gcJ_mem g l order j hj
  rw [he]; exact h.touch hK hkv

theorem Fit.step (g : Geom) {K : Nat} {l : Log} (h : Fit K l) (c : Call) (tick : Bool) (order : List Bytes)
    (P : Nat) (hPK : P ≤ K) (hf : CallFits c) (hb : C05B.CallBelow P c) (hK : K + C05B.callRecs c < U64MAX) :
    (∀ j ∈ l.stepJ g c order, EntryFits j.e) ∧ Fit (K + C05B.callRecs c) (Log.step g l c tick order).1 := by
  have next : ∀ tick, Fit (K + C05B.callRecs c) (Log.step g l c tick order).1 := fun tick =>
    ⟨(C05.C05_refines g l h.inv c tick order).2.2, step_namesFit g l c tick order h.names hf,
      (C05B.step_posBnd g l h.inv c tick order K h.pos).mono (hb.callTop_le hPK)⟩
  refine ⟨fun j hj => ?_, next tick⟩
  rcases stepJ_mem g l c order j hj with ⟨e, qs', out, ha, he⟩ | ⟨kv, hkv, he⟩
  · rw [he]; exact h.act (Nat.lt_of_le_of_lt (Nat.le_add_right _ _) hK) hf (hb.callOK hPK hK) ha
  · rw [he]; exact (next false).touch hK hkv

/-- a recovered log whose queues have the abstraction of a fitting log fits; so does the log before
    its GC pass, hence the GC's entries fit -/
theorem Fit.of_recover {g : Geom} {img : Image} {policy : Policy} {order : List Bytes} {lp : Log}
    {e0 : List Effect} {io : Nat} {r : Recovered} {K : Nat} {l : Log}
    (hpre : recoverPre g img policy none = .ok (lp, e0, io))
    (hrec : recover g img policy order none = .ok r)
    (hab : H.AbsEq r.log.queues l.queues) (hf : Fit K l) (hK : K < U64MAX) :
    Fit K r.log ∧ ∀ j ∈ lp.gcJ g order, EntryFits j.e := by
  have hI := C08.recover_sorted g img policy order none r hrec
  obtain ⟨h1, h2⟩ := fits_of_absEq hI hab hf.names hf.pos
  have hfit : Fit K r.log := ⟨hI, h1, h2⟩
  exact ⟨hfit, (hfit.of_queues (Step.recover_queues g hpre hrec).symm).gcJ g hK order⟩

/-- what the journal of a `ReachXF` state carries next to the relaxed invariant -/
abbrev QF : List JE → MemQueues → Prop := fun J _ => ∀ j ∈ J, EntryFits j.e

theorem carryF : L.Carry EntryFits QF := LP.carry C10.NoMaxEntry

/-- **`open` on an image the crash analysis describes, from fitting logs.** `X` is an image on which
    `recoverPre` returns the abstract state of `lB` or of `lA` (`L.XInvResQ`: so is every image a process
    leaves, `L.Carry.stop`); both fit. Then the GC entries of that `open` fit, and the
    log it returns fits and carries the invariant. -/
theorem Fit.recovered (g : Geom) (cap : Nat) {K : Nat} {lB lA : Log} {X : Image}
    (hres : L.XInvResQ g QF lB.queues lA.queues X) (hfB : Fit K lB) (hfA : Fit K lA) (hK : K < U64MAX)
    (policy : Policy) (order : List Bytes) (lp : Log) (e0 : List Effect) (io : Nat) (r : Recovered)
    (hpre : recoverPre g X policy none = .ok (lp, e0, io)) (hrec : recover g X policy order none = .ok r) :
    (∀ j ∈ lp.gcJ g order, EntryFits j.e) ∧ Fit K r.log ∧
    L.XRInvQ g cap QF r.log (applyOsOps X (toOsOps cap {} r.effects).2) (toOsOps cap {} r.effects).1 := by
  obtain ⟨J', lp1, io1, F', h1, _, _, _, _, h6⟩ := hres policy
  rw [hpre] at h1
  simp only [Except.ok.injEq, Prod.mk.injEq] at h1
  obtain ⟨rfl, _, _⟩ := h1
  rw [← Step.recover_queues g hpre hrec] at h6
  have hfit : Fit K r.log ∧ ∀ j ∈ lp.gcJ g order, EntryFits j.e :=
    h6.elim (fun hab => Fit.of_recover hpre hrec hab hfB hK) (fun hab => Fit.of_recover hpre hrec hab hfA hK)
  exact ⟨hfit.2, hfit.1, (carryF.inv_of_xinvres g cap hres policy order lp e0 io r hpre hrec hfit.2).1⟩

/-- `C01R.ReachD` where every call satisfies `CallFits`, explicit positions and truncate bounds are
    below `P`, and `n` = number of records appended so far with `P + n < u64::MAX`. No hypothesis on
    the journal. -/
inductive ReachDF (g : Geom) (cap P : Nat) : Nat → Log → List JE → Image → BufSt → Prop
  | init (policy : Policy) (order : List Bytes) (r : Recovered) :
      recover g [] policy order none = .ok r →
      ReachDF g cap P 0 r.log [] (applyOsOps [] (toOsOps cap {} r.effects).2) (toOsOps cap {} r.effects).1
  | step {n : Nat} {l : Log} {J : List JE} {img : Image} {b : BufSt} (c : Call) (tick : Bool)
      (order : List Bytes) :
      ReachDF g cap P n l J img b → CallFits c → C05B.CallBelow P c →
      P + n + C05B.callRecs c < U64MAX →
      ReachDF g cap P (n + C05B.callRecs c) (l.step g c tick order).1 (J ++ l.stepJ g c order)
        (applyOsOps img (toOsOps cap b (l.step g c tick order).2.2).2)
        (toOsOps cap b (l.step g c tick order).2.2).1
  | reopen {n : Nat} {l : Log} {J : List JE} {img : Image} {b : BufSt} (policy : Policy) (order : List Bytes)
      (lp : Log) (e0 : List Effect) (io : Nat) (r : Recovered) :
      ReachDF g cap P n l J img b →
      recoverPre g (C01R.flushDisk img b) policy none = .ok (lp, e0, io) →
      recover g (C01R.flushDisk img b) policy order none = .ok r →
      ReachDF g cap P n r.log (J ++ lp.gcJ g order)
        (applyOsOps (C01R.flushDisk img b) (toOsOps cap {} r.effects).2) (toOsOps cap {} r.effects).1

theorem reachDF_all (g : Geom) (hB : g.B ≤ 65542) (cap P : Nat) (hP : P < U64MAX) {n : Nat} {l : Log}
    {J : List JE} {img : Image} {b : BufSt} (h : ReachDF g cap P n l J img b) :
    C01R.ReachD g cap l J img b ∧ (∀ j ∈ J, EntryFits j.e) ∧ Fit (P + n) l ∧ P + n < U64MAX := by
  induction h with
  | init policy order r hr =>
    have hd := C01R.ReachD.init (g := g) (cap := cap) policy order r hr
    have hw : ∀ j ∈ ([] : List JE), C07.WF j.e := fun j hj => by cases hj
    refine ⟨hd, (fun j hj => nomatch hj), ?_, hP⟩
    have hri := C01R.reach_rinv g hB cap hd hw
    obtain ⟨qs, h1, h2, _⟩ := hri.c.jinv.rep
    have hqs : qs = [] := by
      have : replayJ (r.log.files.headD 0) [] [] = some [] := rfl
      rw [this] at h1; exact (Option.some.inj h1).symm
    subst hqs
    have hI := C08.recover_sorted g [] policy order none r hr
    have hab : H.AbsEq r.log.queues ({ r.log with queues := [] } : Log).queues :=
      (H.AbsEq.of_qsEquiv h2).symm
    obtain ⟨a1, a2⟩ := fits_of_absEq (K := P + 0) hI hab (fun kv hkv => by cases hkv) (fun kv hkv => by cases hkv)
    exact ⟨hI, a1, a2⟩
  | step c tick order _ hf hb hK ih =>
    obtain ⟨hd, hw, hfit, _⟩ := ih
    obtain ⟨hsw, hfit'⟩ := hfit.step g c tick order P (Nat.le_add_right _ _) hf hb hK
    exact ⟨C01R.ReachD.step c tick order hd, List.forall_mem_append.mpr ⟨hw, hsw⟩,
      by rw [← Nat.add_assoc]; exact hfit', by rw [← Nat.add_assoc]; exact hK⟩
  | reopen policy order lp e0 io r _ hpre hrec ih =>
    obtain ⟨hd, hw, hfit, hb⟩ := ih
    obtain ⟨r', hr', hq⟩ := C01R.C01_restart_exact g hB cap _ _ _ _ hd (fun j hj => (hw j hj).1) policy order
    rw [hrec] at hr'
    cases hr'
    obtain ⟨hfit', hgw⟩ := Fit.of_recover hpre hrec (H.AbsEq.of_qsEquiv hq) hfit hb
    exact ⟨C01R.ReachD.reopen policy order lp e0 io r hd hpre hrec, List.forall_mem_append.mpr ⟨hw, hgw⟩, hfit', hb⟩

theorem reachDF_inv (g : Geom) (hB : g.B ≤ 65542) (cap P : Nat) (hP : P < U64MAX) {n : Nat} {l : Log}
    {J : List JE} {img : Image} {b : BufSt} (h : ReachDF g cap P n l J img b) :
    C01R.ReachD g cap l J img b ∧ (∀ j ∈ J, C07.WF j.e) ∧ Fit (P + n) l ∧ P + n < U64MAX :=
  have ⟨h1, h2, h3, h4⟩ := reachDF_all g hB cap P hP h
  ⟨h1, fun j hj => (h2 j hj).1, h3, h4⟩

theorem jourD_wf (g : Geom) (P : Nat) (cs : List (Call × Bool × List Bytes)) : ∀ (l : Log) (K : Nat),
    Fit K l → P ≤ K → (∀ x ∈ cs, CallFits x.1 ∧ C05B.CallBelow P x.1) → K + C05B.histRecs cs < U64MAX →
    ∀ j ∈ MRL.K.jourD g l cs, C07.WF j.e := by
  induction cs with
  | nil => intro l K _ _ _ _ j hj; cases hj
  | cons x cs ih =>
    intro l K hfit hPK hall hK j hj
    obtain ⟨c, tick, order⟩ := x
    rw [C05B.histRecs_cons, ← Nat.add_assoc] at hK
    obtain ⟨hcf, hcb⟩ := hall (c, tick, order) List.mem_cons_self
    obtain ⟨hsw, hfit'⟩ := hfit.step g c tick order P hPK hcf hcb (Nat.lt_of_le_of_lt (Nat.le_add_right _ _) hK)
    simp only [MRL.K.jourD, List.mem_append] at hj
    rcases hj with hj | hj
    · exact (hsw j hj).1
    · exact ih _ _ hfit' (Nat.le_trans hPK (Nat.le_add_right _ _)) (fun y hy => hall y (List.mem_cons_of_mem _ hy))
        hK j hj

/-- **C01, from the calls.** -/
theorem C01_restart_exact_calls (g : Geom) (hB : g.B ≤ 65542) (cap P : Nat) (hP : P < U64MAX) {n : Nat}
    {l : Log} {J : List JE} {img : Image} {b : BufSt} (h : ReachDF g cap P n l J img b)
    (policy : Policy) (order : List Bytes) :
    ∃ r, recover g (C01R.flushDisk img b) policy order none = .ok r ∧ QsEquiv r.log.queues l.queues := by
  obtain ⟨hd, hw, _, _⟩ := reachDF_inv g hB cap P hP h
  exact C01R.C01_restart_exact g hB cap l J img b hd hw policy order

/-- **C02, from the calls**: the call in flight fits too. -/
theorem C02_crash_atomic_calls (g : Geom) (hB : g.B ≤ 65542) (cap P : Nat) (hP : P < U64MAX) {n : Nat}
    {l : Log} {J : List JE} {img : Image} {b : BufSt} (h : ReachDF g cap P n l J img b) (hb : b.pend = [])
    (c : Call) (tick : Bool) (order : List Bytes) (hcf : CallFits c) (hcb : C05B.CallBelow P c)
    (hK : P + n + C05B.callRecs c < U64MAX) (htorn : C02A.TornStep g l c tick order) (k cut : Nat)
    (policy' : Policy) (order' : List Bytes) :
    ∃ rec, recover g (crashImage img (toOsOps cap b (l.step g c tick order).2.2).2 k cut) policy' order' none = .ok rec ∧
      (C02A.AbsEq rec.log.queues l.queues ∨ C02A.AbsEq rec.log.queues (l.step g c tick order).1.queues) := by
  obtain ⟨hd, hw, hfit, _⟩ := reachDF_inv g hB cap P hP h
  obtain ⟨hsw, _⟩ := hfit.step g c tick order P (Nat.le_add_right _ _) hcf hcb hK
  exact C02A.C02_crash_atomic g hB cap l J img b hd hb c tick order
    (List.forall_mem_append.mpr ⟨hw, fun j hj => (hsw j hj).1⟩) htorn k cut policy' order'

/-- **C03, from the calls**: a run of fitting calls from a persist point. -/
theorem C03_durable_calls (g : Geom) (hB : g.B ≤ 65542) (cap P : Nat) (hP : P < U64MAX) {n : Nat}
    {l : Log} {J : List JE} {img : Image} {b : BufSt} (h : ReachDF g cap P n l J img b) (hb : b.pend = [])
    (cs : List (Call × Bool × List Bytes)) (hall : ∀ x ∈ cs, CallFits x.1 ∧ C05B.CallBelow P x.1)
    (hK : P + n + C05B.histRecs cs < U64MAX) (htorn : C03D.TornRun g l cs)
    (k cut : Nat) (policy' : Policy) (order' : List Bytes) :
    ∃ rec i, i ≤ cs.length ∧
      recover g (crashImage img (MRL.K.runD g cap ⟨l, J, b, []⟩ cs).ops k cut) policy' order' none = .ok rec ∧
      C03D.AbsEq rec.log.queues (MRL.K.runD g cap ⟨l, J, b, []⟩ (cs.take i)).l.queues := by
  obtain ⟨hd, hw, hfit, _⟩ := reachDF_inv g hB cap P hP h
  refine C03D.C03_durable g hB cap l J img b hd hb cs ?_ htorn k cut policy' order'
  rw [MRL.K.runD_eq]
  exact List.forall_mem_append.mpr ⟨hw, jourD_wf g P cs l (P + n) hfit (Nat.le_add_right _ _) hall hK⟩

/-- `C02U.ReachX` (crashes at any point of a call or of `open`, any number of times) where every
    call — completed or in flight — satisfies `CallFits`, with the same bookkeeping as `ReachDF`
    and no `WF` premise -/
inductive ReachXF (g : Geom) (cap P : Nat) : Nat → Log → Image → BufSt → Prop
  | base {n : Nat} {l : Log} {J : List JE} {img : Image} {b : BufSt} :
      ReachDF g cap P n l J img b → ReachXF g cap P n l img b
  | step {n : Nat} {l : Log} {img : Image} {b : BufSt} (c : Call) (tick : Bool) (order : List Bytes) :
      ReachXF g cap P n l img b → CallFits c → C05B.CallBelow P c → P + n + C05B.callRecs c < U64MAX →
      ReachXF g cap P (n + C05B.callRecs c) (l.step g c tick order).1
        (applyOsOps img (toOsOps cap b (l.step g c tick order).2.2).2)
        (toOsOps cap b (l.step g c tick order).2.2).1
  | reopen {n : Nat} {l : Log} {img : Image} {b : BufSt} (policy : Policy) (order : List Bytes)
      (lp : Log) (e0 : List Effect) (io : Nat) (r : Recovered) :
      ReachXF g cap P n l img b →
      recoverPre g (C02U.flushDisk img b) policy none = .ok (lp, e0, io) →
      recover g (C02U.flushDisk img b) policy order none = .ok r →
      ReachXF g cap P n r.log (applyOsOps (C02U.flushDisk img b) (toOsOps cap {} r.effects).2)
        (toOsOps cap {} r.effects).1
  | crash {n : Nat} {l : Log} {img : Image} {b : BufSt} (c : Call) (tick : Bool) (order : List Bytes)
      (k cut : Nat) (X : Image) (policy' : Policy) (order' : List Bytes) (lp : Log) (e0 : List Effect)
      (io : Nat) (r : Recovered) :
      ReachXF g cap P n l img b → b.pend = [] →
      CallFits c → C05B.CallBelow P c → P + n + C05B.callRecs c < U64MAX →
      C02A.TornStep g l c tick order →
      X = crashImage img (toOsOps cap b (l.step g c tick order).2.2).2 k cut →
      recoverPre g X policy' none = .ok (lp, e0, io) →
      recover g X policy' order' none = .ok r →
      ReachXF g cap P (n + C05B.callRecs c) r.log (applyOsOps X (toOsOps cap {} r.effects).2)
        (toOsOps cap {} r.effects).1
  | crash2 {n : Nat} {l : Log} {img : Image} {b : BufSt} (policy : Policy) (order : List Bytes) (lp0 : Log)
      (e00 : List Effect) (io0 : Nat) (r0 : Recovered) (k cut : Nat) (X : Image) (policy' : Policy)
      (order' : List Bytes) (lp : Log) (e0 : List Effect) (io : Nat) (r : Recovered) :
      ReachXF g cap P n l img b →
      recoverPre g (C02U.flushDisk img b) policy none = .ok (lp0, e00, io0) →
      recover g (C02U.flushDisk img b) policy order none = .ok r0 →
      H.TornEffs r0.effects →
      X = crashImage (C02U.flushDisk img b) (toOsOps cap {} r0.effects).2 k cut →
      recoverPre g X policy' none = .ok (lp, e0, io) →
      recover g X policy' order' none = .ok r →
      ReachXF g cap P n r.log (applyOsOps X (toOsOps cap {} r.effects).2) (toOsOps cap {} r.effects).1

/-- the constructors that end with an `open` differ in the image it runs on, one the process before left
    (`L.Stop`, described by `L.Carry.stop`); the rest is `Fit.recovered` -/
theorem reachXF_all (g : Geom) (hB : g.B ≤ 65542) (cap P : Nat) (hP : P < U64MAX) {n : Nat} {l : Log}
    {img : Image} {b : BufSt} (h : ReachXF g cap P n l img b) :
    C02U.ReachX g cap l img b ∧ L.XRInvQ g cap QF l img b ∧ Fit (P + n) l ∧ P + n < U64MAX := by
  induction h with
  | base hd =>
    obtain ⟨h1, h2, h3, h4⟩ := reachDF_all g hB cap P hP hd
    have hw := fun j hj => (h2 j hj).1
    have := C01R.reach_rinv g hB cap h1 hw
    exact ⟨C02U.ReachX.base h1 hw, ⟨⟨_, L.CInvX.of_cinv this.c, h2⟩, this.buf⟩, h3, h4⟩
  | step c tick order _ hf hb hK ih =>
    obtain ⟨hx, hinv, hfit, _⟩ := ih
    obtain ⟨hsw, hfit'⟩ := hfit.step g c tick order P (Nat.le_add_right _ _) hf hb hK
    exact ⟨C02U.ReachX.step c tick order hx (fun j hj => (hsw j hj).1), carryF.inv_step g cap hinv c tick order hsw,
      by rw [← Nat.add_assoc]; exact hfit', by rw [← Nat.add_assoc]; exact hK⟩
  | reopen policy order lp e0 io r _ hpre hrec ih =>
    obtain ⟨hx, hinv, hfit, hb⟩ := ih
    obtain ⟨hgw, hfit', hinv'⟩ := Fit.recovered g cap (carryF.stop g cap hB hinv .clean) hfit hfit hb policy order lp e0
      io r hpre hrec
    exact ⟨C02U.ReachX.reopen policy order lp e0 io r hx hpre hrec (fun j hj => (hgw j hj).1), hinv', hfit', hb⟩
  | crash c tick order k cut X policy' order' lp e0 io r _ hbp hf hcb hK htorn hX hpre hrec ih =>
    obtain ⟨hx, hinv, hfit, _⟩ := ih
    obtain ⟨hsw, hfit1⟩ := hfit.step g c tick order P (Nat.le_add_right _ _) hf hcb hK
    subst hX
    have hres := carryF.stop g cap hB hinv (.call c tick order k cut hbp hsw htorn)
    obtain ⟨hgw, hfit', hinv'⟩ := Fit.recovered g cap hres (hfit.mono (Nat.le_add_right _ _)) hfit1 hK policy' order'
      lp e0 io r hpre hrec
    exact ⟨C02U.ReachX.crash c tick order k cut _ policy' order' lp e0 io r hx hbp (fun j hj => (hsw j hj).1) htorn rfl
      hpre hrec (fun j hj => (hgw j hj).1), hinv', by rw [← Nat.add_assoc]; exact hfit', by rw [← Nat.add_assoc]; exact hK⟩
  | crash2 policy order lp0 e00 io0 r0 k cut X policy' order' lp e0 io r _ hpre0 hrec0 htorn hX hpre hrec ih =>
    obtain ⟨hx, hinv, hfit, hb⟩ := ih
    obtain ⟨hgw0, _⟩ := Fit.recovered g cap (carryF.stop g cap hB hinv .clean) hfit hfit hb policy order lp0 e00 io0 r0
      hpre0 hrec0
    subst hX
    have hres := carryF.stop g cap hB hinv (.opened policy order lp0 e00 io0 r0 k cut hpre0 hrec0 hgw0 htorn)
    obtain ⟨hgw, hfit', hinv'⟩ := Fit.recovered g cap hres hfit hfit hb policy' order' lp e0 io r hpre hrec
    exact ⟨C02U.ReachX.crash2 policy order lp0 e00 io0 r0 k cut _ policy' order' lp e0 io r hx hpre0 hrec0
      (fun j hj => (hgw0 j hj).1) htorn rfl hpre hrec (fun j hj => (hgw j hj).1), hinv', hfit', hb⟩

theorem reachXF_inv (g : Geom) (hB : g.B ≤ 65542) (cap P : Nat) (hP : P < U64MAX) {n : Nat} {l : Log}
    {img : Image} {b : BufSt} (h : ReachXF g cap P n l img b) :
    C02U.ReachX g cap l img b ∧ Fit (P + n) l ∧ P + n < U64MAX :=
  have ⟨h1, _, h3, h4⟩ := reachXF_all g hB cap P hP h
  ⟨h1, h3, h4⟩

/-- **C02 on crash-reachable states, from the calls.** -/
theorem C02_usable_crash_atomic_calls (g : Geom) (hB : g.B ≤ 65542) (cap P : Nat) (hP : P < U64MAX) {n : Nat}
    {l : Log} {img : Image} {b : BufSt} (h : ReachXF g cap P n l img b) (hb : b.pend = [])
    (c : Call) (tick : Bool) (order : List Bytes) (hcf : CallFits c) (hcb : C05B.CallBelow P c)
    (hK : P + n + C05B.callRecs c < U64MAX) (htorn : C02A.TornStep g l c tick order) (k cut : Nat)
    (policy' : Policy) (order' : List Bytes) :
    ∃ rec, recover g (crashImage img (toOsOps cap b (l.step g c tick order).2.2).2 k cut) policy' order' none = .ok rec ∧
      (C02A.AbsEq rec.log.queues l.queues ∨ C02A.AbsEq rec.log.queues (l.step g c tick order).1.queues) := by
  obtain ⟨hx, hfit, _⟩ := reachXF_inv g hB cap P hP h
  obtain ⟨hsw, _⟩ := hfit.step g c tick order P (Nat.le_add_right _ _) hcf hcb hK
  exact C02U.C02_usable_crash_atomic g hB cap l img b hx hb c tick order (fun j hj => (hsw j hj).1) htorn k cut
    policy' order'

/-- restarts of crash-reachable states, from the calls -/
theorem C02_usable_restart_calls (g : Geom) (hB : g.B ≤ 65542) (cap P : Nat) (hP : P < U64MAX) {n : Nat}
    {l : Log} {img : Image} {b : BufSt} (h : ReachXF g cap P n l img b) (policy : Policy) (order : List Bytes) :
    ∃ r, recover g (C02U.flushDisk img b) policy order none = .ok r ∧ C02A.AbsEq r.log.queues l.queues :=
  C02U.C02_usable_restart g hB cap l img b (reachXF_inv g hB cap P hP h).1 policy order

/-- the calls of a history fit; reopens are unconstrained -/
def EvFits (P : Nat) : PX.Ev → Prop
  | .call c _ _ => CallFits c ∧ C05B.CallBelow P c
  | .reopen _ _ => True

def evRecs : PX.Ev → Nat
  | .call c _ _ => C05B.callRecs c
  | .reopen _ _ => 0

def histRecsX (evs : List PX.Ev) : Nat := (evs.map evRecs).sum

theorem ev_wf (g : Geom) (hB : g.B ≤ 65542) (cap P : Nat) {l : Log} {img : Image} {b : BufSt} {K : Nat}
    (h : C02U.ReachX g cap l img b) (hfit : Fit K l) (hPK : P ≤ K) (e : PX.Ev) (he : EvFits P e)
    (hK : K + evRecs e < U64MAX) :
    (∀ j ∈ PX.evJ g l (C02U.flushDisk img b) e, C07.WF j.e) ∧
    Fit (K + evRecs e) (PX.evLog g l (C02U.flushDisk img b) e) := by
  cases e with
  | call c tick order =>
    obtain ⟨hsw, hfit'⟩ := hfit.step g c tick order P hPK he.1 he.2 hK
    exact ⟨fun j hj => (hsw j hj).1, hfit'⟩
  | reopen policy order =>
    obtain ⟨r, hrec, hab⟩ := C02U.C02_usable_restart g hB cap l img b h policy order
    obtain ⟨lp, e0, io, hpre, _, _⟩ := Step.recover_ok g _ policy order none r hrec
    obtain ⟨hfit', hgw⟩ := Fit.of_recover hpre hrec hab hfit (Nat.lt_of_le_of_lt (Nat.le_add_right _ _) hK)
    constructor
    · intro j hj
      simp only [PX.evJ, hpre] at hj
      exact (hgw j hj).1
    · simp only [PX.evLog, hrec, evRecs, Nat.add_zero]
      exact hfit'

theorem jourX_wf (g : Geom) (hB : g.B ≤ 65542) (cap P : Nat) (evs : List PX.Ev) :
    ∀ (l : Log) (img : Image) (b : BufSt) (K : Nat), C02U.ReachX g cap l img b → Fit K l → P ≤ K →
    (∀ e ∈ evs, EvFits P e) → K + histRecsX evs < U64MAX →
    ∀ j ∈ PX.jourX g l (C02U.flushDisk img b) evs, C07.WF j.e := by
  induction evs with
  | nil => intro l img b K _ _ _ _ _ j hj; cases hj
  | cons e es ih =>
    intro l img b K h hfit hPK hall hK j hj
    have hK : K + evRecs e + histRecsX es < U64MAX := by rw [Nat.add_assoc]; exact hK
    obtain ⟨hwe, hfit'⟩ := ev_wf g hB cap P h hfit hPK e (hall e List.mem_cons_self)
      (Nat.lt_of_le_of_lt (Nat.le_add_right _ _) hK)
    simp only [PX.jourX, List.mem_append] at hj
    rcases hj with hj | hj
    · exact hwe j hj
    · obtain ⟨h1, hfl⟩ := C03PX.reachX_ev g hB cap h e hwe
      rw [← hfl] at hj
      exact ih _ _ _ _ h1 hfit' (Nat.le_trans hPK (Nat.le_add_right _ _))
        (fun e' he' => hall e' (List.mem_cons_of_mem _ he')) hK j hj

/-- **C03 (POSIX power loss, histories with restarts, start state reachable with crashes), from the
    calls.** -/
theorem C03_posix_reachX_calls (g : Geom) (hB : g.B ≤ 65542) (cap P : Nat) (hP : P < U64MAX) {n : Nat}
    {l : Log} {img : Image} {b : BufSt} (h : ReachXF g cap P n l img b) (hb : b.pend = [])
    (evs : List PX.Ev) (hall : ∀ e ∈ evs, EvFits P e) (hK : P + n + histRecsX evs < U64MAX)
    (htorn : H.TornEffs (PX.effsX g l img evs))
    (m : Nat) (hm : m ≤ evs.length) (pre : List Effect) (f : Nat)
    (htail : PX.effsX g l img (evs.take m) = pre ++ [.flush, .fsyncFile f, .fsyncDir])
    (k : Nat) (hk : (toOsOpsP cap b (PX.effsX g l img (evs.take m))).2.length ≤ k)
    (policy' : Policy) (order' : List Bytes) :
    ∃ rec i, m ≤ i ∧ i ≤ evs.length ∧
      recover g (powerImage img ((toOsOpsP cap b (PX.effsX g l img evs)).2.take k)) policy' order' none = .ok rec ∧
      H.AbsEq rec.log.queues (PX.logX g l img (evs.take i)).queues := by
  obtain ⟨hx, hfit, _⟩ := reachXF_inv g hB cap P hP h
  have hw := jourX_wf g hB cap P evs l img b (P + n) hx hfit (Nat.le_add_right _ _) hall hK
  rw [C02U.flushDisk_of_empty img b hb] at hw
  exact C03PX.C03_posix_reachX g hB cap l img b hx hb evs hw htorn m hm pre f htail k hk policy' order'

theorem utf8Valid_one : utf8Valid [1] = true := by
  rw [utf8Valid]
  simp [utf8Valid]

/-- the first `open` of an empty directory, `create [1]`, an append of one record: a `ReachDF`
    derivation with positions below 2^62 exists for every geometry, and `C01_restart_exact_calls`
    applies to it — no hypothesis on any journal is left -/
theorem reachDF_nonvacuous (g : Geom) (hB : g.B ≤ 65542) (cap : Nat) (policy : Policy) (order : List Bytes) :
    ∃ (l : Log) (J : List JE) (img : Image) (b : BufSt), ReachDF g cap (2 ^ 62) 1 l J img b ∧
      (∀ j ∈ J, C07.WF j.e) ∧
      ∃ r, recover g (C01R.flushDisk img b) policy order none = .ok r ∧ QsEquiv r.log.queues l.queues := by
  obtain ⟨r0, hr0⟩ := C01R.init_ok g hB policy order
  have d0 := ReachDF.init (g := g) (cap := cap) (P := 2 ^ 62) policy order r0 hr0
  have d1 := ReachDF.step (.create [1]) false [] d0 (show NameFits [1] from ⟨utf8Valid_one, by decide⟩) trivial (by decide)
  have d2 := ReachDF.step (.append [1] none [[7]]) false [] d1
    (show ∀ p ∈ [[(7 : UInt8)]], p.length < 2 ^ 32 by decide) trivial (by decide)
  have hP : 2 ^ 62 < U64MAX := by decide
  exact ⟨_, _, _, _, d2, (reachDF_inv g hB cap _ hP d2).2.1, C01_restart_exact_calls g hB cap _ hP d2 policy order⟩

end MRL.C07F
