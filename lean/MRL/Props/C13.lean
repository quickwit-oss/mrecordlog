/-
C13 — rejected and no-op calls leave no trace.
Every rejected / acknowledged-no-op call shape returns the log unchanged, the corresponding
outcome (with `wal_bytes_written = 0`) and **no** file-system effect; therefore the disk, the
`BufWriter` and every later restart are untouched.
-/
import MRL.Model.Disk
import MRL.Proofs.StepLemmas

namespace MRL.C13
open Log

variable (g : Geom) (l : Log) (tick : Bool) (order : List Bytes)

/-- The complete list of rejected / no-op shapes of the property. -/
inductive Rejected (l : Log) : Call → Outcome → Prop
  | createExisting (q) : l.queues.contains q = true → Rejected l (.create q) .alreadyExists
  | deleteMissing (q) : l.queues.get? q = none → Rejected l (.delete q) .missingQueue
  | truncateMissing (q p) : l.queues.get? q = none → Rejected l (.truncate q p) .missingQueue
  | appendMissing (q pos pls) : l.queues.get? q = none → Rejected l (.append q pos pls) .missingQueue
  | appendRetry (q mq p pls) : l.queues.get? q = some mq → p + 1 = mq.nextPosition →
      Rejected l (.append q (some p) pls) (.appended none 0)
  | appendPast (q mq p pls) : l.queues.get? q = some mq → p + 1 < mq.nextPosition →
      Rejected l (.append q (some p) pls) .past
  | appendEmpty (q mq pos) : l.queues.get? q = some mq → (∀ p, pos = some p → mq.nextPosition ≤ p) →
      Rejected l (.append q pos []) (.appended none 0)

theorem Rejected.does {c : Call} {out : Outcome} (h : Rejected l c out) : Step.Does l c (.skip out) := by
  cases h with
  | createExisting q h => exact .createExisting q h
  | deleteMissing q h => exact .deleteMissing q h
  | truncateMissing q p h => exact .truncateMissing q p h
  | appendMissing q pos pls h => exact .appendMissing q pos pls h
  | appendRetry q mq p pls h hp => exact .appendRetry q mq p pls h hp
  | appendPast q mq p pls h hp => exact .appendPast q mq p pls h hp
  | appendEmpty q mq pos h hp => exact .appendEmpty q mq pos h hp

/-- every shape of the list is one that `Step.act` answers without writing, and there are no
    others -/
theorem rejected_iff_skip (c : Call) (out : Outcome) : Rejected l c out ↔ Step.act l c = .skip out := by
  constructor
  · exact fun h => h.does.act_eq
  · intro h
    have hd := Step.act_does l c
    rw [h] at hd
    cases hd with
    | createExisting q hg => exact .createExisting q hg
    | deleteMissing q hg => exact .deleteMissing q hg
    | truncateMissing q p hg => exact .truncateMissing q p hg
    | appendMissing q pos? pls hg => exact .appendMissing q pos? pls hg
    | appendRetry q mq p pls hg hp => exact .appendRetry q mq p pls hg hp
    | appendPast q mq p pls hg hp => exact .appendPast q mq p pls hg hp
    | appendEmpty q mq pos? hg hp => exact .appendEmpty q mq pos? hg hp

/-- **C13.** A rejected or no-op call returns the log unchanged, reports its outcome with zero
    WAL bytes and emits no file-system effect whatsoever. -/
theorem C13_no_trace (c : Call) (out : Outcome) (h : Rejected l c out) :
    step g l c tick order = (l, out, []) :=
  Step.step_skip g l h.does.act_eq tick order

/-- No effect means: nothing reaches the `BufWriter`, nothing reaches the OS, the image an
    `open` would see is the same; hence (by determinism of `recover`) every later restart too. -/
theorem C13_disk_untouched (c : Call) (out : Outcome) (h : Rejected l c out)
    (cap : Nat) (b : BufSt) (img : Image) :
    let es := (step g l c tick order).2.2
    toOsOps cap b es = (b, []) ∧ applyOsOps img (toOsOps cap b es).2 = img := by
  rw [C13_no_trace g l tick order c out h]
  simp [toOsOps, applyOsOps]

/-- `wal_bytes_written` reported by an outcome -/
def walBytes : Outcome → Nat
  | .created n | .deleted n | .appended _ n | .truncated _ n => n
  | _ => 0

theorem C13_zero_bytes (c : Call) (out : Outcome) (h : Rejected l c out) : walBytes out = 0 := by
  cases h <;> rfl

/-- non-vacuity: a concrete log on which each shape is reachable -/
example : ∃ l : Log, Rejected l (.create [1]) .alreadyExists ∧ Rejected l (.delete [2]) .missingQueue ∧
    Rejected l (.append [1] (some 4) [[9]]) (.appended none 0) ∧ Rejected l (.append [1] (some 2) [[9]]) .past := by
  refine ⟨{ files := [0], cur := 0, off := 0, policy := .doNothing,
            queues := [([1], { start := 5, recs := [] })] }, ?_, ?_, ?_, ?_⟩
  · exact .createExisting _ (by decide)
  · exact .deleteMissing _ (by decide)
  · exact .appendRetry _ { start := 5, recs := [] } _ _ (by decide) (by decide)
  · exact .appendPast _ { start := 5, recs := [] } _ _ (by decide) (by decide)

end MRL.C13
