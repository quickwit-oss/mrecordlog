/-
C04, crash leg: positions never regress across a crash. Whatever call was in flight (other than
the deletion of `q` itself) and wherever the crash cut it, the recovered log gives `q` a next
position at least as large as before the call; so the first append after the crash does not reuse
a position.
-/
import MRL.Proofs.LegCrash

namespace MRL.C04C
open Log C01J C02A Crash

theorem next_mono_of_views {g : Geom} {l l' : Log} {c : Call} {tick : Bool} {order : List Bytes}
    (hI : C05.Inv l)
    (hv : (∀ q, C18.view l' q = C18.view l q) ∨ (∀ q, C18.view l' q = C18.view (l.step g c tick order).1 q))
    (q : Bytes) (n : Nat) (hc : c ≠ .delete q) (hn : C04.nextOf l q = some n) :
    ∃ n', C04.nextOf l' q = some n' ∧ n ≤ n' := by
  rcases hv with hv | hv
  · exact ⟨n, by rw [nextOf_view, hv q, ← nextOf_view]; exact hn, Nat.le_refl _⟩
  · obtain ⟨n', h1, h2⟩ := C04.C04_model_next_mono g l hI c tick order q n hc hn
    exact ⟨n', by rw [nextOf_view, hv q, ← nextOf_view]; exact h1, h2⟩

theorem append_fresh_from (g : Geom) (l' : Log) (hI : C05.Inv l') (q : Bytes) (n n' : Nat)
    (hn' : C04.nextOf l' q = some n') (hle : n ≤ n')
    (tick₂ : Bool) (order₂ : List Bytes) (pos : Option Nat) (pls : List Bytes) (last w : Nat)
    (hout : (Log.step g l' (.append q pos pls) tick₂ order₂).2.1 = .appended (some last) w) :
    ∃ mq mq' p, l'.queues.get? q = some mq ∧
      (Log.step g l' (.append q pos pls) tick₂ order₂).1.queues.get? q = some mq' ∧
      n ≤ p ∧ mq'.abs.recs = mq.abs.recs ++ numberFrom p pls ∧
      (numberFrom p pls).map (·.1) = List.range' p pls.length ∧ last + 1 = mq'.nextPosition := by
  unfold C04.nextOf at hn'
  cases hg : l'.queues.get? q with
  | none => rw [hg] at hn'; cases hn'
  | some mq =>
    rw [hg] at hn'
    simp only [Option.map_some, Option.some.injEq] at hn'
    obtain ⟨mq', p, h1, h2, h3, h4, h5⟩ :=
      C04.C04_model_append_fresh g l' hI tick₂ order₂ q pos pls last w mq hg hout
    exact ⟨mq, mq', p, rfl, h1, by omega, h3, h4, h5⟩

theorem C04_crash_next_mono (g : Geom) (hB : g.B ≤ 65542) (cap : Nat) (l : Log) (J : List JE) (img : Image)
    (b : BufSt) (h : C01R.ReachD g cap l J img b) (hb : b.pend = []) (c : Call) (tick : Bool)
    (order : List Bytes) (hfits : ∀ j ∈ J ++ l.stepJ g c order, C07.WF j.e)
    (htorn : TornStep g l c tick order) (k cut : Nat) (policy' : Policy) (order' : List Bytes)
    (q : Bytes) (n : Nat) (hc : c ≠ .delete q) (hn : C04.nextOf l q = some n) :
    ∃ rec, recover g (crashDisk g cap l img b c tick order k cut) policy' order' none = .ok rec ∧
      C05.Inv rec.log ∧ ∃ n', C04.nextOf rec.log q = some n' ∧ n ≤ n' := by
  obtain ⟨rec, hrec, hIr, hI, hv⟩ :=
    crash_views g hB cap l J img b h hb c tick order hfits htorn k cut policy' order'
  exact ⟨rec, hrec, hIr, next_mono_of_views hI hv q n hc hn⟩

/-- **…and the first append after the crash is fresh**: its positions are consecutive and start
    at or above the next position `q` had before the interrupted call. -/
theorem C04_crash_then_append_fresh (g : Geom) (hB : g.B ≤ 65542) (cap : Nat) (l : Log) (J : List JE)
    (img : Image) (b : BufSt) (h : C01R.ReachD g cap l J img b) (hb : b.pend = []) (c : Call) (tick : Bool)
    (order : List Bytes) (hfits : ∀ j ∈ J ++ l.stepJ g c order, C07.WF j.e)
    (htorn : TornStep g l c tick order) (k cut : Nat) (policy' : Policy) (order' : List Bytes)
    (q : Bytes) (n : Nat) (hc : c ≠ .delete q) (hn : C04.nextOf l q = some n)
    (rec : Recovered)
    (hrec : recover g (crashDisk g cap l img b c tick order k cut) policy' order' none = .ok rec)
    (tick₂ : Bool) (order₂ : List Bytes) (pos : Option Nat) (pls : List Bytes) (last w : Nat)
    (hout : (Log.step g rec.log (.append q pos pls) tick₂ order₂).2.1 = .appended (some last) w) :
    ∃ mq mq' p, rec.log.queues.get? q = some mq ∧
      (Log.step g rec.log (.append q pos pls) tick₂ order₂).1.queues.get? q = some mq' ∧
      n ≤ p ∧ mq'.abs.recs = mq.abs.recs ++ numberFrom p pls ∧
      (numberFrom p pls).map (·.1) = List.range' p pls.length ∧ last + 1 = mq'.nextPosition := by
  obtain ⟨rec', hrec', hIr, n', hn', hle⟩ :=
    C04_crash_next_mono g hB cap l J img b h hb c tick order hfits htorn k cut policy' order' q n hc hn
  rw [hrec] at hrec'
  cases hrec'
  exact append_fresh_from g rec.log hIr q n n' hn' hle tick₂ order₂ pos pls last w hout

end MRL.C04C
