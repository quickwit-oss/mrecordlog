/-
C03 under POSIX-style power loss (model: `C03Posix.lean`), from every state reachable WITH crashes and for
histories that contain restarts. A history (`PX.Ev`, `MRL/Proofs/PXRun.lean`) is a list of calls and
`reopen`s — a clean restart: the log is dropped, which flushes the `BufWriter`, and the directory is opened
again (`ensureLen` on the first file, then the GC pass of `open`, possibly rolling over). `reachX_history`:
from a `C02U.ReachX` state these are exactly the runs generated by `ReachX.step` / `ReachX.reopen`.

`C03_posix_reachX`. From any `C02U.ReachX` state (clean restarts and crash-recoveries at ANY crash point, of
calls and of `open` itself: possibly a pre-created next file, orphan frames, junk, partial unlinks) with an
empty `BufWriter`, a history whose first `m` events end with `flush, fsync(file), fsync(dir)` (a promising
call: the tail lemmas of `C03Durable.lean` and `C03Posix.lean` apply to the call events; a `reopen` alone
promises nothing, its effects end with the unlinks): a power loss at EVERY later instant `k` leaves a
directory that opens and yields — up to the handles — the queues reached after `i` events, `m ≤ i`.
Hypotheses: `g.B ≤ 65542`, `C07.WF` of the entries the history appends, the CRC clause `TornEffs` on its
effects. `C03_posix_reopen` is the case of a `C01R.ReachD` state. The initial image is taken as durable
(after a crash the image left by the crash is by definition what is on stable storage).

`unlink_prefix_window`. In `powerImage` an unlink is durable at once. If instead only a PREFIX of the
unlinks issued since the last `fsync(dir)` persisted: in the window between the unlinks of a GC pass and the
`flush, fsync(file), fsync(dir)` that follows them in the same call (every `delete`; every GC call under
`Always(FlushAndFsync)` or a due `OnDelay(FlushAndFsync)`) nothing but the unlinks changes the volatile
image, so the image with `j` unlinks persisted is the between-unlinks crash image of C02A. Windows that
extend beyond the call (a GC pass in `truncate` under a policy that does not fsync, the GC pass of `open`)
are the subject of `C03PosixDir.lean` and `C03PosixDirAll.lean`.
-/
import MRL.Proofs.PXRun
import MRL.Props.C02Usable

namespace MRL.C03PX
open Log G H L K Buf P PX

abbrev AbsEq := H.AbsEq

theorem reachX_ev (g : Geom) (hB : g.B ≤ 65542) (cap : Nat) {l : Log} {img : Image} {b : BufSt}
    (h : C02U.ReachX g cap l img b) (e : Ev) (hwe : ∀ j ∈ evJ g l (C02U.flushDisk img b) e, C07.WF j.e) :
    C02U.ReachX g cap (evLog g l (C02U.flushDisk img b) e)
      (applyOsOps img (toOsOps cap b (evEffs g l (C02U.flushDisk img b) e)).2)
      (toOsOps cap b (evEffs g l (C02U.flushDisk img b) e)).1 ∧
    C02U.flushDisk (applyOsOps img (toOsOps cap b (evEffs g l (C02U.flushDisk img b) e)).2)
      (toOsOps cap b (evEffs g l (C02U.flushDisk img b) e)).1 = evDisk g l (C02U.flushDisk img b) e := by
  obtain ⟨⟨J, hc, hw⟩, hbuf⟩ := C02U.reachX_inv g hB cap h
  cases e with
  | call c tick order => exact ⟨C02U.ReachX.step c tick order h hwe, (hbuf.step g img c tick order).1⟩
  | reopen policy order =>
    obtain ⟨J', lp, io, r, hpre, hrec, heff, hc0, hw0, hab, e1, e2, e3⟩ := reopen_eval g hB hc hw policy order
    have hL : evLog g l (C02U.flushDisk img b) (.reopen policy order) = r.log := by simp only [evLog, hrec]
    have hE : evEffs g l (C02U.flushDisk img b) (.reopen policy order) = .flush :: r.effects := by
      simp only [evEffs, hrec]
    have hJ : evJ g l (C02U.flushDisk img b) (.reopen policy order) = lp.gcJ g order := by simp only [PX.evJ, hpre]
    rw [hJ] at hwe
    have h1 := C02U.ReachX.reopen policy order lp _ io r h hpre hrec hwe
    have hops : toOsOps cap b (.flush :: r.effects) =
        ((toOsOps cap {} r.effects).1, b.flushOps ++ (toOsOps cap {} r.effects).2) := rfl
    have himg : applyOsOps img (b.flushOps ++ (toOsOps cap {} r.effects).2) =
        applyOsOps (C02U.flushDisk img b) (toOsOps cap {} r.effects).2 := by
      rw [applyOsOps_append]; rfl
    have hfl := (BufOK.recover g cap lp order (lp.files.headD 0) (C02U.flushDisk img b)).1
    rw [← heff] at hfl
    rw [hL, hE, hops]
    simp only
    rw [himg]
    refine ⟨h1, ?_⟩
    unfold evDisk
    rw [hE, directOps_cons]
    exact hfl

/-- **the states of a history are the `ReachX` states generated by `step` and `reopen`** -/
theorem reachX_history (g : Geom) (hB : g.B ≤ 65542) (cap : Nat) (evs : List Ev) :
    ∀ (l : Log) (img : Image) (b : BufSt), C02U.ReachX g cap l img b →
    (∀ j ∈ jourX g l (C02U.flushDisk img b) evs, C07.WF j.e) →
    C02U.ReachX g cap (logX g l (C02U.flushDisk img b) evs)
      (applyOsOps img (toOsOps cap b (effsX g l (C02U.flushDisk img b) evs)).2)
      (toOsOps cap b (effsX g l (C02U.flushDisk img b) evs)).1 ∧
    C02U.flushDisk (applyOsOps img (toOsOps cap b (effsX g l (C02U.flushDisk img b) evs)).2)
      (toOsOps cap b (effsX g l (C02U.flushDisk img b) evs)).1 = diskXs g l (C02U.flushDisk img b) evs := by
  induction evs with
  | nil =>
    intro l img b h _
    exact ⟨by simpa [logX, effsX, toOsOps, applyOsOps] using h, rfl⟩
  | cons e es ih =>
    intro l img b h hwf
    simp only [jourX] at hwf
    obtain ⟨h1, hfl⟩ := reachX_ev g hB cap h e (fun j hj => hwf j (List.mem_append_left _ hj))
    have hwf2 := fun j hj => hwf j (List.mem_append_right _ hj)
    rw [← hfl] at hwf2
    obtain ⟨h2, hfl2⟩ := ih _ _ _ h1 hwf2
    rw [hfl] at h2 hfl2
    simp only [logX, effsX, diskXs]
    rw [toOsOps_append]
    simp only
    rw [applyOsOps_append]
    exact ⟨h2, hfl2⟩

theorem effsX_take_tail (g : Geom) (l : Log) (D : Image) (evs : List Ev) (j : Nat) (e : Ev)
    (hj : evs[j]? = some e) (pre : List Effect) (f : Nat)
    (h : evEffs g (logX g l D (evs.take j)) (diskXs g l D (evs.take j)) e = pre ++ [.flush, .fsyncFile f, .fsyncDir]) :
    effsX g l D (evs.take (j + 1)) = (effsX g l D (evs.take j) ++ pre) ++ [.flush, .fsyncFile f, .fsyncDir] := by
  rw [take_succ_get hj, effsX_append]
  simp only [effsX, List.append_nil]
  rw [h, List.append_assoc]

/-- the effects of a `reopen` from a state satisfying the relaxed invariant: the drop, `ensureLen`
    on the first file, the GC pass of `open` -/
theorem reopen_effs (g : Geom) (hB : g.B ≤ 65542) {l : Log} {J : List JE} {D : Image} (h : CInvX g l J D)
    (hw : ∀ j ∈ J, C07.WF j.e) (policy : Policy) (order : List Bytes) :
    ∃ lp : Log, AbsEq lp.queues l.queues ∧ lp.files = l.files ∧ lp.cur = l.cur ∧
      evLog g l D (.reopen policy order) = (runGc g lp order).1 ∧
      evEffs g l D (.reopen policy order) =
        .flush :: ([.ensureLen (lp.files.headD 0) g.fileBytes] ++ (runGc g lp order).2.1) := by
  obtain ⟨J', lp, io, r, _, _, _, hc0, _, hab, e1, e2, _⟩ := reopen_eval g hB h hw policy order
  have hsame := dshape_same (fileBytes_pos g) (dshape_of_cinvx h) (dshape_of_cinvx hc0)
  exact ⟨lp, hab, hsame.1, hsame.2, e1, e2⟩

theorem C03_posixX_cinvx (g : Geom) (hB : g.B ≤ 65542) (cap : Nat) (l : Log) (J : List JE) (D : Image)
    (b : BufSt) (hc : CInvX g l J D) (hwJ : ∀ j ∈ J, C07.WF j.e) (hb : b.pend = []) (evs : List Ev)
    (hfits : ∀ j ∈ jourX g l D evs, C07.WF j.e) (htorn : TornEffs (effsX g l D evs))
    (m : Nat) (hm : m ≤ evs.length) (pre : List Effect) (f : Nat)
    (htail : effsX g l D (evs.take m) = pre ++ [.flush, .fsyncFile f, .fsyncDir])
    (k : Nat) (hk : (toOsOpsP cap b (effsX g l D (evs.take m))).2.length ≤ k)
    (policy' : Policy) (order' : List Bytes) :
    ∃ rec i, m ≤ i ∧ i ≤ evs.length ∧
      recover g (powerImage D ((toOsOpsP cap b (effsX g l D evs)).2.take k)) policy' order' none = .ok rec ∧
      AbsEq rec.log.queues (logX g l D (evs.take i)).queues := by
  obtain ⟨p, hred⟩ := power_reductionX g hB cap l J D b hc hwJ hb evs hfits htorn m pre f htail k hk
  rw [hred]
  exact runX_cut_after g hB hc hwJ evs hfits htorn m hm false _ (L.CutW.of_take false _ p _) policy' order'

/-- **C03 under POSIX-style power loss: from any state reachable with crashes, for histories of calls and
    restarts** -/
theorem C03_posix_reachX (g : Geom) (hB : g.B ≤ 65542) (cap : Nat) (l : Log) (img : Image) (b : BufSt)
    (h : C02U.ReachX g cap l img b) (hb : b.pend = []) (evs : List Ev)
    (hfits : ∀ j ∈ jourX g l img evs, C07.WF j.e) (htorn : TornEffs (effsX g l img evs))
    (m : Nat) (hm : m ≤ evs.length) (pre : List Effect) (f : Nat)
    (htail : effsX g l img (evs.take m) = pre ++ [.flush, .fsyncFile f, .fsyncDir])
    (k : Nat) (hk : (toOsOpsP cap b (effsX g l img (evs.take m))).2.length ≤ k)
    (policy' : Policy) (order' : List Bytes) :
    ∃ rec i, m ≤ i ∧ i ≤ evs.length ∧
      recover g (powerImage img ((toOsOpsP cap b (effsX g l img evs)).2.take k)) policy' order' none = .ok rec ∧
      AbsEq rec.log.queues (logX g l img (evs.take i)).queues := by
  obtain ⟨J, hc, hw⟩ := C02U.reachX_boundary g hB cap h hb
  exact C03_posixX_cinvx g hB cap l J img b hc hw hb evs hfits htorn m hm pre f htail k hk policy' order'

/-- the case of a `ReachD` state (no crash before the history) -/
theorem C03_posix_reopen (g : Geom) (hB : g.B ≤ 65542) (cap : Nat) (l : Log) (J : List JE) (img : Image)
    (b : BufSt) (h : C01R.ReachD g cap l J img b) (hwJ : ∀ j ∈ J, C07.WF j.e) (hb : b.pend = [])
    (evs : List Ev) (hfits : ∀ j ∈ jourX g l img evs, C07.WF j.e) (htorn : TornEffs (effsX g l img evs))
    (m : Nat) (hm : m ≤ evs.length) (pre : List Effect) (f : Nat)
    (htail : effsX g l img (evs.take m) = pre ++ [.flush, .fsyncFile f, .fsyncDir])
    (k : Nat) (hk : (toOsOpsP cap b (effsX g l img (evs.take m))).2.length ≤ k)
    (policy' : Policy) (order' : List Bytes) :
    ∃ rec i, m ≤ i ∧ i ≤ evs.length ∧
      recover g (powerImage img ((toOsOpsP cap b (effsX g l img evs)).2.take k)) policy' order' none = .ok rec ∧
      AbsEq rec.log.queues (logX g l img (evs.take i)).queues :=
  C03_posix_reachX g hB cap l img b (C02U.ReachX.base h hwJ) hb evs hfits htorn m hm pre f htail k hk policy' order'

/-- a history of calls only is a run of `K.runD` (so `C03_posix` is the special case) -/
theorem effsX_calls (g : Geom) (cs : List (Call × Bool × List Bytes)) : ∀ (l : Log) (D : Image),
    effsX g l D (cs.map fun x => Ev.call x.1 x.2.1 x.2.2) = effsD g l cs ∧
    logX g l D (cs.map fun x => Ev.call x.1 x.2.1 x.2.2) = logD g l cs := by
  intro l D
  exact ⟨(calls_eq g cs l D).1, (calls_eq g cs l D).2.1⟩

theorem foe_unlinks (fb : Nat) : ∀ (ops : List OsOp) (V : Image), FullOrEmpty fb V →
    (∀ o ∈ ops, o = OsOp.sync ∨ ∃ f, o = OsOp.unlink f) → FullOrEmpty fb (applyOsOps V ops) := by
  intro ops
  induction ops with
  | nil => intro V h _; exact h
  | cons o ops ih =>
    intro V h ho
    apply ih _ _ (fun o' ho' => ho o' (List.mem_cons_of_mem _ ho'))
    rcases ho o List.mem_cons_self with rfl | ⟨f, rfl⟩
    · exact h
    · intro kv hkv
      exact h kv (List.mem_filter.mp hkv).1

theorem pd_window (fb : Nat) {σ : PDX} (hd : σ.dirty = false) (hc : σ.clean = true) : ∀ (T : List Effect),
    (∀ e ∈ T, e = Effect.flush ∨ e = Effect.fsyncFile σ.wf) → pd fb σ T = some σ := by
  have hflush : pd1 fb σ .flush = some σ := by cases σ; cases hc; rfl
  have hsync : pd1 fb σ (.fsyncFile σ.wf) = some σ := by
    cases σ; cases hc; cases hd; exact if_pos ⟨rfl, rfl⟩
  intro T
  induction T with
  | nil => intro _; rfl
  | cons e T ih =>
    intro hT
    have h1 : pd1 fb σ e = some σ := by rcases hT e List.mem_cons_self with rfl | rfl <;> assumption
    rw [PX.pd, Disc.run, h1]
    exact ih (fun e' he' => hT e' (List.mem_cons_of_mem _ he'))

/-- **the window between the unlinks of a GC pass and the `fsync(dir)` that ends the call.** From a
    state in which everything is durable (the GC pass has just done `flush, fsync, fsync(dir)`), if
    only the first `j` unlinks persisted, then at any instant of the window the power-loss image is the
    between-unlinks crash image of C02A (= `powerImage` of the operation prefix that ends after the
    `j`-th unlink). -/
theorem unlink_prefix_window (fb : Nat) (hfb : 0 < fb) {σ : PDX} {S : PState} (hI : PInvX σ S)
    (hd : σ.dirty = false) (hn : σ.named = true) (hc : σ.clean = true) (hfoe : FullOrEmpty fb S.vol)
    (U : List Nat) (hU : ∀ f ∈ U, f < σ.wf) (j t : Nat) :
    (prun S (directOpsP ((U.take j).map Effect.unlink ++
        [Effect.flush, Effect.fsyncFile σ.wf].take t))).image =
      applyOsOps S.vol ((U.take j).map OsOp.unlink) := by
  have hUj : ∀ f ∈ U.take j, f < σ.wf := fun f hf => hU f (List.mem_of_mem_take hf)
  generalize U.take j = Uj at hUj
  have hdir : ∀ (T : List Effect), (∀ e ∈ T, e = Effect.flush ∨ e = Effect.fsyncFile σ.wf) →
      ∀ o ∈ directOps (Uj.map Effect.unlink ++ T), o = OsOp.sync ∨ ∃ f, o = OsOp.unlink f := by
    intro T hT o ho
    simp only [directOps, List.mem_flatMap] at ho
    obtain ⟨e, he, ho⟩ := ho
    rcases List.mem_append.mp he with he | he
    · obtain ⟨f, _, rfl⟩ := List.mem_map.mp he
      simp only [direct, List.mem_singleton] at ho
      exact Or.inr ⟨f, ho⟩
    · rcases hT e he with rfl | rfl
      · simp [direct] at ho
      · simp only [direct, List.mem_singleton] at ho
        exact Or.inl ho
  have hTt : ∀ e ∈ [Effect.flush, Effect.fsyncFile σ.wf].take t, e = Effect.flush ∨ e = Effect.fsyncFile σ.wf := by
    intro e he
    have := List.mem_of_mem_take he
    simpa using this
  generalize [Effect.flush, Effect.fsyncFile σ.wf].take t = T at hTt
  -- the discipline accepts the window and ends with everything durable
  have hpd : pd fb σ (Uj.map Effect.unlink ++ T) = some σ := by
    rw [PX.pd_append, pd_unlinks fb Uj σ hUj hd hn hc]; exact pd_window fb hd hc T hTt
  have hfoes : ∀ i, i ≤ (Uj.map Effect.unlink ++ T).length → FullOrEmpty fb
      (applyOsOps S.vol (directOps ((Uj.map Effect.unlink ++ T).take i))) := by
    intro i _
    apply foe_unlinks fb _ _ hfoe
    intro o ho
    apply hdir T hTt o
    simp only [directOps, List.mem_flatMap] at ho ⊢
    obtain ⟨e, he, ho⟩ := ho
    exact ⟨e, List.mem_of_mem_take he, ho⟩
  obtain ⟨_, σn, _, hpdn, hIn, _⟩ := power_prefix fb hfb _ σ S hI hd hn σ hpd hfoes _ (Nat.le_refl _)
  rw [List.take_length] at hpdn hIn
  obtain rfl : σ = σn := Option.some.inj (hpd.symm.trans hpdn)
  rw [image_alldur hIn hd hn, prun_vol_direct, directOps_append, applyOsOps_append]
  rw [directOps_unlinks, syncL_apply fun e he => (hTt e he).imp_right fun h => .inl ⟨_, h⟩]

end MRL.C03PX
