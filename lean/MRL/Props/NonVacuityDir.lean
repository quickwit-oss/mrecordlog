/-
Non-vacuity of `C03PD.C03_posix_dir_calls` — power loss with a lazy directory — on a history of its own
with pending unlinks, at a hard instant (`lateSync = true`, 2 pending unlinks, `u = 0`):
`nv3_C03PD`, `nv3_C03PD_forced`, `nv3_C03PD_image`, `lateK`.

Geometry `g5`: `B = 16`, `K = 5` (files of 80 bytes; in the 32-byte geometry of `NonVacuityHistory.lean`
every append rolls over and the roll-over's `fsync(dir)` covers the unlinks before any new content is
synced). History `evK` from the empty directory (`K0`, `kimg`: what `open` makes of it), policy
`DoNothing`: `create_queue "a"` (promise point `m = 1`), `append [[0],[0]]`, `append [[1],[1]]`,
`truncate ..=3` (its GC pass unlinks `wal-0`, `wal-1`; no `fsync(dir)` follows), `append [[9]]` (fits in
`wal-3`: no roll-over), `persist(FlushAndFsync)`. Power loss after 43 of the 44 refined OS operations:
BETWEEN that persist's `fsync(file)` and its `fsync(dir)` — `lateSync = true` — with `u = 0`: both
pending unlinks undone (`pimK`: the image; `RK`: what `open` returns on it).

The history is evaluated once: `trK` is what each of its six events does (`PX.trace`), and its effects
(`effsK`), journal and intermediate logs are read off it.
-/
import MRL.Proofs.EvalTwin
import MRL.Proofs.PXTrace
import MRL.Props.C06Crash
import MRL.Props.C03PosixDirAll

namespace MRL.NV3

def K0 : Recovered :=
  { log := { files := [0], cur := 0, off := 0, queues := [], policy := MRL.Policy.doNothing }, effects := [MRL.Effect.create 0,
    MRL.Effect.setLen 0 80,
    MRL.Effect.ensureLen 0 80], ioCalls := 3 }

def kimg : Image :=
  [(0, [0, 0, 0, 0, 0, 0, 0, 0, 0, 0, 0, 0, 0, 0, 0, 0, 0, 0, 0, 0, 0, 0, 0, 0, 0, 0, 0, 0, 0, 0, 0, 0, 0, 0, 0, 0, 0, 0, 0, 0, 0, 0, 0, 0, 0, 0, 0, 0, 0, 0, 0, 0, 0, 0, 0, 0, 0, 0, 0, 0, 0, 0, 0, 0, 0, 0, 0, 0, 0, 0, 0, 0, 0, 0, 0, 0, 0, 0, 0, 0])]

def trK : List (Log × List Effect × List JE) :=
  [({ files := [0], cur := 0, off := 26, queues := [([97], { start := 0, recs := [] })], policy := MRL.Policy.doNothing },
    [MRL.Effect.write 0 0 [205, 144, 137, 201, 9, 0, 2, 2, 0, 0, 0, 0, 0, 0, 0, 0],
     MRL.Effect.write 0 16 [178, 115, 81, 149, 3, 0, 4, 1, 0, 97],
     MRL.Effect.flush,
     MRL.Effect.fsyncFile 0,
     MRL.Effect.fsyncDir],
    [{ loc := 0, attr := 0, e := MRL.Entry.touch [97] 0 }]),
   ({ files := [0, 1],
      cur := 1,
      off := 25,
      queues := [([97],
                  { start := 0,
                    recs := [{ pos := 0, payload := [0], file := none },
                             { pos := 1, payload := [0], file := some 0 }] })],
      policy := MRL.Policy.doNothing },
    [MRL.Effect.write 0 26 [0, 0, 0, 0, 0, 0],
     MRL.Effect.write 0 32 [71, 233, 147, 186, 9, 0, 2, 4, 0, 0, 0, 0, 0, 0, 0, 0],
     MRL.Effect.write 0 48 [103, 128, 7, 50, 9, 0, 3, 1, 0, 97, 0, 0, 0, 0, 0, 0],
     MRL.Effect.write 0 64 [128, 233, 209, 183, 9, 0, 3, 0, 0, 1, 0, 0, 0, 0, 1, 0],
     MRL.Effect.flush,
     MRL.Effect.fsyncFile 0,
     MRL.Effect.fsyncDir,
     MRL.Effect.create 1,
     MRL.Effect.setLen 1 80,
     MRL.Effect.write 1 0 [66, 185, 127, 9, 9, 0, 3, 0, 0, 0, 0, 0, 0, 1, 0, 0],
     MRL.Effect.write 1 16 [206, 113, 72, 248, 2, 0, 4, 0, 0]],
    [{ loc := 0, attr := 0, e := MRL.Entry.append [97] 0 [(0, [0]), (1, [0])] }]),
   ({ files := [0, 1, 2],
      cur := 2,
      off := 25,
      queues := [([97],
                  { start := 0,
                    recs := [{ pos := 0, payload := [0], file := none },
                             { pos := 1, payload := [0], file := some 0 },
                             { pos := 2, payload := [1], file := none },
                             { pos := 3, payload := [1], file := some 1 }] })],
      policy := MRL.Policy.doNothing },
    [MRL.Effect.write 1 25 [161, 142, 12, 60, 0, 0, 2],
     MRL.Effect.write 1 32 [4, 133, 116, 23, 9, 0, 3, 4, 2, 0, 0, 0, 0, 0, 0, 0],
     MRL.Effect.write 1 48 [108, 33, 207, 127, 9, 0, 3, 1, 0, 97, 2, 0, 0, 0, 0, 0],
     MRL.Effect.write 1 64 [53, 225, 37, 132, 9, 0, 3, 0, 0, 1, 0, 0, 0, 1, 3, 0],
     MRL.Effect.flush,
     MRL.Effect.fsyncFile 1,
     MRL.Effect.fsyncDir,
     MRL.Effect.create 2,
     MRL.Effect.setLen 2 80,
     MRL.Effect.write 2 0 [66, 185, 127, 9, 9, 0, 3, 0, 0, 0, 0, 0, 0, 1, 0, 0],
     MRL.Effect.write 2 16 [88, 65, 79, 143, 2, 0, 4, 0, 1]],
    [{ loc := 1, attr := 1, e := MRL.Entry.append [97] 2 [(2, [1]), (3, [1])] }]),
   ({ files := [2, 3],
      cur := 3,
      off := 10,
      queues := [([97], { start := 4, recs := [] })],
      policy := MRL.Policy.doNothing },
    [MRL.Effect.write 2 25 [161, 142, 12, 60, 0, 0, 2],
     MRL.Effect.write 2 32 [213, 192, 73, 145, 9, 0, 3, 1, 3, 0, 0, 0, 0, 0, 0, 0],
     MRL.Effect.write 2 48 [178, 115, 81, 149, 3, 0, 4, 1, 0, 97],
     MRL.Effect.write 2 58 [0, 0, 0, 0, 0, 0],
     MRL.Effect.write 2 64 [55, 158, 195, 77, 9, 0, 2, 2, 4, 0, 0, 0, 0, 0, 0, 0],
     MRL.Effect.flush,
     MRL.Effect.fsyncFile 2,
     MRL.Effect.fsyncDir,
     MRL.Effect.create 3,
     MRL.Effect.setLen 3 80,
     MRL.Effect.write 3 0 [178, 115, 81, 149, 3, 0, 4, 1, 0, 97],
     MRL.Effect.flush,
     MRL.Effect.fsyncFile 3,
     MRL.Effect.fsyncDir,
     MRL.Effect.unlink 0,
     MRL.Effect.unlink 1],
    [{ loc := 2, attr := 2, e := MRL.Entry.truncate [97] 3 }, { loc := 2, attr := 2, e := MRL.Entry.touch [97] 4 }]),
   ({ files := [2, 3],
      cur := 3,
      off := 62,
      queues := [([97], { start := 4, recs := [{ pos := 4, payload := [9], file := some 3 }] })],
      policy := MRL.Policy.doNothing },
    [MRL.Effect.write 3 10 [0, 0, 0, 0, 0, 0],
     MRL.Effect.write 3 16 [189, 231, 217, 62, 9, 0, 2, 4, 4, 0, 0, 0, 0, 0, 0, 0],
     MRL.Effect.write 3 32 [113, 194, 150, 169, 9, 0, 3, 1, 0, 97, 4, 0, 0, 0, 0, 0],
     MRL.Effect.write 3 48 [135, 64, 212, 165, 7, 0, 4, 0, 0, 1, 0, 0, 0, 9]],
    [{ loc := 3, attr := 3, e := MRL.Entry.append [97] 4 [(4, [9])] }]),
   ({ files := [2, 3],
      cur := 3,
      off := 62,
      queues := [([97], { start := 4, recs := [{ pos := 4, payload := [9], file := some 3 }] })],
      policy := MRL.Policy.doNothing },
    [MRL.Effect.flush, MRL.Effect.fsyncFile 3, MRL.Effect.fsyncDir],
    [])]

def effsK : List Effect := (trK.map (·.2.1)).flatten

def pimK : Image :=
  [(0, [205, 144, 137, 201, 9, 0, 2, 2, 0, 0, 0, 0, 0, 0, 0, 0, 178, 115, 81, 149, 3, 0, 4, 1, 0, 97, 0, 0, 0, 0, 0, 0, 71, 233, 147, 186, 9, 0, 2, 4, 0, 0, 0, 0, 0, 0, 0, 0, 103, 128, 7, 50, 9, 0, 3, 1, 0, 97, 0, 0, 0, 0, 0, 0, 128, 233, 209, 183, 9, 0, 3, 0, 0, 1, 0, 0, 0, 0, 1, 0]),
    (1, [66, 185, 127, 9, 9, 0, 3, 0, 0, 0, 0, 0, 0, 1, 0, 0, 206, 113, 72, 248, 2, 0, 4, 0, 0, 161, 142, 12, 60, 0, 0, 2, 4, 133, 116, 23, 9, 0, 3, 4, 2, 0, 0, 0, 0, 0, 0, 0, 108, 33, 207, 127, 9, 0, 3, 1, 0, 97, 2, 0, 0, 0, 0, 0, 53, 225, 37, 132, 9, 0, 3, 0, 0, 1, 0, 0, 0, 1, 3, 0]),
    (2, [66, 185, 127, 9, 9, 0, 3, 0, 0, 0, 0, 0, 0, 1, 0, 0, 88, 65, 79, 143, 2, 0, 4, 0, 1, 161, 142, 12, 60, 0, 0, 2, 213, 192, 73, 145, 9, 0, 3, 1, 3, 0, 0, 0, 0, 0, 0, 0, 178, 115, 81, 149, 3, 0, 4, 1, 0, 97, 0, 0, 0, 0, 0, 0, 55, 158, 195, 77, 9, 0, 2, 2, 4, 0, 0, 0, 0, 0, 0, 0]),
    (3, [178, 115, 81, 149, 3, 0, 4, 1, 0, 97, 0, 0, 0, 0, 0, 0, 189, 231, 217, 62, 9, 0, 2, 4, 4, 0, 0, 0, 0, 0, 0, 0, 113, 194, 150, 169, 9, 0, 3, 1, 0, 97, 4, 0, 0, 0, 0, 0, 135, 64, 212, 165, 7, 0, 4, 0, 0, 1, 0, 0, 0, 9, 0, 0, 0, 0, 0, 0, 0, 0, 0, 0, 0, 0, 0, 0, 0, 0, 0, 0])]

def RK : Recovered :=
  { log := { files := [3], cur := 3, off := 64, queues := [([97], { start := 4, recs := [{ pos := 4, payload := [9], file := some 3 }] })], policy := MRL.Policy.doNothing }, effects := [MRL.Effect.ensureLen 0 80,
    MRL.Effect.flush,
    MRL.Effect.fsyncFile 3,
    MRL.Effect.fsyncDir,
    MRL.Effect.unlink 0,
    MRL.Effect.unlink 1,
    MRL.Effect.unlink 2], ioCalls := 28 }

def evK : List PX.Ev :=
  [.call (.create [97]) false [], .call (.append [97] none [[0],[0]]) false [], .call (.append [97] none [[1],[1]]) false [],
   .call (.truncate [97] 3) false [], .call (.append [97] none [[9]]) false [], .call (.persist .flushAndFsync) false []]

open Log Twin Codec P

def g5 : Geom := { B := 16, K := 5, hB := by decide, hK := by decide }

theorem hK0 : recover g5 [] .doNothing [] none = .ok K0 := by rw [recover_twin]; decide +kernel
theorem e_kimg : applyOsOps [] (toOsOps 0 {} K0.effects).2 = kimg ∧ (toOsOps 0 {} K0.effects).1 = {} := by decide +kernel

theorem reachK : C02U.ReachX g5 0 K0.log kimg {} := by
  have h := C01R.ReachD.init (g := g5) (cap := 0) .doNothing [] K0 hK0
  rw [e_kimg.1, e_kimg.2] at h
  exact C02U.ReachX.base h (fun j hj => by cases hj)

theorem e_trK : PX.trace g5 K0.log kimg evK = trK := by
  simp only [evK, PX.trace, PX.evEffs, PX.evLog, PX.evJ, step_twin, stepJ_twin]; decide +kernel

theorem e_effsK : PX.effsX g5 K0.log kimg evK = effsK := by rw [PX.effsX_trace, e_trK]; rfl

theorem fitsK : ∀ j ∈ PX.jourX g5 K0.log kimg evK, C07.WF j.e := by
  rw [PX.jourX_trace, e_trK]; decide +kernel

theorem tornK : H.TornEffs (PX.effsX g5 K0.log kimg evK) := by
  rw [e_effsK]
  exact C06X.tornEffs_check _ (by decide +kernel)

theorem tailK : PX.effsX g5 K0.log kimg (evK.take 1) =
    [.write 0 0 [205, 144, 137, 201, 9, 0, 2, 2, 0, 0, 0, 0, 0, 0, 0, 0], .write 0 16 [178, 115, 81, 149, 3, 0, 4, 1, 0, 97]] ++
      [.flush, .fsyncFile 0, .fsyncDir] := by
  rw [PX.effsX_trace, PX.trace_take, e_trK]; rfl

theorem hkK : (toOsOpsP 0 {} (PX.effsX g5 K0.log kimg (evK.take 1))).2.length ≤ 43 := by
  rw [tailK]; decide +kernel

theorem nrK : C03PD.NoReopenWhilePending g5 K0.log kimg evK := C03PD.noReopenWhilePending_calls g5 _ _ evK rfl

/-- the instant is a hard one: an `fsync(file)` has made new content durable while two unlinks are
    not covered by an `fsync(dir)` -/
theorem lateK : lateSync kimg ((toOsOpsP 0 {} (PX.effsX g5 K0.log kimg evK)).2.take 43) = true ∧
    pendingUnlinks kimg ((toOsOpsP 0 {} (PX.effsX g5 K0.log kimg evK)).2.take 43) = 2 := by
  rw [e_effsK]; decide +kernel

theorem nv3_C03PD : ∃ rec i, 1 ≤ i ∧ i ≤ evK.length ∧
    recover g5 (powerImageD kimg ((toOsOpsP 0 {} (PX.effsX g5 K0.log kimg evK)).2.take 43) 0) .doNothing [] none = .ok rec ∧
    H.AbsEq rec.log.queues (PX.logX g5 K0.log kimg (evK.take i)).queues :=
  C03PD.C03_posix_dir_calls g5 (by decide) 0 K0.log kimg {} reachK rfl evK fitsK tornK 1 (by decide) _ 0 tailK 43 hkK
    nrK 0 .doNothing []

theorem e_pimK : powerImageD kimg ((toOsOpsP 0 {} (PX.effsX g5 K0.log kimg evK)).2.take 43) 0 = pimK := by
  rw [e_effsK]; decide +kernel
theorem e_RK : recover g5 pimK .doNothing [] none = .ok RK := by rw [recover_twin]; decide +kernel

theorem e_logK (i : Nat) (hi : i ≤ 4) (h1 : 1 ≤ i) :
    ((PX.logX g5 K0.log kimg (evK.take i)).queues.get? [97]).map MemQueue.abs ≠ some ⟨5, [(4, [9])]⟩ := by
  rw [PX.logX_trace, PX.trace_take, e_trK]
  rcases (by omega : i = 1 ∨ i = 2 ∨ i = 3 ∨ i = 4) with rfl | rfl | rfl | rfl <;> decide +kernel

/-- the conclusion is forced: the recovered log is `RK` — the old files `wal-0`, `wal-1` are back next
    to the new append, `open` replays them and ends with the queue holding record 4 only — and the
    prefix is the whole history up to the last append (`i = 5`, or `6`: the final `persist` changes
    nothing), far beyond the promise point -/
theorem nv3_C03PD_forced (rec : Recovered) (i : Nat) (h1 : 1 ≤ i) (h2 : i ≤ evK.length)
    (h3 : recover g5 (powerImageD kimg ((toOsOpsP 0 {} (PX.effsX g5 K0.log kimg evK)).2.take 43) 0) .doNothing []
      none = .ok rec)
    (h4 : H.AbsEq rec.log.queues (PX.logX g5 K0.log kimg (evK.take i)).queues) :
    rec = RK ∧ (i = 5 ∨ i = 6) := by
  rw [e_pimK, e_RK] at h3
  simp only [Except.ok.injEq] at h3
  subst h3
  refine ⟨rfl, ?_⟩
  have hlen : evK.length = 6 := rfl
  have h5 := h4 [97]
  have hq : (RK.log.queues.get? [97]).map MemQueue.abs = some ⟨5, [(4, [9])]⟩ := by decide +kernel
  rw [hq] at h5
  by_cases hi : i ≤ 4
  · exact absurd h5.symm (e_logK i hi h1)
  · omega

theorem nv3_C03PD_image : pimK.map (·.1) = [0, 1, 2, 3] ∧ RK.log.files = [3] ∧ Step.unlinked RK.effects = [0, 1, 2] := by
  decide +kernel

end MRL.NV3
