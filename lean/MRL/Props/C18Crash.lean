/-
C18, crash leg: crash recovery does not mix queues. Whatever happens to the call in flight —
lost or completed —, every queue it was not addressed to is, after recovery, exactly as before.
-/
import MRL.Proofs.LegCrash

namespace MRL.C18C
open Log C01J C02A Crash

theorem step_other_view (g : Geom) (l : Log) (hI : C05.Inv l) (c : Call) (tick : Bool) (order : List Bytes)
    (q : Bytes) (hq : C18.addressed q c = false) :
    C18.view (l.step g c tick order).1 q = C18.view l q := by
  obtain ⟨habs, _, _⟩ := C05.C05_refines g l hI c tick order
  rw [C18.view_abs, C18.view_abs, habs]
  exact C18.spec_other_untouched l.abs c q hq

theorem other_view_of_views {g : Geom} {l l' : Log} {c : Call} {tick : Bool} {order : List Bytes}
    (hI : C05.Inv l)
    (hv : (∀ q, C18.view l' q = C18.view l q) ∨ (∀ q, C18.view l' q = C18.view (l.step g c tick order).1 q))
    (q : Bytes) (hq : C18.addressed q c = false) : C18.view l' q = C18.view l q := by
  rcases hv with hv | hv
  · exact hv q
  · rw [hv q]; exact step_other_view g l hI c tick order q hq

theorem C18_crash_other_untouched (g : Geom) (hB : g.B ≤ 65542) (cap : Nat) (l : Log) (J : List JE)
    (img : Image) (b : BufSt) (h : C01R.ReachD g cap l J img b) (hb : b.pend = []) (c : Call) (tick : Bool)
    (order : List Bytes) (hfits : ∀ j ∈ J ++ l.stepJ g c order, C07.WF j.e)
    (htorn : TornStep g l c tick order) (k cut : Nat) (policy' : Policy) (order' : List Bytes) :
    ∃ rec, recover g (crashDisk g cap l img b c tick order k cut) policy' order' none = .ok rec ∧
      ∀ q, C18.addressed q c = false → C18.view rec.log q = C18.view l q := by
  obtain ⟨rec, hrec, _, hI, hv⟩ :=
    crash_views g hB cap l J img b h hb c tick order hfits htorn k cut policy' order'
  exact ⟨rec, hrec, other_view_of_views hI hv⟩

/-- in particular a `persist` in flight changes no queue at all -/
theorem C18_crash_persist (g : Geom) (hB : g.B ≤ 65542) (cap : Nat) (l : Log) (J : List JE)
    (img : Image) (b : BufSt) (h : C01R.ReachD g cap l J img b) (hb : b.pend = []) (a : PersistAction)
    (tick : Bool) (order : List Bytes) (hfits : ∀ j ∈ J ++ l.stepJ g (.persist a) order, C07.WF j.e)
    (htorn : TornStep g l (.persist a) tick order) (k cut : Nat) (policy' : Policy) (order' : List Bytes) :
    ∃ rec, recover g (crashDisk g cap l img b (.persist a) tick order k cut) policy' order' none = .ok rec ∧
      ∀ q, C18.view rec.log q = C18.view l q := by
  obtain ⟨rec, hrec, hq⟩ :=
    C18_crash_other_untouched g hB cap l J img b h hb (.persist a) tick order hfits htorn k cut policy' order'
  exact ⟨rec, hrec, fun q => hq q rfl⟩

end MRL.C18C
