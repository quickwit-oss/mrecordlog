/-
Non-vacuity of the POSIX power-loss theorems (C03), by kernel evaluation as in `NonVacuityHistory.lean`.
`nv_C03` / `nv_C03_forced` / `nv_C03_dropped`: `C03P.C03_posix` on a history of 3 calls from the empty
directory, promise point after the first, power loss inside the third: the witnesses are forced to
`i = 2`. `nv_C03X` / `nv_C03X_forced` / `nv_C03X_dropped`: `C03PX.C03_posix_reachX` from the
crash-reachable state `S*` of `NonVacuityHistory.lean`. The lazier directory (`C03PD`) is in
`NonVacuityDir.lean`.
-/
import MRL.Props.NonVacuityHistory
import MRL.Props.C03PosixX
import MRL.Props.C03Posix

namespace MRL.NV

def cs : List (Call × Bool × List Bytes) :=
  [(.create [97], false, []), (.append [97] none [[1],[2]], false, []), (.append [97] none [[3],[4]], false, [])]

def effsC : List Effect :=
  [MRL.Effect.write 0 0 [205, 144, 137, 201, 9, 0, 2, 2, 0, 0, 0, 0, 0, 0, 0, 0],
    MRL.Effect.write 0 16 [178, 115, 81, 149, 3, 0, 4, 1, 0, 97],
    MRL.Effect.flush,
    MRL.Effect.fsyncFile 0,
    MRL.Effect.fsyncDir,
    MRL.Effect.write 0 26 [0, 0, 0, 0, 0, 0],
    MRL.Effect.flush,
    MRL.Effect.fsyncFile 0,
    MRL.Effect.fsyncDir,
    MRL.Effect.create 1,
    MRL.Effect.setLen 1 32,
    MRL.Effect.write 1 0 [71, 233, 147, 186, 9, 0, 2, 4, 0, 0, 0, 0, 0, 0, 0, 0],
    MRL.Effect.write 1 16 [103, 128, 7, 50, 9, 0, 3, 1, 0, 97, 0, 0, 0, 0, 0, 0],
    MRL.Effect.flush,
    MRL.Effect.fsyncFile 1,
    MRL.Effect.fsyncDir,
    MRL.Effect.create 2,
    MRL.Effect.setLen 2 32,
    MRL.Effect.write 2 0 [183, 131, 19, 182, 9, 0, 3, 0, 0, 1, 0, 0, 0, 1, 1, 0],
    MRL.Effect.write 2 16 [66, 185, 127, 9, 9, 0, 3, 0, 0, 0, 0, 0, 0, 1, 0, 0],
    MRL.Effect.flush,
    MRL.Effect.fsyncFile 2,
    MRL.Effect.fsyncDir,
    MRL.Effect.create 3,
    MRL.Effect.setLen 3 32,
    MRL.Effect.write 3 0 [226, 16, 70, 22, 2, 0, 4, 0, 2],
    MRL.Effect.write 3 9 [161, 142, 12, 60, 0, 0, 2],
    MRL.Effect.write 3 16 [4, 133, 116, 23, 9, 0, 3, 4, 2, 0, 0, 0, 0, 0, 0, 0],
    MRL.Effect.flush,
    MRL.Effect.fsyncFile 3,
    MRL.Effect.fsyncDir,
    MRL.Effect.create 4,
    MRL.Effect.setLen 4 32,
    MRL.Effect.write 4 0 [108, 33, 207, 127, 9, 0, 3, 1, 0, 97, 2, 0, 0, 0, 0, 0],
    MRL.Effect.write 4 16 [91, 53, 161, 135, 9, 0, 3, 0, 0, 1, 0, 0, 0, 3, 3, 0],
    MRL.Effect.flush,
    MRL.Effect.fsyncFile 4,
    MRL.Effect.fsyncDir,
    MRL.Effect.create 5,
    MRL.Effect.setLen 5 32,
    MRL.Effect.write 5 0 [66, 185, 127, 9, 9, 0, 3, 0, 0, 0, 0, 0, 0, 1, 0, 0],
    MRL.Effect.write 5 16 [215, 181, 37, 255, 2, 0, 4, 0, 4]]

def jourC : List JE :=
  [{ loc := 0, attr := 0, e := MRL.Entry.touch [97] 0 },
    { loc := 1, attr := 0, e := MRL.Entry.append [97] 0 [(0, [1]),
    (1, [2])] },
    { loc := 3, attr := 3, e := MRL.Entry.append [97] 2 [(2, [3]),
    (3, [4])] }]

def pimC : Image :=
  [(0, [205, 144, 137, 201, 9, 0, 2, 2, 0, 0, 0, 0, 0, 0, 0, 0, 178, 115, 81, 149, 3, 0, 4, 1, 0, 97, 0, 0, 0, 0, 0, 0]),
    (1, [71, 233, 147, 186, 9, 0, 2, 4, 0, 0, 0, 0, 0, 0, 0, 0, 103, 128, 7, 50, 9, 0, 3, 1, 0, 97, 0, 0, 0, 0, 0, 0]),
    (2, [183, 131, 19, 182, 9, 0, 3, 0, 0, 1, 0, 0, 0, 1, 1, 0, 66, 185, 127, 9, 9, 0, 3, 0, 0, 0, 0, 0, 0, 1, 0, 0]),
    (3, [226, 16, 70, 22, 2, 0, 4, 0, 2, 161, 142, 12, 60, 0, 0, 2, 4, 133, 116, 23, 9, 0, 3, 4, 2, 0, 0, 0, 0, 0, 0, 0])]

def RPC : Recovered :=
  { log := { files := [0, 1, 2, 3], cur := 3, off := 32, queues := [([97], { start := 0, recs := [{ pos := 0, payload := [1], file := none }, { pos := 1, payload := [2], file := some 0 }] })], policy := MRL.Policy.doNothing }, effects := [MRL.Effect.ensureLen 0 32], ioCalls := 17 }

def pimC9 : Image :=
  [(0, [205, 144, 137, 201, 9, 0, 2, 2, 0, 0, 0, 0, 0, 0, 0, 0, 178, 115, 81, 149, 3, 0, 4, 1, 0, 97, 0, 0, 0, 0, 0, 0])]

def effsE : List Effect :=
  [MRL.Effect.flush,
    MRL.Effect.fsyncFile 11,
    MRL.Effect.fsyncDir,
    MRL.Effect.write 11 26 [0, 0, 0, 0, 0, 0],
    MRL.Effect.flush,
    MRL.Effect.fsyncFile 11,
    MRL.Effect.fsyncDir,
    MRL.Effect.create 12,
    MRL.Effect.setLen 12 32,
    MRL.Effect.write 12 0 [192, 224, 252, 124, 9, 0, 2, 4, 6, 0, 0, 0, 0, 0, 0, 0],
    MRL.Effect.write 12 16 [122, 99, 94, 228, 9, 0, 3, 1, 0, 97, 6, 0, 0, 0, 0, 0],
    MRL.Effect.flush,
    MRL.Effect.fsyncFile 12,
    MRL.Effect.fsyncDir,
    MRL.Effect.create 13,
    MRL.Effect.setLen 13 32,
    MRL.Effect.write 13 0 [137, 117, 90, 238, 9, 0, 3, 0, 0, 1, 0, 0, 0, 9, 7, 0],
    MRL.Effect.write 13 16 [66, 185, 127, 9, 9, 0, 3, 0, 0, 0, 0, 0, 0, 1, 0, 0],
    MRL.Effect.flush,
    MRL.Effect.fsyncFile 13,
    MRL.Effect.fsyncDir,
    MRL.Effect.create 14,
    MRL.Effect.setLen 14 32,
    MRL.Effect.write 14 0 [208, 152, 157, 24, 2, 0, 4, 0, 10]]

def pimE : Image :=
  [(5, [66, 185, 127, 9, 9, 0, 3, 0, 0, 0, 0, 0, 0, 1, 0, 0, 215, 181, 37, 255, 2, 0, 4, 0, 4, 161, 142, 12, 60, 0, 0, 2]),
    (6, [4, 133, 116, 23, 9, 0, 3, 4, 2, 0, 0, 0, 0, 0, 0, 0, 108, 33, 207, 127, 9, 0, 3, 1, 0, 97, 2, 0, 0, 0, 0, 0]),
    (7, [233, 73, 44, 131, 9, 0, 3, 0, 0, 1, 0, 0, 0, 5, 3, 0, 66, 185, 127, 9, 9, 0, 3, 0, 0, 0, 0, 0, 0, 1, 0, 0]),
    (8, [251, 212, 43, 17, 2, 0, 4, 0, 6, 161, 142, 12, 60, 0, 0, 2, 131, 140, 27, 209, 9, 0, 3, 4, 4, 0, 0, 0, 0, 0, 0, 0]),
    (9, [113, 194, 150, 169, 9, 0, 3, 1, 0, 97, 4, 0, 0, 0, 0, 0, 1, 58, 242, 214, 9, 0, 3, 0, 0, 1, 0, 0, 0, 7, 5, 0]),
    (10, [66, 185, 127, 9, 9, 0, 3, 0, 0, 0, 0, 0, 0, 1, 0, 0, 252, 249, 147, 246, 2, 0, 4, 0, 8, 161, 142, 12, 60, 0, 0, 2]),
    (11, [168, 199, 108, 211, 9, 0, 3, 1, 1, 0, 0, 0, 0, 0, 0, 0, 178, 115, 81, 149, 3, 0, 4, 1, 0, 97, 0, 0, 0, 0, 0, 0])]

def RPE : Recovered :=
  { log := { files := [5, 6, 7, 8, 9, 10, 11], cur := 11, off := 26, queues := [([97], { start := 2, recs := [{ pos := 2, payload := [5], file := none }, { pos := 3, payload := [6], file := some 5 }, { pos := 4, payload := [7], file := none }, { pos := 5, payload := [8], file := some 8 }] })], policy := MRL.Policy.doNothing }, effects := [MRL.Effect.ensureLen 5 32], ioCalls := 29 }

open Log Twin Codec K P

theorem e_effsC : effsD g R0.log cs = effsC := by
  simp only [cs, effsD, step_twin]; decide +kernel
theorem e_jourC : jourD g R0.log cs = jourC := by
  simp only [cs, jourD, step_twin, stepJ_twin]; decide +kernel

theorem fitsC : ∀ j ∈ (runD g 0 ⟨R0.log, [], {}, []⟩ cs).J, C07.WF j.e := by
  rw [runD_eq]
  simp only [List.nil_append, e_jourC]
  decide +kernel

theorem tornC : C03D.TornRun g R0.log cs := by
  show H.TornEffs (effsD g R0.log cs)
  rw [e_effsC]
  exact C06X.tornEffs_check _ (by decide +kernel)

theorem tailC : effsD g R0.log (cs.take 1) =
    [.write 0 0 [205, 144, 137, 201, 9, 0, 2, 2, 0, 0, 0, 0, 0, 0, 0, 0], .write 0 16 [178, 115, 81, 149, 3, 0, 4, 1, 0, 97]] ++
      [.flush, .fsyncFile 0, .fsyncDir] := by
  simp only [cs, List.take, effsD, step_twin]; decide +kernel

theorem hkC : (toOsOpsP 0 {} (effsD g R0.log (cs.take 1))).2.length ≤ 28 := by
  rw [tailC]; decide +kernel

/-- `C03P.C03_posix` applies: promise point `m = 1` (the `create_queue`), power loss after 28 refined
    OS operations — strictly inside the third call -/
theorem nv_C03 : ∃ rec i, 1 ≤ i ∧ i ≤ cs.length ∧
    recover g (powerImage img0 ((toOsOpsP 0 {} (effsD g R0.log cs)).2.take 28)) .doNothing [] none = .ok rec ∧
    H.AbsEq rec.log.queues (runD g 0 ⟨R0.log, [], {}, []⟩ (cs.take i)).l.queues :=
  C03P.C03_posix g (by decide) 0 R0.log [] img0 {} reachD0 rfl cs fitsC tornC 1 (by decide) _ 0 tailC 28 hkC
    .doNothing []

theorem e_pimC : powerImage img0 ((toOsOpsP 0 {} (effsD g R0.log cs)).2.take 28) = pimC := by
  rw [e_effsC]; decide +kernel
theorem e_RPC : recover g pimC .doNothing [] none = .ok RPC := by rw [recover_twin]; decide +kernel

theorem e_logC (i : Nat) : (runD g 0 ⟨R0.log, [], {}, []⟩ (cs.take i)).l.queues = (logD g R0.log (cs.take i)).queues := by
  rw [runD_eq]

theorem e_logC1 : ((logD g R0.log (cs.take 1)).queues.get? [97]).map MemQueue.abs = some ⟨0, []⟩ := by
  simp only [cs, List.take, logD, step_twin]; decide +kernel
theorem e_logC3 : ((logD g R0.log (cs.take 3)).queues.get? [97]).map MemQueue.abs =
    some ⟨4, [(0, [1]), (1, [2]), (2, [3]), (3, [4])]⟩ := by
  simp only [cs, List.take, logD, step_twin]; decide +kernel

/-- … and its conclusion is not the trivial one: the witnesses are forced — the recovered log is
    `RPC` (the first batch present, the second absent) and `i = 2`, strictly between the promise
    point and the end of the history -/
theorem nv_C03_forced (rec : Recovered) (i : Nat) (h1 : 1 ≤ i) (h2 : i ≤ cs.length)
    (h3 : recover g (powerImage img0 ((toOsOpsP 0 {} (effsD g R0.log cs)).2.take 28)) .doNothing [] none = .ok rec)
    (h4 : H.AbsEq rec.log.queues (runD g 0 ⟨R0.log, [], {}, []⟩ (cs.take i)).l.queues) :
    rec = RPC ∧ i = 2 := by
  rw [e_pimC, e_RPC] at h3
  simp only [Except.ok.injEq] at h3
  subst h3
  refine ⟨rfl, ?_⟩
  have hlen : cs.length = 3 := rfl
  have h5 := h4 [97]
  rw [e_logC] at h5
  have hq : (RPC.log.queues.get? [97]).map MemQueue.abs = some ⟨2, [(0, [1]), (1, [2])]⟩ := by decide +kernel
  rw [hq] at h5
  rcases (by omega : i = 1 ∨ i = 2 ∨ i = 3) with rfl | rfl | rfl
  · rw [e_logC1] at h5; exact absurd h5 (by decide)
  · rfl
  · rw [e_logC3] at h5; exact absurd h5 (by decide)

/-- at that instant `wal-4`, created after the last `fsync` of the directory, is dropped by the power
    loss although three operations on it were issued -/
theorem nv_C03_dropped :
    OsOpP.create 4 ∈ (toOsOpsP 0 {} (effsD g R0.log cs)).2.take 28 ∧ pimC.map (·.1) = [0, 1, 2, 3] := by
  rw [e_effsC]; decide +kernel


def evs : List PX.Ev :=
  [.call (.persist .flushAndFsync) false [], .call (.append [97] none [[9],[10]]) false []]

theorem e_effsE : PX.effsX g R2.log img6 evs = effsE := by
  simp only [evs, PX.effsX, PX.evEffs, PX.evLog, step_twin]; decide +kernel

theorem fitsE : ∀ j ∈ PX.jourX g R2.log img6 evs, C07.WF j.e := by
  simp only [evs, PX.jourX, PX.evJ, PX.evLog, step_twin, stepJ_twin]; decide +kernel

theorem tornE : H.TornEffs (PX.effsX g R2.log img6 evs) := by
  rw [e_effsE]
  exact C06X.tornEffs_check _ (by decide +kernel)

theorem tailE : PX.effsX g R2.log img6 (evs.take 1) = [] ++ [.flush, .fsyncFile 11, .fsyncDir] := by
  simp only [evs, List.take, PX.effsX, PX.evEffs, step_twin]; decide +kernel

theorem hkE : (toOsOpsP 0 {} (PX.effsX g R2.log img6 (evs.take 1))).2.length ≤ 8 := by
  rw [tailE]; decide +kernel

/-- `C03PX.C03_posix_reachX` applies to `S*`: promise point `m = 1` (`persist(FlushAndFsync)`), power
    loss after 8 refined OS operations — inside the `append` that follows -/
theorem nv_C03X : ∃ rec i, 1 ≤ i ∧ i ≤ evs.length ∧
    recover g (powerImage img6 ((toOsOpsP 0 {} (PX.effsX g R2.log img6 evs)).2.take 8)) .doNothing [] none = .ok rec ∧
    H.AbsEq rec.log.queues (PX.logX g R2.log img6 (evs.take i)).queues :=
  C03PX.C03_posix_reachX g (by decide) 0 R2.log img6 {} reachS.toReachX rfl evs fitsE tornE 1 (by decide) _ 11 tailE
    8 hkE .doNothing []

theorem e_pimE : powerImage img6 ((toOsOpsP 0 {} (PX.effsX g R2.log img6 evs)).2.take 8) = pimE := by
  rw [e_effsE]; decide +kernel
theorem e_RPE : recover g pimE .doNothing [] none = .ok RPE := e_RS

theorem e_logE2 : ((PX.logX g R2.log img6 (evs.take 2)).queues.get? [97]).map MemQueue.abs =
    some ⟨8, [(2, [5]), (3, [6]), (4, [7]), (5, [8]), (6, [9]), (7, [10])]⟩ := by
  simp only [evs, List.take, PX.logX, PX.evLog, step_twin]; decide +kernel

/-- the witnesses are forced: the recovered log is `RPE` (the interrupted batch absent) and
    `i = 1 < evs.length`; `wal-12`, created after the last `fsync` of the directory, is dropped -/
theorem nv_C03X_forced (rec : Recovered) (i : Nat) (h1 : 1 ≤ i) (h2 : i ≤ evs.length)
    (h3 : recover g (powerImage img6 ((toOsOpsP 0 {} (PX.effsX g R2.log img6 evs)).2.take 8)) .doNothing [] none = .ok rec)
    (h4 : H.AbsEq rec.log.queues (PX.logX g R2.log img6 (evs.take i)).queues) :
    rec = RPE ∧ i = 1 := by
  rw [e_pimE, e_RPE] at h3
  simp only [Except.ok.injEq] at h3
  subst h3
  refine ⟨rfl, ?_⟩
  have hlen : evs.length = 2 := rfl
  have h5 := h4 [97]
  have hq : (RPE.log.queues.get? [97]).map MemQueue.abs = some ⟨6, [(2, [5]), (3, [6]), (4, [7]), (5, [8])]⟩ := by
    decide +kernel
  rw [hq] at h5
  rcases (by omega : i = 1 ∨ i = 2) with rfl | rfl
  · rfl
  · rw [e_logE2] at h5; exact absurd h5 (by decide)

theorem nv_C03X_dropped :
    OsOpP.create 12 ∈ (toOsOpsP 0 {} (PX.effsX g R2.log img6 evs)).2.take 8 ∧
    pimE.map (·.1) = [5, 6, 7, 8, 9, 10, 11] := by
  rw [e_effsE]; decide +kernel

end MRL.NV
