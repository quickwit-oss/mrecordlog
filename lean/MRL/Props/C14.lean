/-
C14: the persist policy never changes logical behaviour. Two logs that differ only in their
policy answer every call with the same outcome (byte counts included), stay equal up to the policy
field, and emit the same effects once `flush`/`fsync` are erased — whatever the clock says.
-/
import MRL.Proofs.StepDisc

namespace MRL.C14
open MRL.Log MRL.Step

def isSyncEff : Effect → Bool
  | .flush | .fsyncFile _ | .fsyncDir => true
  | _ => false

/-- drop `flush`, `fsync(file)`, `fsync(dir)` -/
def eraseSync (es : List Effect) : List Effect := es.filter (fun e => !isSyncEff e)

def withPolicy (l : Log) (p : Policy) : Log := { l with policy := p }

@[simp] theorem withPolicy_files (l : Log) (p : Policy) : (withPolicy l p).files = l.files := rfl
@[simp] theorem withPolicy_cur (l : Log) (p : Policy) : (withPolicy l p).cur = l.cur := rfl
@[simp] theorem withPolicy_off (l : Log) (p : Policy) : (withPolicy l p).off = l.off := rfl
@[simp] theorem withPolicy_queues (l : Log) (p : Policy) : (withPolicy l p).queues = l.queues := rfl
@[simp] theorem withPolicy_policy (l : Log) (p : Policy) : (withPolicy l p).policy = p := rfl
@[simp] theorem withPolicy_withPolicy (l : Log) (p q : Policy) : withPolicy (withPolicy l p) q = withPolicy l q := rfl
theorem withPolicy_self (l : Log) : withPolicy l l.policy = l := rfl

@[simp] theorem eraseSync_nil : eraseSync [] = [] := rfl
@[simp] theorem eraseSync_append (a b : List Effect) : eraseSync (a ++ b) = eraseSync a ++ eraseSync b := by
  simp [eraseSync]

@[simp] theorem eraseSync_persist (l : Log) (a : PersistAction) : eraseSync (l.persistEffects a) = [] := by
  cases a <;> rfl

theorem eraseSync_tailSync (l : Log) (c : Call) (tick : Bool) : eraseSync (tailSync l c tick) = [] := by
  rcases tailSync_isSync l c tick with h | ⟨a, h⟩ <;> rw [h]
  · rfl
  · exact eraseSync_persist l a

theorem persistEffects_withPolicy (l : Log) (p : Policy) (a : PersistAction) :
    (withPolicy l p).persistEffects a = l.persistEffects a := rfl

section
variable (g : Geom)

theorem writeBuf_policy (l : Log) (p : Policy) (buf : Bytes) :
    writeBuf g (withPolicy l p) buf = (withPolicy (writeBuf g l buf).1 p, (writeBuf g l buf).2) := by
  by_cases h1 : buf.isEmpty = true
  · simp [writeBuf, h1]
  · by_cases h2 : l.off + buf.length > g.fileBytes
    · cases h3 : nextFile l.files l.cur <;> simp [writeBuf, h1, h2, h3, withPolicy]
    · simp [writeBuf, h1, h2, withPolicy]

theorem writeBufs_policy (p : Policy) (bufs : List Bytes) :
    ∀ l : Log, writeBufs g (withPolicy l p) bufs = (withPolicy (writeBufs g l bufs).1 p, (writeBufs g l bufs).2) := by
  induction bufs with
  | nil => intro l; rfl
  | cons b bs ih =>
    intro l
    rw [writeBufs_cons, writeBufs_cons, writeBuf_policy, ih]

theorem writeEntry_policy (l : Log) (p : Policy) (e : Entry) :
    (withPolicy l p).writeEntry g e =
      (withPolicy (l.writeEntry g e).1 p, (l.writeEntry g e).2.1, (l.writeEntry g e).2.2) := by
  rw [writeEntry_eq, writeEntry_eq]
  show (_, _, totalLen (entryBufs g l e)) = _
  rw [show entryBufs g (withPolicy l p) e = entryBufs g l e from rfl, writeBufs_policy]

theorem writeTouches_policy (p : Policy) (names : List Bytes) :
    ∀ l : Log, writeTouches g (withPolicy l p) names =
      (withPolicy (writeTouches g l names).1 p, (writeTouches g l names).2.1, (writeTouches g l names).2.2) := by
  induction names with
  | nil => intro l; rfl
  | cons n ns ih =>
    intro l
    rw [writeTouches_cons, writeTouches_cons,
      show touchEntry (withPolicy l p) n = touchEntry l n from rfl, writeEntry_policy, ih]

theorem runGc_policy (l : Log) (p : Policy) (order : List Bytes) :
    runGc g (withPolicy l p) order =
      (withPolicy (runGc g l order).1 p, (runGc g l order).2.1, (runGc g l order).2.2) := by
  rcases runGc_trichotomy g l order with ⟨hr, f, f', rest, hf, hd⟩ | ⟨hr, f, f', rest, hf, hd⟩ | ⟨hr, hs⟩
  · rw [hr, runGc_run g (withPolicy l p) order f f' rest hf hd]
    simp only [gcResult, show gcNames (withPolicy l p) order = gcNames l order from rfl, writeTouches_policy,
      withPolicy_files, withPolicy_cur, persistEffects_withPolicy]
    rfl
  · rw [hr, runGc_skip g (withPolicy l p) order f f' rest hf hd]
  · rw [hr, runGc_short g (withPolicy l p) order hs]

end

variable (g : Geom)

/-- what a call decides does not depend on the policy (`act`), and neither does the write path -/
theorem step_policy (l : Log) (p : Policy) (c : Call) (t t' : Bool) (order : List Bytes) :
    (step g (withPolicy l p) c t' order).1 = withPolicy (step g l c t order).1 p ∧
    (step g (withPolicy l p) c t' order).2.1 = (step g l c t order).2.1 ∧
    eraseSync (step g (withPolicy l p) c t' order).2.2 = eraseSync (step g l c t order).2.2 := by
  rw [step_eq, step_eq, show act (withPolicy l p) c = act l c from rfl]
  cases act l c with
  | skip out => exact ⟨rfl, rfl, rfl⟩
  | sync a => exact ⟨rfl, rfl, by rw [eraseSync_persist, eraseSync_persist]⟩
  | log e qs' out =>
    simp only [writeEntry_policy, eraseSync_append, eraseSync_tailSync, List.append_nil]
    cases isGcCall c with
    | false => exact ⟨rfl, rfl, rfl⟩
    | true =>
      simp only [if_true]
      rw [show ({ withPolicy (l.writeEntry g e).1 p with queues := qs' } : Log) =
        withPolicy { (l.writeEntry g e).1 with queues := qs' } p from rfl, runGc_policy]
      exact ⟨rfl, rfl, rfl⟩

/-- **C14.** Two logs differing only in their persist policy, given the same call (and the same
    hash-order oracle) but arbitrary clock readings: same outcome — byte counts included —, final
    states equal up to the policy field, effects equal up to `flush`/`fsync`. -/
theorem C14_policy_irrelevant (l : Log) (c : Call) (t₁ t₂ : Bool) (order : List Bytes) (p₁ p₂ : Policy) :
    let r₁ := Log.step g (withPolicy l p₁) c t₁ order
    let r₂ := Log.step g (withPolicy l p₂) c t₂ order
    r₂.1 = withPolicy r₁.1 p₂ ∧ r₁.2.1 = r₂.2.1 ∧ eraseSync r₁.2.2 = eraseSync r₂.2.2 := by
  intro r₁ r₂
  obtain ⟨h1, h2, h3⟩ := step_policy g (withPolicy l p₁) p₂ c t₁ t₂ order
  exact ⟨h1, h2.symm, h3.symm⟩

theorem step_keeps_policy (l : Log) (c : Call) (t : Bool) (order : List Bytes) :
    (Log.step g l c t order).1.policy = l.policy := by
  have := (step_policy g l l.policy c t t order).1
  rw [withPolicy_self] at this
  rw [this]
  rfl

/-- run a list of calls (each with its hash-order oracle); the clock readings are taken from
    `ticks` (`false` once exhausted). Returns the final state, the outcomes and all effects. -/
def run (g : Geom) : Log → List (Call × List Bytes) → List Bool → Log × List Outcome × List Effect
  | l, [], _ => (l, [], [])
  | l, (c, order) :: cs, ticks =>
    let r := Log.step g l c (ticks.headD false) order
    let r' := run g r.1 cs ticks.tail
    (r'.1, r.2.1 :: r'.2.1, r.2.2 ++ r'.2.2)

/-- **C14 for histories.** The same calls issued to two logs differing only in the policy, with
    arbitrary (different) clock readings on the two sides: final states equal up to the policy,
    the same outcomes, the same effects up to `flush`/`fsync`. -/
theorem C14_history (cs : List (Call × List Bytes)) :
    ∀ (l : Log) (p₁ p₂ : Policy) (ticks₁ ticks₂ : List Bool),
      let r₁ := run g (withPolicy l p₁) cs ticks₁
      let r₂ := run g (withPolicy l p₂) cs ticks₂
      r₂.1 = withPolicy r₁.1 p₂ ∧ r₁.2.1 = r₂.2.1 ∧ eraseSync r₁.2.2 = eraseSync r₂.2.2 := by
  induction cs with
  | nil => intro l p₁ p₂ _ _; exact ⟨rfl, rfl, rfl⟩
  | cons co cs ih =>
    intro l p₁ p₂ ticks₁ ticks₂
    obtain ⟨c, order⟩ := co
    obtain ⟨h1, h2, h3⟩ := C14_policy_irrelevant g l c (ticks₁.headD false) (ticks₂.headD false) order p₁ p₂
    have hp : (Log.step g (withPolicy l p₁) c (ticks₁.headD false) order).1 =
        withPolicy (Log.step g (withPolicy l p₁) c (ticks₁.headD false) order).1 p₁ := by
      exact congrArg (withPolicy _) (step_keeps_policy g (withPolicy l p₁) c (ticks₁.headD false) order)
    obtain ⟨k1, k2, k3⟩ := ih (Log.step g (withPolicy l p₁) c (ticks₁.headD false) order).1 p₁ p₂
      ticks₁.tail ticks₂.tail
    simp only [run]
    rw [← hp] at k1 k2 k3
    rw [← h1] at k1 k2 k3
    refine ⟨k1, ?_, ?_⟩
    · rw [h2, k2]
    · rw [eraseSync_append, eraseSync_append, h3, k3]

/-! ### Consequence on disk: the same image once everything is flushed

The `BufWriter` model merges consecutive writes whatever their target, so erasing a `flush` that
separates writes to two files changes what reaches the OS: the statement "`es` and `eraseSync es`
give the same flushed image" is false as such (`same_image_literal_false`). What holds: two effect
lists that use the buffer the way the rolling writer does (`Buf.run … ≠ none`: contiguous non-empty
writes, a flush before every file-level operation and before changing file) and agree up to
`flush`/`fsync` leave the same image after a final flush. Every call — hence every history — is
such a list, under every policy. -/

theorem same_image_literal_false :
    ¬ (∀ (cap : Nat) (img : Image) (es : List Effect),
        applyOsOps img (toOsOps cap {} (es ++ [.flush])).2 =
          applyOsOps img (toOsOps cap {} (eraseSync es ++ [.flush])).2) := by
  intro h
  have := h 8 [(0, []), (1, [])] [.write 0 0 [1], .flush, .write 1 0 [2]]
  revert this
  decide

theorem direct_sync (e : Effect) (h : isSyncEff e = true) (img : Image) : applyOsOps img (Buf.direct e) = img := by
  cases e with
  | flush | fsyncFile _ | fsyncDir => rfl
  | _ => cases h

theorem direct_eraseSync (es : List Effect) :
    ∀ img, applyOsOps img (Buf.directOps es) = applyOsOps img (Buf.directOps (eraseSync es)) := by
  induction es with
  | nil => intro img; rfl
  | cons e es ih =>
    intro img
    have hc : eraseSync (e :: es) = if isSyncEff e then eraseSync es else e :: eraseSync es := by
      simp only [eraseSync, List.filter_cons]
      cases isSyncEff e <;> rfl
    rw [hc, Buf.directOps_cons, Buf.applyOsOps_append, ih]
    by_cases hs : isSyncEff e = true
    · rw [if_pos hs, direct_sync e hs]
    · rw [if_neg hs, Buf.directOps_cons, Buf.applyOsOps_append]

/-- **C14, disk form.** Two disciplined effect lists that agree up to `flush`/`fsync` leave the
    same image once everything is flushed, whatever the buffer capacity. -/
theorem C14_same_image (cap : Nat) (img : Image) (es₁ es₂ : List Effect)
    (h₁ : (Buf.run none es₁).isSome) (h₂ : (Buf.run none es₂).isSome)
    (he : eraseSync es₁ = eraseSync es₂) :
    applyOsOps img (toOsOps cap {} (es₁ ++ [.flush])).2 = applyOsOps img (toOsOps cap {} (es₂ ++ [.flush])).2 := by
  rw [Buf.flushed_image cap img es₁ h₁, Buf.flushed_image cap img es₂ h₂, direct_eraseSync es₁,
    direct_eraseSync es₂, he]

theorem run_Disc (cs : List (Call × List Bytes)) :
    ∀ (l : Log) (ticks : List Bool), Disc l (run g l cs ticks).2.2 (run g l cs ticks).1 := by
  induction cs with
  | nil => intro l _; exact Disc.same rfl rfl
  | cons co cs ih =>
    intro l ticks
    obtain ⟨c, order⟩ := co
    simp only [run]
    exact (step_Disc g l c _ order).trans (ih _ _)

/-- **C14, disk form, for histories.** The same calls under two policies and two clocks: after a
    final flush the two disks hold the same image. (Both sides start with an empty `BufWriter`.) -/
theorem C14_history_same_image (cs : List (Call × List Bytes)) (l : Log) (p₁ p₂ : Policy)
    (ticks₁ ticks₂ : List Bool) (cap : Nat) (img : Image) :
    let es₁ := (run g (withPolicy l p₁) cs ticks₁).2.2
    let es₂ := (run g (withPolicy l p₂) cs ticks₂).2.2
    applyOsOps img (toOsOps cap {} (es₁ ++ [.flush])).2 = applyOsOps img (toOsOps cap {} (es₂ ++ [.flush])).2 := by
  intro es₁ es₂
  apply C14_same_image
  · obtain ⟨st', h, _⟩ := run_Disc g cs (withPolicy l p₁) ticks₁ none (.inl rfl)
    simp [es₁, h]
  · obtain ⟨st', h, _⟩ := run_Disc g cs (withPolicy l p₂) ticks₂ none (.inl rfl)
    simp [es₂, h]
  · exact (C14_history g cs l p₁ p₂ ticks₁ ticks₂).2.2

def g16 : Geom := { B := 16, K := 4, hB := by decide, hK := by decide }

def l0 : Log :=
  { files := [0], cur := 0, off := 0, policy := .doNothing, queues := [([1], {})] }

/-- the raw effects of an append under `DoNothing` and under `Always(FlushAndFsync)` differ … -/
example :
    (Log.step g16 (withPolicy l0 .doNothing) (.append [1] none [[7]]) false []).2.2 ≠
    (Log.step g16 (withPolicy l0 (.always .flushAndFsync)) (.append [1] none [[7]]) false []).2.2 := by
  intro h
  have := congrArg List.length h
  have hq : l0.queues.get? [1] = some {} := rfl
  simp [step, hq, MemQueue.nextPosition, numberFrom, appendAll,
    MemQueue.appendRecord, policyEffects, persistEffects, writeEntry_policy] at this

/-- … but they agree once the syncs are erased, and so do outcome and state -/
example :
    let r₁ := Log.step g16 (withPolicy l0 .doNothing) (.append [1] none [[7]]) false []
    let r₂ := Log.step g16 (withPolicy l0 (.always .flushAndFsync)) (.append [1] none [[7]]) true []
    r₂.1 = withPolicy r₁.1 (.always .flushAndFsync) ∧ r₁.2.1 = r₂.2.1 ∧ eraseSync r₁.2.2 = eraseSync r₂.2.2 :=
  C14_policy_irrelevant g16 l0 _ false true [] _ _

end MRL.C14
