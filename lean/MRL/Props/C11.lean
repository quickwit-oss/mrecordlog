/-
C11 — I/O errors during recovery are reported. (Promptness in wall-clock terms is not a theorem: here it
is "`open` stops at the failing call" and the bound `ioCalls_bounded` on the calls made; the rest is the
harness's watchdog.)

If listing the directory, opening or reading any WAL file fails at any point during `open`, `open`
stops at that call and reports an I/O error: it neither retries nor returns a log built from the
part of the WAL read so far. In the model, `recover g img policy order failAt` with
`failAt = some n` fails the `n`-th (0-based) list/open/read call; `Recovered.ioCalls` counts the
calls made. The model stops at the first failing call, so a persistent failure and a transient
one behave alike.

The core is `Rec.scanBlocks_fault` (`Proofs/RecFault`): a fault at a call index inside the range of
calls the scan makes aborts it, a fault outside changes nothing.
-/
import MRL.Proofs.RecFault
import MRL.Proofs.EvalTwin

namespace MRL.C11
open Rec

variable (g : Geom) (img : Image) (policy : Policy) (order : List Bytes)

/-- (a) a fault at any call recovery actually makes is reported as an I/O error -/
theorem io_reported (r : Recovered) (n : Nat)
    (h : recover g img policy order none = .ok r) (hn : n < r.ioCalls) :
    recover g img policy order (some n) = .error .io :=
  (recover_fault_ok g img policy order n r h).1 hn

/-- (b) a fault planned at a call recovery never makes changes nothing -/
theorem io_irrelevant_beyond (r : Recovered) (n : Nat)
    (h : recover g img policy order none = .ok r) (hn : r.ioCalls ≤ n) :
    recover g img policy order (some n) = .ok r :=
  (recover_fault_ok g img policy order n r h).2 hn

/-- (c) when the fault-free recovery fails, no fault plan turns it into a success: the result is
    the I/O error or the same error -/
theorem fault_never_ok_on_bad_image (e : OpenErr) (n : Nat)
    (h : recover g img policy order none = .error e) :
    recover g img policy order (some n) = .error .io ∨ recover g img policy order (some n) = .error e :=
  recover_fault_err g img policy order n e h

/-- (d) a log returned under a fault plan is the fault-free log (and the fault was never hit):
    never a log built from a partially read WAL -/
theorem never_partial (r : Recovered) (n : Nat)
    (h : recover g img policy order (some n) = .ok r) :
    recover g img policy order none = .ok r ∧ r.ioCalls ≤ n := by
  cases h0 : recover g img policy order none with
  | error e =>
    rcases recover_fault_err g img policy order n e h0 with h1 | h1 <;> rw [h1] at h <;> cases h
  | ok r0 =>
    obtain ⟨p1, p2⟩ := recover_fault_ok g img policy order n r0 h0
    by_cases hn : n < r0.ioCalls
    · rw [p1 hn] at h; cases h
    · rw [p2 (Nat.le_of_not_lt hn)] at h
      cases h
      exact ⟨rfl, Nat.le_of_not_lt hn⟩

/-- every outcome under a fault plan, in one statement -/
theorem fault_outcomes (n : Nat) :
    recover g img policy order (some n) = .error .io ∨
    recover g img policy order (some n) = recover g img policy order none := by
  cases h0 : recover g img policy order none with
  | error e => exact recover_fault_err g img policy order n e h0
  | ok r0 =>
    obtain ⟨p1, p2⟩ := recover_fault_ok g img policy order n r0 h0
    by_cases hn : n < r0.ioCalls
    · exact Or.inl (p1 hn)
    · exact Or.inr (p2 (Nat.le_of_not_lt hn))

theorem prepareImage_length : (prepareImage g img).1.length = max 1 img.length := by
  unfold prepareImage
  cases img with
  | nil => rfl
  | cons fc rest =>
    obtain ⟨f, content⟩ := fc
    simp only [List.length_cons, Nat.max_eq_right (Nat.succ_le_succ (Nat.zero_le rest.length))]
    split <;> rfl

/-- (e) Recovery makes a bounded number of I/O calls (no retry loop): one directory listing, an
    open and a read per file of the prepared image `img'`, one read per full block of `img'`
    (`fullBlocks g img' = Σ content.length / g.B`), and one `open_file` per roll-over into an
    existing file during the final GC pass (those are visible as `openFile` effects; the
    preparation effects contain none). -/
theorem ioCalls_bounded (r : Recovered) (h : recover g img policy order none = .ok r) :
    r.ioCalls ≤ 1 + 2 * (prepareImage g img).1.length + fullBlocks g (prepareImage g img).1
      + countOpen r.effects := by
  rw [recover_none] at h
  cases h0 : recoverPre g img policy none with
  | error e => rw [h0] at h; cases h
  | ok x =>
    obtain ⟨l, e0, io⟩ := x
    rw [h0] at h
    simp only [Except.ok.injEq] at h
    subst h
    obtain ⟨hio, he0⟩ := recoverPre_io_le g img policy l e0 io h0
    simp only [countOpen_append, he0, countOpen_prepare, Nat.zero_add]
    exact Nat.add_le_add_right hio _

/-- the same with the prepared image's length spelled out -/
theorem ioCalls_bounded' (r : Recovered) (h : recover g img policy order none = .ok r) :
    r.ioCalls ≤ 1 + 2 * max 1 img.length + fullBlocks g (prepareImage g img).1 + countOpen r.effects := by
  have := ioCalls_bounded g img policy order r h
  rwa [prepareImage_length] at this

/-! ### non-vacuity: a two-block image whose first block is garbage

`B = 16`; the only file holds one block of `0xFF` bytes (a corrupt header: the reader gives the
block up and loads the next one) and one block of zeros (end of log). The fault-free recovery
makes 4 calls: list, open, read block 0, read block 1 — hence the costs 3 and 1 of the two blocks
(`blocksOf` charges the first block of a file the pending listing plus open and read). -/

def g16 : Geom := ⟨16, 2, by decide, by decide⟩
def img0 : Image := [(0, List.replicate 16 255 ++ zeros 16)]
def blkA : Blk := ⟨0, 0, List.replicate 16 255, 3⟩
def blkB : Blk := ⟨0, 1, zeros 16, 1⟩

/-- the two blocks are scanned by evaluation, on the fuel form `Twin.scanF` of `scanBlockFrom` -/
theorem scanA : scanBlock g16 blkA.data 0 = ([.corrupt], .needNext 0) :=
  (Twin.scan_eq g16 17 _ 0 (by decide)).trans rfl

theorem scanB : scanBlock g16 blkB.data 0 = ([], .zeroHeader 0) :=
  (Twin.scan_eq g16 17 _ 0 (by decide)).trans rfl

theorem prep0 : prepareImage g16 img0 = (img0, [.ensureLen 0 32]) := by decide +kernel

theorem blocks0 : blocksOf g16 (prepareImage g16 img0).1 1 = (blkA :: [blkB], 1) := by
  rw [prep0]; rfl

theorem scan0 (fa : Option Nat) : scanBlocks g16 fa 1 blkA.cost blkA 0 [blkB] =
    if ioFails fa 3 4 then none else some ([.corrupt 0], ⟨0, 1, 0⟩, 4) := by
  rw [scanBlocks_next_cons g16 fa 1 blkA.cost blkA 0 blkB [] _ _ scanA,
    scanBlocks_zero g16 fa 1 (blkA.cost + blkB.cost) blkB 0 [] _ _ scanB]
  rfl

/-- the fault-free recovery succeeds with 4 I/O calls -/
theorem ex_ok : recover g16 img0 .doNothing [] none =
    .ok { log := { files := [0], cur := 0, off := 16, queues := [], policy := .doNothing },
          effects := [.ensureLen 0 32], ioCalls := 4 } := by
  rw [recover_eq, recoverPre_cons g16 img0 _ _ blkA [blkB] 1 blocks0, scan0, prep0]
  rfl

/-- failing call 1 (the `open` of the file) is reported — computed directly … -/
example : recover g16 img0 .doNothing [] (some 1) = .error .io := by
  rw [recover_eq, recoverPre_cons g16 img0 _ _ blkA [blkB] 1 blocks0]
  rfl

/-- … failing call 3 (the read of the second block, after the corrupt one) too — computed … -/
example : recover g16 img0 .doNothing [] (some 3) = .error .io := by
  rw [recover_eq, recoverPre_cons g16 img0 _ _ blkA [blkB] 1 blocks0, scan0]
  rfl

/-- … and every failing call `n < 4` by (a); a fault at call 4 or later is never reached, by (b) -/
example (n : Nat) (hn : n < 4) : recover g16 img0 .doNothing [] (some n) = .error .io :=
  io_reported g16 img0 .doNothing [] _ n ex_ok hn

example (n : Nat) (hn : 4 ≤ n) : recover g16 img0 .doNothing [] (some n) = recover g16 img0 .doNothing [] none := by
  rw [ex_ok]; exact io_irrelevant_beyond g16 img0 .doNothing [] _ n ex_ok hn

/-- the bound (e) on this image: `4 ≤ 1 + 2·1 + 2 + 0` -/
example : (4 : Nat) ≤ 1 + 2 * (prepareImage g16 img0).1.length + fullBlocks g16 (prepareImage g16 img0).1
    + countOpen [Effect.ensureLen 0 32] :=
  ioCalls_bounded g16 img0 .doNothing [] _ ex_ok

end MRL.C11
