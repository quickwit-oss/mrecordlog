/-
C09 over crash-reachable states — losing one frame costs at most the entry it belongs to, on the
image of ANY state reachable with restarts and crashes at any byte.

`C09_crash_one_frame`. Let `C02W.ReachXW g cap l img b W` (= `C02U.ReachX g cap l img b`, with the list `W`
of the entries handed to the writer), `W₀ := flushDisk img b`. There are a journal `J` (`L.CInvX g l J W₀`,
entries serialisable and in `W`) and items `ais`, a residue `res`, `z0`, `z1` with
`streamOf W₀ = flatJ g 0 ais ++ zeros z0 ++ res ++ zeros z1` and `Fits g 0 (frs ais)`, such that for ANY
frame as written `a` of `ais` (`ais = A1 ++ a :: A2`, `a.2 = none`), any replacement `crc'`, `p'` of its
checksum / payload bytes (same lengths) that fails the frame's check, and any image `W'` of the same shape
carrying the damaged stream (the stream of `A1 ++ damaged a crc' p' :: A2`: the same bytes except the checksum
and payload bytes of that slot):
`recover g W' policy order none` SUCCEEDS, and for some journal index `idx` every record of every
live queue of `l` that was not appended by `J[idx]` is in the recovered log with the same position
and payload.

What that statement does NOT say: `ais` and `res` are existential and tied to the state by the stream equation
alone — neither that `res` is short nor that the frames of `ais` are those of `J`; `ais = []` with `res` the
whole stream fits the equation and leaves no frame to damage. The proof supplies the item tape of the state
(`L.CInvX.tapeD`: frames as written, junk slots left by earlier crashes — `a.2 = some raw` —, a residue of at most
6 = HEADER_LEN − 1 bytes). The statement tied to that tape is `one_frame_tape_some` below, over `L.TapeD` with its
witnesses; `C09W.C09_crash_which` (MRL/Props/C09Which.lean) also says WHICH entry is lost.

The replay-level half, `C09_drop_one_crash`: `C09R.C09_drop_one` for the hidden journal of every
crash-reachable state: replaying `J` with ANY entry erased, from the first tracked file, never
fails and keeps every record not appended by the erased entry.

The drop-one simulation works from any well-formed start, not only the empty map: the hidden journal
replays entry by entry as the API wrote it from the queues as they were when the oldest retained entry
was written (`LR.RunOK`, carried across crashes). Byte level: the damaged frame is one more junk item
of the same slot size, so all positions are unchanged (`damaged_layout`). Damage inside an existing
junk slot is not covered by the statement (`a.2 = none` is asked); it changes nothing as long as the
slot stays junk, but a junk slot could be "repaired" into a valid frame by an adversarial replacement,
which is the collision situation of C08, not C09.
-/
import MRL.Proofs.LDamage
import MRL.Props.C08Crash
import MRL.Props.C09Replay

namespace MRL.C09X
open Codec Img G H L Torn LR

theorem abs_mem {x y : MemQueue} (h : x.abs = y.abs) {p : Nat} {pl : Bytes} (hm : (p, pl) ∈ Rec.plain x) :
    ∃ r' ∈ y.recs, r'.pos = p ∧ r'.payload = pl := by
  have hr := congrArg SQueue.recs h
  simp only [MemQueue.abs] at hr
  unfold Rec.plain at hm
  rw [hr] at hm
  obtain ⟨r', hr', he⟩ := List.mem_map.mp hm
  simp only [Prod.mk.injEq] at he
  exact ⟨r', hr', he.1, he.2⟩

/-- the frame `a` with its checksum bytes replaced by `crc'` and its payload bytes by `p'` -/
def damaged (a : AItm) (crc' p' : Bytes) : AItm :=
  ((a.1.1, (a.1.2.1, p')), some (Raw.bytes (crc', a.1.2.1, p')))

theorem slot_written (a : AItm) (ha : a.2 = none) :
    slot a = leBytes (frameCrc a.1.2.1 a.1.2.2) 4 ++ leBytes a.1.2.2.length 2 ++ [a.1.2.1.code.toUInt8] ++ a.1.2.2 := by
  unfold slot
  rw [ha, Option.getD_none, ← good_bytes]
  simp [good, Raw.bytes]

theorem slot_damaged (a : AItm) (crc' p' : Bytes) (hp : p'.length = a.1.2.2.length) :
    slot (damaged a crc' p') = crc' ++ leBytes a.1.2.2.length 2 ++ [a.1.2.1.code.toUInt8] ++ p' := by
  simp [slot, damaged, Raw.bytes, hp]

theorem damaged_layout (g : Geom) (F L : Nat) (A1 : List AItm) (a : AItm) (A2 : List AItm) (crc' p' : Bytes)
    (h4 : crc'.length = 4) (hp : p'.length = a.1.2.2.length) (hdet : frameCrc a.1.2.1 p' ≠ leNat crc')
    (hfits : Fits g 0 (frs (A1 ++ a :: A2))) (htag : Tagged g F 0 (tfs (A1 ++ a :: A2)))
    (hjok : JOK g L 0 (A1 ++ a :: A2)) :
    Fits g 0 (frs (A1 ++ damaged a crc' p' :: A2)) ∧ Tagged g F 0 (tfs (A1 ++ damaged a crc' p' :: A2)) ∧
    JOK g L 0 (A1 ++ damaged a crc' p' :: A2) ∧
    endPos g 0 (frs (A1 ++ damaged a crc' p' :: A2)) = endPos g 0 (frs (A1 ++ a :: A2)) := by
  refine ⟨?_, ?_, ?_, ?_⟩
  · rw [frs_append, frs_cons] at hfits ⊢
    exact Fits_len_congr g (frs A1) a.1.2.1 a.1.2.2 p' (frs A2) hp 0 hfits
  · rw [tfs_append, tfs_cons, Tagged_append] at htag ⊢
    refine ⟨htag.1, ?_⟩
    have h2 := htag.2
    simp only [Tagged, damaged] at h2 ⊢
    rw [hp]; exact h2
  · rw [JOK_append] at hjok ⊢
    refine ⟨hjok.1, ?_⟩
    have h2 := hjok.2
    simp only [JOK, damaged] at h2 ⊢
    rw [hp]
    refine ⟨?_, h2.2⟩
    intro r hr
    simp only [Option.some.injEq] at hr
    exact Or.inl ⟨crc', h4, hr.symm, by simp [Raw.ev, hdet]⟩
  · rw [frs_append, frs_cons, frs_append, frs_cons, endPos_append, endPos_append]
    simp only [endPos, damaged]
    rw [hp]

/-- one damaged frame on an item tape given by its witnesses: `recover` succeeds; nothing is lost
    if the frame lies in no live group, otherwise at most the records of the entry of its group. The
    live groups are the entries of `J` located in the tracked files, which are the last
    `(liveOf gs).length` entries of `J`: the `k`-th live group is `J[J.length - (liveOf gs).length + k]`. -/
theorem one_frame_tape (g : Geom) (hB : g.B ≤ 65542) {D : Image} {F : Nat} {J : List JE} {cs : List Bytes}
    {x : Bool} {ais lead : List AItm} {gs : List Grp} {res : Bytes} {z0 z1 : Nat}
    (hd : TapeD g D F J cs x ais lead gs res z0 z1)
    (hwf : ∀ j ∈ J, C07.WF j.e) (hmono : J.Pairwise (fun a b => a.loc ≤ b.loc)) (qs lq : MemQueues)
    (hrep : replayJ F [] J = some qs) (hEq : QsEquiv qs lq) (hR : RunOK J lq)
    (A1 : List AItm) (a : AItm) (A2 : List AItm) (hsplit : ais = A1 ++ a :: A2) (ha : a.2 = none)
    (crc' p' : Bytes) (h4 : crc'.length = 4) (hp : p'.length = a.1.2.2.length)
    (hdet : frameCrc a.1.2.1 p' ≠ leNat crc') (W' : Image) (hshape : SameShape D W')
    (hS' : streamOf W' = flatJ g 0 (A1 ++ damaged a crc' p' :: A2) ++ zeros z0 ++ res ++ zeros z1)
    (policy : Policy) (order : List Bytes) :
    ∃ r, recover g W' policy order none = .ok r ∧
      match hitGroup lead gs A1.length with
      | none => ∀ name q, lq.get? name = some q → ∀ rc ∈ q.recs,
          ∃ q', r.log.queues.get? name = some q' ∧ ∃ r' ∈ q'.recs, r'.pos = rc.pos ∧ r'.payload = rc.payload
      | some k =>
        (∃ j fs, J[J.length - (liveOf gs).length + k]? = some j ∧ (some j, fs) ∈ gs ∧ a ∈ fs ∧
          payloadOf (frs fs) = j.e.encode ∧ EntryFrames true (frs fs)) ∧
        ∀ name q, lq.get? name = some q → ∀ rc ∈ q.recs,
          ¬ C09V.RecordOfIdx J (J.length - (liveOf gs).length + k) name rc →
          ∃ q', r.log.queues.get? name = some q' ∧ ∃ r' ∈ q'.recs, r'.pos = rc.pos ∧ r'.payload = rc.payload := by
  obtain ⟨⟨hne, hfull, hflat, hlast, hfits, htag, hjok, hresok⟩, ⟨hais, hlead, hmap, hok⟩, hX⟩ := hd
  subst hsplit
  obtain ⟨hfits', htag', hjok', hend⟩ := damaged_layout g F _ A1 a A2 crc' p' h4 hp hdet hfits htag hjok
  rw [hX] at hshape
  obtain ⟨cs', hW', hne', hfull', hlen', hstream'⟩ :=
    sameShape_tape g F cs _ W' hne hfull (xtra_empty x _) hshape
  rw [hstream'] at hS'
  obtain ⟨evT, e, ke, ce, zz, hscan, hevT, _⟩ := scan_diskX g hB (z0 := z0) (z1 := z1) ⟨hne', hfull', hS',
    by rw [hlen', hend]; exact hlast, hfits', htag', by rw [hlen']; exact hjok', by rw [hlen', hend]; exact hresok⟩
  have hmonoT := tags_mono g F _ 0 htag
  have hFT : ∀ y ∈ tfs (A1 ++ a :: A2), F ≤ y.1 := by
    intro y hy
    obtain ⟨h, _, _, h3⟩ := tag_pos g F _ 0 htag y hy
    rw [h3]; exact Nat.le_add_right _ _
  obtain ⟨Jd, st', R, hasm, hents, hcases⟩ := asm_damaged F lead gs hlead hok (by rw [← hais]; exact hmonoT)
    (by rw [← hais]; exact hFT) A1 a A2 hais.symm ha (damaged a crc' p') rfl rfl _ rfl evT
  obtain ⟨Rt, hRt, hRt0⟩ : ∃ Rt, assemble st' evT = Rt ∧ entriesOf Rt = [] := by
    rcases hevT with h | ⟨f, h⟩
    · subst h; exact ⟨[], rfl, rfl⟩
    · subst h; exact ⟨[RecEv.corrupt], rfl, rfl⟩
  rw [hRt] at hasm
  have hlive : liveJ gs = J.filter (fun j => decide (F ≤ j.loc)) := hmap
  -- the journal, split at the first tracked file
  obtain ⟨J1, J2, hJ, h1, h2⟩ := MRL.split_loc F J hmono
  subst hJ
  rw [MRL.filter_split_loc F J1 J2 h1 h2] at hlive
  have hlen2 : (liveOf gs).length = J2.length := by
    have := congrArg List.length hlive
    simpa [liveJ] using this
  have hJlen : (J1 ++ J2).length - (liveOf gs).length = J1.length := by
    rw [hlen2, List.length_append, Nat.add_sub_cancel]
  obtain ⟨L0, Lf, hw0, hrun, _, _⟩ := hR
  -- common end: from a target journal `T` with the same entries as the one delivered
  have hfinish : ∀ (T : List JE) (qsT : MemQueues), (∀ j ∈ T, j ∈ J2) → All2 (Rel F) Jd T →
      replayJ F [] T = some qsT →
      ∃ r, recover g W' policy order none = .ok r ∧ H.AbsEq qsT r.log.queues := by
    intro T qsT hTsub hrel hT
    obtain ⟨_, r1, hr1, _, hab⟩ := replay_delivered F R Rt Jd T hents hRt0 hrel
      (fun j hj => hwf j (List.mem_append_right _ (hTsub j hj))) (fun j hj => h2 j (hTsub j hj)) qsT hT
    obtain ⟨io, hrec⟩ := recoverPre_scanX g F cs' hne' hfull' x W' (by rw [hW', hlen']) policy _ e r1 hscan
      (by rw [hasm, hr1])
    obtain ⟨r, hr, hrq⟩ := recover_of_pre g W' policy order _ _ io hrec
    exact ⟨r, hr, by rw [hrq]; exact hab⟩
  have hskip : ∀ js', replayJ F [] (J1 ++ js') = replayJ F [] js' := by
    intro js'
    rw [replayJ_append, replayJ_skip F [] J1 h1]; rfl
  cases hh : hitGroup lead gs A1.length with
  | none =>
    rw [hh] at hcases
    simp only at hcases ⊢
    rw [hlive] at hcases
    obtain ⟨r, hr, hab⟩ := hfinish J2 qs (fun j hj => hj) hcases (by rw [← hskip]; exact hrep)
    refine ⟨r, hr, ?_⟩
    intro name q hq rc hrc
    obtain ⟨xq, hxq, hxe⟩ := hEq.symm.get_some hq
    obtain ⟨y, hy, hxy⟩ := hab.get_some hxq
    have hmem : (rc.pos, rc.payload) ∈ Rec.plain xq := by
      unfold Rec.plain; rw [← hxe.1]
      exact List.mem_map_of_mem (f := fun r : MRL.Rec => (r.pos, r.payload)) hrc
    exact ⟨y, hy, abs_mem hxy hmem⟩
  | some k =>
    rw [hh] at hcases
    simp only at hcases ⊢
    rw [hlive] at hcases
    obtain ⟨hsome, j, fs, hjk, hjfs, hafs⟩ := hcases
    obtain ⟨hk, _⟩ := List.getElem?_eq_some_iff.mp hjk
    have ha' : J1.length + k < (J1 ++ J2).length := by
      rw [List.length_append]; exact Nat.add_lt_add_left hk _
    have hers : (J1 ++ J2).eraseIdx (J1.length + k) = J1 ++ J2.eraseIdx k := by
      rw [List.eraseIdx_append_of_length_le (Nat.le_add_right _ _), Nat.add_sub_cancel_left]
    obtain ⟨qs', hq1, hq2⟩ := C09R.drop_core F (J1 ++ J2) L0 Lf qs lq hw0 hrun hmono hrep hEq _ ha'
    rw [hers, hskip] at hq1
    obtain ⟨r, hr, hab⟩ := hfinish (J2.eraseIdx k) qs' (fun j hj => List.mem_of_mem_eraseIdx hj) hsome hq1
    rw [hJlen]
    have hseg : SegOK (j, tfs fs) := (hok _ hjfs).1
    refine ⟨r, hr, ⟨j, fs, ?_, hjfs, hafs, hseg.payload, hseg.frames⟩, ?_⟩
    · rw [List.getElem?_append_right (Nat.le_add_right _ _), Nat.add_sub_cancel_left]; exact hjk
    · intro name q hq rc hrc hnot
      obtain ⟨q', hq', hm'⟩ := hq2 name q hq rc hrc (fun hrec => hnot ⟨ha', hrec⟩)
      obtain ⟨y, hy, hxy⟩ := hab.get_some hq'
      exact ⟨y, hy, abs_mem hxy hm'⟩

/-- `one_frame_tape` with the index forgotten: when nothing is lost any index out of range will do -/
theorem one_frame_tape_some (g : Geom) (hB : g.B ≤ 65542) {D : Image} {F : Nat} {J : List JE} {cs : List Bytes}
    {x : Bool} {ais lead : List AItm} {gs : List Grp} {res : Bytes} {z0 z1 : Nat}
    (hd : TapeD g D F J cs x ais lead gs res z0 z1)
    (hwf : ∀ j ∈ J, C07.WF j.e) (hmono : J.Pairwise (fun a b => a.loc ≤ b.loc)) (qs lq : MemQueues)
    (hrep : replayJ F [] J = some qs) (hEq : QsEquiv qs lq) (hR : RunOK J lq)
    (A1 : List AItm) (a : AItm) (A2 : List AItm) (hsplit : ais = A1 ++ a :: A2) (ha : a.2 = none)
    (crc' p' : Bytes) (h4 : crc'.length = 4) (hp : p'.length = a.1.2.2.length)
    (hdet : frameCrc a.1.2.1 p' ≠ leNat crc') (W' : Image) (hshape : SameShape D W')
    (hS' : streamOf W' = flatJ g 0 (A1 ++ damaged a crc' p' :: A2) ++ zeros z0 ++ res ++ zeros z1)
    (policy : Policy) (order : List Bytes) :
    ∃ r idx, recover g W' policy order none = .ok r ∧
      ∀ name q, lq.get? name = some q → ∀ rc ∈ q.recs, ¬ C09V.RecordOfIdx J idx name rc →
        ∃ q', r.log.queues.get? name = some q' ∧ ∃ r' ∈ q'.recs, r'.pos = rc.pos ∧ r'.payload = rc.payload := by
  obtain ⟨r, hr, hm⟩ := one_frame_tape g hB hd hwf hmono qs lq hrep hEq hR A1 a A2 hsplit ha crc' p' h4 hp hdet W'
    hshape hS' policy order
  cases hh : hitGroup lead gs A1.length with
  | none =>
    rw [hh] at hm
    exact ⟨r, J.length, hr, fun name q hq rc hrc _ => hm name q hq rc hrc⟩
  | some k =>
    rw [hh] at hm
    exact ⟨r, _, hr, hm.2⟩

theorem C09_drop_one_crash (g : Geom) (hB : g.B ≤ 65542) (cap : Nat) (l : Log) (img : Image) (b : BufSt)
    (W : List Entry) (h : C02W.ReachXW g cap l img b W) :
    ∃ J : List JE, L.CInvX g l J (C02U.flushDisk img b) ∧ (∀ j ∈ J, C07.WF j.e) ∧ (∀ j ∈ J, j.e ∈ W) ∧
      ∀ (a : Nat) (ha : a < J.length),
        ∃ qs', replayJ (l.files.headD 0) [] (J.eraseIdx a) = some qs' ∧
          ∀ name q, l.queues.get? name = some q → ∀ r ∈ q.recs, ¬ C09R.RecordOf (J[a]) name r →
            ∃ q', qs'.get? name = some q' ∧ ∃ r' ∈ q'.recs, r'.pos = r.pos ∧ r'.payload = r.payload := by
  obtain ⟨J, hc, hw, hJW, hR⟩ := reachXR_journal g hB cap h
  refine ⟨J, hc, hw, hJW, ?_⟩
  intro a ha
  obtain ⟨hH, chunk, qs, hrep, heq, hqwf⟩ := hc.jinv
  obtain ⟨L0, Lf, hw0, hrun, _, _⟩ := hR
  obtain ⟨qs', hq1, hq2⟩ := C09R.drop_core _ J L0 Lf qs l.queues hw0 hrun chunk.mono hrep heq a ha
  refine ⟨qs', hq1, ?_⟩
  intro name q hq r hr hnot
  obtain ⟨q', hq', hm⟩ := hq2 name q hq r hr hnot
  unfold Rec.plain at hm
  obtain ⟨r', hr', he⟩ := List.mem_map.mp hm
  simp only [Prod.mk.injEq] at he
  exact ⟨q', hq', r', hr', he.1, he.2⟩

theorem C09_crash_one_frame (g : Geom) (hB : g.B ≤ 65542) (cap : Nat) (l : Log) (img : Image) (b : BufSt)
    (W : List Entry) (h : C02W.ReachXW g cap l img b W) :
    ∃ (J : List JE) (ais : List AItm) (z0 : Nat) (res : Bytes) (z1 : Nat),
      L.CInvX g l J (C02U.flushDisk img b) ∧ (∀ j ∈ J, C07.WF j.e) ∧ (∀ j ∈ J, j.e ∈ W) ∧
      streamOf (C02U.flushDisk img b) = flatJ g 0 ais ++ zeros z0 ++ res ++ zeros z1 ∧ Fits g 0 (frs ais) ∧
      ∀ A1 a A2, ais = A1 ++ a :: A2 → a.2 = none →
      ∀ crc' p' : Bytes, crc'.length = 4 → p'.length = a.1.2.2.length → frameCrc a.1.2.1 p' ≠ leNat crc' →
      ∀ W', SameShape (C02U.flushDisk img b) W' →
        streamOf W' = flatJ g 0 (A1 ++ damaged a crc' p' :: A2) ++ zeros z0 ++ res ++ zeros z1 →
      ∀ (policy : Policy) (order : List Bytes),
        ∃ r idx, recover g W' policy order none = .ok r ∧
          ∀ name q, l.queues.get? name = some q → ∀ rc ∈ q.recs, ¬ C09V.RecordOfIdx J idx name rc →
            ∃ q', r.log.queues.get? name = some q' ∧ ∃ r' ∈ q'.recs, r'.pos = rc.pos ∧ r'.payload = rc.payload := by
  obtain ⟨J, hc, hw, hJW, hR⟩ := reachXR_journal g hB cap h
  obtain ⟨hH, chunk, qs, hrep, heq, hqwf⟩ := hc.jinv
  obtain ⟨cs, x, ais, lead, gs, res, z0, z1, hd⟩ := hc.tapeD
  exact ⟨J, ais, z0, res, z1, hc, hw, hJW, hd.stream, hd.fits,
    fun A1 a A2 hs ha crc' p' h4 hp hdet W' hshape hS' policy order =>
      one_frame_tape_some g hB hd hw chunk.mono qs l.queues hrep heq hR A1 a A2 hs ha crc' p' h4 hp hdet W' hshape hS'
        policy order⟩

theorem C09_crash_one_frame_reachX (g : Geom) (hB : g.B ≤ 65542) (cap : Nat) (l : Log) (img : Image) (b : BufSt)
    (h : C02U.ReachX g cap l img b) :
    ∃ (J : List JE) (ais : List AItm) (z0 : Nat) (res : Bytes) (z1 : Nat),
      L.CInvX g l J (C02U.flushDisk img b) ∧ (∀ j ∈ J, C07.WF j.e) ∧
      streamOf (C02U.flushDisk img b) = flatJ g 0 ais ++ zeros z0 ++ res ++ zeros z1 ∧ Fits g 0 (frs ais) ∧
      ∀ A1 a A2, ais = A1 ++ a :: A2 → a.2 = none →
      ∀ crc' p' : Bytes, crc'.length = 4 → p'.length = a.1.2.2.length → frameCrc a.1.2.1 p' ≠ leNat crc' →
      ∀ W', SameShape (C02U.flushDisk img b) W' →
        streamOf W' = flatJ g 0 (A1 ++ damaged a crc' p' :: A2) ++ zeros z0 ++ res ++ zeros z1 →
      ∀ (policy : Policy) (order : List Bytes),
        ∃ r idx, recover g W' policy order none = .ok r ∧
          ∀ name q, l.queues.get? name = some q → ∀ rc ∈ q.recs, ¬ C09V.RecordOfIdx J idx name rc →
            ∃ q', r.log.queues.get? name = some q' ∧ ∃ r' ∈ q'.recs, r'.pos = rc.pos ∧ r'.payload = rc.payload := by
  obtain ⟨W, hW⟩ := C02W.ReachXW.ofReachX h
  obtain ⟨J, ais, z0, res, z1, a1, a2, _, a4, a5, a6⟩ := C09_crash_one_frame g hB cap l img b W hW
  exact ⟨J, ais, z0, res, z1, a1, a2, a4, a5, a6⟩

end MRL.C09X
