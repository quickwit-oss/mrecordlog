/-
C09 (replay level) — losing ONE entry of the WAL costs at most that entry: `open` still succeeds,
and every retained record whose append was not the lost entry is recovered intact.
`C09.C09_one_frame` (byte level) shows that damage confined to the checksum/payload bytes of one
frame makes the reader deliver the entries with exactly one erased. Here: for every reachable
state `(l, J)` of the log and its journal (`C01J.Reach`) and every index `a`, replaying the
journal with entry `a` erased, from the first tracked file, never fails (no later append becomes
`Past`) and gives every live queue every record that the erased entry did not append.

The simulation relation is `Drop.T` (`Proofs/DropSim`). The property depends on one detail of the code:
a queue that only the damaged replay has (erased `delete`) does not exist in the live state, so the
next entry on it can only be its re-creation `touch name 0`, whose `ack_position` RESETS the stale
queue (`!is_empty() || next != next_position`). It also uses the discipline of API-generated journals
(`Drop.OkEntry`): appends and truncates address existing queues, a touch is a creation of a missing
queue or a GC touch of an empty one at its next position.
-/
import MRL.Proofs.DropSim
import MRL.Props.C01Journal
import MRL.Proofs.GenStream
import MRL.Props.C09

namespace MRL.C09R

/-- `r` (of queue `name`) was appended by journal entry `j` -/
def RecordOf (j : JE) (name : Bytes) (r : MRL.Rec) : Prop :=
  ∃ p recs, j.e = Entry.append name p recs ∧ (r.pos, r.payload) ∈ recs

end MRL.C09R

namespace MRL.C09V

/-- record `r` of queue `name` was appended by journal entry number `a` -/
def RecordOfIdx (J : List JE) (a : Nat) (name : Bytes) (r : MRL.Rec) : Prop :=
  ∃ ha : a < J.length, C09R.RecordOf (J[a]) name r

end MRL.C09V

namespace MRL.C09R
open Rec Drop

theorem inv3_nil (Er : List (Nat × Bytes)) (nx : Bytes) (L : MemQueues) (hw : QsWF L) : Inv3 Er nx L [] [] :=
  ⟨hw, QsWF.nil, QsWF.nil, fun _ => ⟨trivial, trivial⟩⟩

theorem mem_erasedOf {x : JE} {name : Bytes} {r : MRL.Rec}
    (h : (r.pos, r.payload) ∈ (if name = x.e.queue then erasedOf x.e else [])) : RecordOf x name r := by
  split at h
  · rename_i hn
    cases he : x.e with
    | append q p recs =>
      rw [he] at h hn
      simp only [Entry.queue] at hn
      subst hn
      exact ⟨p, recs, he, h⟩
    | truncate q p => rw [he] at h; cases h
    | touch q p => rw [he] at h; cases h
    | delete q p => rw [he] at h; cases h
  · cases h

/-- **the drop-one simulation**, from a run of the whole journal `P ++ x :: S` (from any well-formed
    start `L0`: the queues as they were when the oldest entry was written) and the intact replay from
    the first tracked file `F`. The erased entry `x` is either in a deleted file (nothing changes) or
    replayed: then `Drop.Inv3` relates the intact and the damaged replay before, at and after it. -/
theorem drop_split (F : Nat) (P S : List JE) (x : JE) (L0 Lf qsA lq : MemQueues) (hw0 : QsWF L0)
    (hrun : Run L0 (P ++ x :: S) Lf) (hmono : (P ++ x :: S).Pairwise (fun a b => a.loc ≤ b.loc))
    (hA : replayJ F [] (P ++ x :: S) = some qsA) (hEq : QsEquiv qsA lq) :
    ∃ qs', replayJ F [] (P ++ S) = some qs' ∧
      ∀ name q, lq.get? name = some q →
        ∀ r ∈ q.recs, ¬ RecordOf x name r →
          ∃ q', qs'.get? name = some q' ∧ (r.pos, r.payload) ∈ plain q' := by
  have hplain : ∀ {name q} {r : MRL.Rec}, lq.get? name = some q → r ∈ q.recs →
      ∃ xq, qsA.get? name = some xq ∧ (r.pos, r.payload) ∈ plain xq := by
    intro name q r hq hr
    obtain ⟨xq, hxq, hxe⟩ := hEq.symm.get_some hq
    refine ⟨xq, hxq, ?_⟩
    unfold plain; rw [← hxe.1]
    exact List.mem_map_of_mem (f := fun r : MRL.Rec => (r.pos, r.payload)) hr
  by_cases hx : x.loc < F
  · -- the erased entry lies in a deleted file: both replays skip it
    refine ⟨qsA, ?_, fun name q hq r hr _ => hplain hq hr⟩
    rw [← hA, replayJ_eq, replayJ_eq, viewJ_append, viewJ_append, show x :: S = [x] ++ S from rfl, viewJ_append,
      viewJ_skip F [x] (fun j hj => by rw [List.mem_singleton.mp hj]; exact hx), List.nil_append]
  have h2x : F ≤ x.loc := Nat.le_of_not_lt hx
  obtain ⟨hmP, hmxS, hPx⟩ := List.pairwise_append.mp hmono
  have h2S : ∀ j ∈ S, F ≤ j.loc := fun j hj => Nat.le_trans h2x ((List.pairwise_cons.mp hmxS).1 j hj)
  obtain ⟨J1, P2, rfl, h1, h2P⟩ := split_loc F P hmP
  have hskip : ∀ js', replayJ F [] (J1 ++ js') = replayJ F [] js' := by
    intro js'
    rw [replayJ_append, replayJ_skip F [] J1 h1]; rfl
  rw [List.append_assoc] at hrun hA ⊢
  obtain ⟨Lk, hr1, hr2⟩ := Run.split (c := Lf) J1 _ hrun
  obtain ⟨L1, hrP, hrxS⟩ := Run.split (c := Lf) P2 (x :: S) hr2
  cases hrxS with
  | @cons _ L2 _ _ _ hok hrx hrS =>
    obtain ⟨A1, B1, hA1, hB1, hI1⟩ := inv3_run (F := F) hrP h2P (inv3_nil (erasedOf x.e) x.e.queue Lk (hr1.wf hw0))
    have hAB : B1 = A1 := by rw [hA1] at hB1; exact (Option.some.inj hB1).symm
    subst hAB
    obtain ⟨A2, hA2, hI2⟩ := inv3_erase (fA := max x.attr F) hok hrx hI1
    obtain ⟨A3, B3, hA3, hB3, hI3⟩ := inv3_run (F := F) hrS h2S hI2
    have hAfull : replayJ F [] (J1 ++ (P2 ++ x :: S)) = some A3 := by
      rw [hskip, replayJ_append, hA1]
      simp only [Option.bind_some]
      rw [replayJ_cons_ge F B1 x S h2x, hA2]
      exact hA3
    rw [hA] at hAfull
    cases hAfull
    refine ⟨B3, by rw [hskip, replayJ_append, hA1]; exact hB3, ?_⟩
    intro name q hq r hr hnot
    obtain ⟨xq, hxq, hmem⟩ := hplain hq hr
    have hT := hI3.2.2.2 name
    rw [hxq] at hT
    have hnotEr : (r.pos, r.payload) ∉ (if name = x.e.queue then erasedOf x.e else []) :=
      fun hin => hnot (mem_erasedOf hin)
    cases hB : B3.get? name with
    | none => rw [hB] at hT; exact absurd (hT.2 _ hmem) hnotEr
    | some y => rw [hB] at hT; exact ⟨y, rfl, hT.2.2 _ hmem hnotEr⟩

theorem drop_core (F : Nat) (J : List JE) (L0 Lf qsA lq : MemQueues) (hw0 : QsWF L0) (hrun : Run L0 J Lf)
    (hmono : J.Pairwise (fun a b => a.loc ≤ b.loc)) (hA : replayJ F [] J = some qsA) (hEq : QsEquiv qsA lq)
    (a : Nat) (ha : a < J.length) :
    ∃ qs', replayJ F [] (J.eraseIdx a) = some qs' ∧
      ∀ name q, lq.get? name = some q →
        ∀ r ∈ q.recs, ¬ RecordOf (J[a]) name r →
          ∃ q', qs'.get? name = some q' ∧ (r.pos, r.payload) ∈ plain q' := by
  have hJ : J = J.take a ++ J[a] :: J.drop (a + 1) := by
    rw [← List.drop_eq_getElem_cons ha, List.take_append_drop]
  rw [List.eraseIdx_eq_take_drop_succ]
  rw [hJ] at hrun hmono hA
  exact drop_split F _ _ _ L0 Lf qsA lq hw0 hrun hmono hA hEq

theorem _root_.MRL.Drop.reach_run (g : Geom) {l : Log} {J : List JE} (h : C01J.Reach g l J) : Run [] J l.queues := by
  induction h with
  | init policy => exact Run.nil
  | @step l J c tick order hreach ih =>
    exact ih.append (run_step g l (C01J.reach_jinv g hreach).h.inv c tick order)

/-- **C09 (replay level).** Erase any one entry of the journal of a reachable state: the replay of the
    rest from the first tracked file succeeds, and every record of a live queue that the erased entry did
    not append is recovered with its position and payload. -/
theorem C09_drop_one (g : Geom) (l : Log) (J : List JE) (h : C01J.Reach g l J) (a : Nat) (ha : a < J.length) :
    let F := l.files.headD 0
    ∃ qs', replayJ F [] (J.eraseIdx a) = some qs' ∧
      ∀ name q, l.queues.get? name = some q →
        ∀ r ∈ q.recs, ¬ RecordOf (J[a]) name r →
          ∃ q', qs'.get? name = some q' ∧ ∃ r' ∈ q'.recs, r'.pos = r.pos ∧ r'.payload = r.payload := by
  intro F
  obtain ⟨qsA, hA, hEq⟩ := C01J.C01_journal g l J h
  obtain ⟨qs', h1, h2⟩ := drop_core F J [] l.queues qsA l.queues QsWF.nil (reach_run g h)
    (C01J.reach_jinv g h).chunk.mono hA hEq a ha
  refine ⟨qs', h1, fun name q hq r hr hnot => ?_⟩
  obtain ⟨q', hq', hm⟩ := h2 name q hq r hr hnot
  obtain ⟨r', hr', he⟩ := List.mem_map.mp hm
  simp only [Prod.mk.injEq] at he
  exact ⟨q', hq', r', hr', he.1, he.2⟩

/-- the theorem applies to every history (`C01J.run`: log and journal after a list of calls) -/
theorem C09_drop_one_run (g : Geom) (policy : Policy) (cs : List (Call × Bool × List Bytes)) (a : Nat) :
    let r := C01J.run g { files := [0], cur := 0, off := 0, queues := [], policy := policy } [] cs
    ∀ ha : a < r.2.length,
    ∃ qs', replayJ (r.1.files.headD 0) [] (r.2.eraseIdx a) = some qs' ∧
      ∀ name q, r.1.queues.get? name = some q →
        ∀ rc ∈ q.recs, ¬ RecordOf (r.2[a]) name rc →
          ∃ q', qs'.get? name = some q' ∧ ∃ r' ∈ q'.recs, r'.pos = rc.pos ∧ r'.payload = rc.payload := by
  intro r ha
  exact C09_drop_one g r.1 r.2 (C01J.reach_run g cs _ _ (C01J.Reach.init policy)) a ha

/-! ### illustration on the journal `C01J.exJ` (a real history, see there)

`[touch [1] 0, touch [2] 0, append [1] 0 [(0,[9])], append [1] 1 [(1,[8])], truncate [1] 0,
touch [2] 0]`, live queues `[1] ↦ {1 ↦ [8]}`, `[2] ↦ ∅`. Erasing the creation of `[1]`, its first
append, its truncate (one more record retained), or the second append (its own record lost, the
others kept): the replay succeeds each time. -/
example :
    (replayJ 0 [] (C01J.exJ.eraseIdx 0)).map (fun qs => (qs.get? [1]).map plain) = some (some [(1, [8])]) ∧
    (replayJ 0 [] (C01J.exJ.eraseIdx 2)).map (fun qs => (qs.get? [1]).map plain) = some (some [(1, [8])]) ∧
    (replayJ 0 [] (C01J.exJ.eraseIdx 4)).map (fun qs => (qs.get? [1]).map plain) = some (some [(0, [9]), (1, [8])]) ∧
    (replayJ 0 [] (C01J.exJ.eraseIdx 3)).map (fun qs => (qs.get? [1]).map plain) = some (some []) := by
  refine ⟨by decide, by decide, by decide, by decide⟩

/-! ### end to end, single file

A journal whose entries are all located in and attributed to file 0 (no roll-over yet), written
from cursor 0: the clean content of the file is the stream of `C07`/`C09` for the encoded entries.
Damage the checksum/payload bytes of one frame (detected, `hdet`): the reader delivers all entries
but one (`C09.C09_one_frame`), they decode back (`C07.decode_encode`), the replay is that of the
journal with that entry erased, and `C09_drop_one` applies. (That the bytes on disk ARE this
stream is the business of the disk layer; here the stream is defined from the journal.) -/

theorem map_eraseIdx {α β : Type} (f : α → β) : ∀ (l : List α) (i : Nat),
    (l.map f).eraseIdx i = (l.eraseIdx i).map f := by
  intro l
  induction l with
  | nil => intro i; rfl
  | cons x l ih =>
    intro i
    cases i with
    | zero => rfl
    | succ i => simp only [List.map_cons, List.eraseIdx_cons_succ, ih]

theorem replayJ_zero (js : List JE) (h : ∀ j ∈ js, j.attr = 0) (qs : MemQueues) :
    replayJ 0 qs js = replayEntries qs (js.map fun j => (0, j.e)) := by
  rw [replayJ_ge 0 js qs fun _ _ => Nat.zero_le _]
  congr 1
  exact List.map_congr_left fun j hj => by rw [h j hj]; rfl

theorem C09_end_to_end (g : Geom) (hB : g.B ≤ 65542) (l : Log) (J : List JE) (h : C01J.Reach g l J)
    (hfile : ∀ j ∈ J, j.attr = 0) (hF : l.files.headD 0 = 0) (hwf : ∀ j ∈ J, C07.WF j.e)
    (z : Nat) (hz : 7 ≤ z) (fs1 : List Codec.Frm) (t : FrameType) (p : Bytes) (fs2 : List Codec.Frm)
    (hfs : Torn.framesOf g 0 (Torn.Bpos g) (J.map fun j => j.e.encode) = fs1 ++ (t, p) :: fs2)
    (crc' p' : Bytes) (h4 : crc'.length = 4) (hp : p'.length = p.length) (hdet : frameCrc t p' ≠ leNat crc') :
    let stream' := zeros 0 ++ (C09.damagedBufs g 0 fs1 t fs2 crc' p').flatten ++ zeros z
    stream'.length % g.B = 0 →
    ∃ (a : Nat) (ha : a < J.length) (b0 : Blk) (rest : List Blk) (evs : List RdEv) (e : EndPos) (io : Nat)
      (qs' : MemQueues),
      fileBlocks g 0 stream' 1 0 (stream'.length / g.B) = b0 :: rest ∧
      scanBlocks g none 1 0 b0 0 rest = some (evs, e, io) ∧
      replay [] (assemble { within := false, buf := [], attr := 0 } evs) = some qs' ∧
      ∀ name q, l.queues.get? name = some q →
        ∀ r ∈ q.recs, ¬ RecordOf (J[a]) name r →
          ∃ q', qs'.get? name = some q' ∧ ∃ r' ∈ q'.recs, r'.pos = r.pos ∧ r'.payload = r.payload := by
  intro stream' hmod
  obtain ⟨a, ha, _, _, b0, rest, evs, e, io, h1, h2, h3, _, _⟩ :=
    C09.C09_one_frame g hB 0 (Torn.Bpos g) (J.map fun j => j.e.encode) 0 z hz fs1 t p fs2 hfs crc' p' h4 hp hdet hmod
  have ha' : a < J.length := by simpa using ha
  obtain ⟨qs', hq1, hq2⟩ := C09_drop_one g l J h a ha'
  rw [hF] at hq1
  refine ⟨a, ha', b0, rest, evs, e, io, qs', h1, h2, ?_, hq2⟩
  rw [replay_eq, ← Gen.decoded_entriesOf, show Torn.entriesOf _ = _ from h3]
  have hmap : ((J.map fun j => j.e.encode).eraseIdx a).map (RecEv.entry 0) =
      ((J.eraseIdx a).map (·.e)).map (fun en => RecEv.entry 0 en.encode) := by
    rw [map_eraseIdx]; simp
  rw [hmap, Gen.decoded_encoded 0 _ (fun en hen => by
    obtain ⟨j, hj, rfl⟩ := List.mem_map.mp hen
    exact C07.decode_encode j.e (hwf j (List.mem_of_mem_eraseIdx hj)))]
  rw [replayJ_zero _ (fun j hj => hfile j (List.mem_of_mem_eraseIdx hj))] at hq1
  simpa [Function.comp_def] using hq1

end MRL.C09R
