/-
C02 (model level): the recovered log is fully usable — further operations and restarts behave
exactly as on a log that never crashed, after a crash at EVERY point (k, cut) of every call and of
`open` itself, any number of times.

* `CInvX` (`MRL/Proofs/LInv.lean`) is the invariant of (log, journal, flushed disk) triples that holds
  after every crash point: `JInv l J` for SOME journal `J`, and on disk the tracked files `F … cur`,
  full-size, hold the bytes of a list of ITEMS followed by zeros; the next file may already exist, empty.
  An item is a frame as written or junk: a complete slot whose checksum fails (a torn payload with intact
  header: one `corrupt` event, the reader goes on after the slot) or a torn header (1–6 bytes, not all
  zero, zeros to the end of the block: one `corrupt` event, the rest of the block is given up). A residue
  of at most 6 junk bytes may stand where the writer stands, in the very last block (the reader stops in
  front of it; the next frame overwrites it). The items are lead frames followed by groups: live (the
  frames of a retained journal entry), dead (a proper prefix of the frames of an entry that was never
  finished) and junk (one junk slot). Nothing relates the handles on disk and in memory: everything is
  up to `AbsEq`.
* `ReachX`: `ReachD` states, closed under `step`, `reopen`, crash-recovery of a call at any crash
  point (`crash`), crash-recovery during the effects of `open` itself (`crash2`). Every `ReachX` state
  satisfies `CInvX` for some serialisable journal (`reachX_inv`); the CRC collision clause `TornStep` is
  used where a cut write is classified (`L.CutCtx.classify`).
* the three clauses of the property, on every `ReachX` state: (a) `C02_usable_restart`,
  (b) `C02_usable_crash_atomic` and (b′) `C02_usable_second_crash` — the three ways a process stops
  (`L.Stop`), one statement `usable_stop` —, (c) `C02_usable_refines`;
  `C02_usable`: the recovered log behaves as the log `lref ∈ {l, l after the call}` that never crashed,
  for any further calls whatever the tick / GC-order oracles on either side. The recovered state is
  `ReachX` again (`C02_usable_reach_all`).

How the statements read. (1) the journal of a recovered state is not `J` / `J ++ l.stepJ g c order
(++ gcJ)`: it is that journal restricted to the entries at or after the first remaining file, with the
attributions the READER makes (they can differ from the writer's when an entry spans a whole file,
after a roll-over into a pre-created file, or after a `corrupt` slot: this is why C02 is stated up to
the file handles); it exists (`∃ J'`), is serialisable, and replays to the recovered queues exactly.
(2) (a)/(b) are stated with `AbsEq`. (3) the hypotheses are those of `C02_crash_atomic`:
`g.B ≤ 65542` (a payload fits the u16 length field: 65535 + `HEADER_LEN`), serialisable entries
(`C07.WF`), the CRC collision clause for the frames of the call being interrupted (`TornStep`, resp.
`TornEffs` for `open`), a call boundary with an empty `BufWriter` (`b.pend = []`).
-/
import MRL.Props.C01Restart
import MRL.Proofs.LCrash
import MRL.Proofs.LSim
import MRL.Props.C08

namespace MRL.C02A
open Log G H Buf

/-- the collision clause for the frames written by the call -/
def TornStep (g : Geom) (l : Log) (c : Call) (tick : Bool) (order : List Bytes) : Prop :=
  TornEffs (l.step g c tick order).2.2

/-- equality of queue maps up to the file handles -/
abbrev AbsEq := H.AbsEq

/-- `G.flushDisk_of_empty` for `C01R.flushDisk` (and `C02U.flushDisk_of_empty` below for `C02U.flushDisk`): `rw`
    finds its pattern by head symbol and does not unfold the abbreviation -/
theorem flushDisk_of_empty (img : Image) (b : BufSt) (hb : b.pend = []) : C01R.flushDisk img b = img :=
  G.flushDisk_of_empty img b hb

end MRL.C02A

namespace MRL.C02U
open Log C05 C01J G H L Buf Codec

abbrev flushDisk (img : Image) (b : BufSt) : Image := C01R.flushDisk img b
abbrev CInvX := @L.CInvX
abbrev AbsEq := H.AbsEq

/-- `X` is the image after a whole number of the effects (no write is cut) -/
def AtBoundary (img : Image) (effs : List Effect) (X : Image) : Prop :=
  ∃ n, X = applyOsOps img (directOps (effs.take n))

/-- states reachable with crashes: (log, OS image, `BufWriter` state) -/
inductive ReachX (g : Geom) (cap : Nat) : Log → Image → BufSt → Prop
  | base {l : Log} {J : List JE} {img : Image} {b : BufSt} :
      C01R.ReachD g cap l J img b → (∀ j ∈ J, C07.WF j.e) → ReachX g cap l img b
  | step {l : Log} {img : Image} {b : BufSt} (c : Call) (tick : Bool) (order : List Bytes) :
      ReachX g cap l img b → (∀ j ∈ l.stepJ g c order, C07.WF j.e) →
      ReachX g cap (l.step g c tick order).1
        (applyOsOps img (toOsOps cap b (l.step g c tick order).2.2).2)
        (toOsOps cap b (l.step g c tick order).2.2).1
  | reopen {l : Log} {img : Image} {b : BufSt} (policy : Policy) (order : List Bytes)
      (lp : Log) (e0 : List Effect) (io : Nat) (r : Recovered) :
      ReachX g cap l img b →
      recoverPre g (flushDisk img b) policy none = .ok (lp, e0, io) →
      recover g (flushDisk img b) policy order none = .ok r →
      (∀ j ∈ lp.gcJ g order, C07.WF j.e) →
      ReachX g cap r.log (applyOsOps (flushDisk img b) (toOsOps cap {} r.effects).2) (toOsOps cap {} r.effects).1
  | crash {l : Log} {img : Image} {b : BufSt} (c : Call) (tick : Bool) (order : List Bytes) (k cut : Nat)
      (X : Image) (policy' : Policy) (order' : List Bytes) (lp : Log) (e0 : List Effect) (io : Nat)
      (r : Recovered) :
      ReachX g cap l img b → b.pend = [] →
      (∀ j ∈ l.stepJ g c order, C07.WF j.e) → C02A.TornStep g l c tick order →
      X = crashImage img (toOsOps cap b (l.step g c tick order).2.2).2 k cut →
      recoverPre g X policy' none = .ok (lp, e0, io) →
      recover g X policy' order' none = .ok r →
      (∀ j ∈ lp.gcJ g order', C07.WF j.e) →
      ReachX g cap r.log (applyOsOps X (toOsOps cap {} r.effects).2) (toOsOps cap {} r.effects).1
  | crash2 {l : Log} {img : Image} {b : BufSt} (policy : Policy) (order : List Bytes) (lp0 : Log)
      (e00 : List Effect) (io0 : Nat) (r0 : Recovered) (k cut : Nat) (X : Image) (policy' : Policy)
      (order' : List Bytes) (lp : Log) (e0 : List Effect) (io : Nat) (r : Recovered) :
      ReachX g cap l img b →
      recoverPre g (flushDisk img b) policy none = .ok (lp0, e00, io0) →
      recover g (flushDisk img b) policy order none = .ok r0 →
      (∀ j ∈ lp0.gcJ g order, C07.WF j.e) → TornEffs r0.effects →
      X = crashImage (flushDisk img b) (toOsOps cap {} r0.effects).2 k cut →
      recoverPre g X policy' none = .ok (lp, e0, io) →
      recover g X policy' order' none = .ok r →
      (∀ j ∈ lp.gcJ g order', C07.WF j.e) →
      ReachX g cap r.log (applyOsOps X (toOsOps cap {} r.effects).2) (toOsOps cap {} r.effects).1

structure XRInv (g : Geom) (cap : Nat) (l : Log) (img : Image) (b : BufSt) : Prop where
  inv : ∃ J, CInvX g l J (flushDisk img b) ∧ ∀ j ∈ J, C07.WF j.e
  buf : BufOK cap l b

/-- it is `L.XRInvQ` for "every entry is serialisable" -/
theorem XRInv.toQ {g : Geom} {cap : Nat} {l : Log} {img : Image} {b : BufSt} (h : XRInv g cap l img b) :
    XRInvQ g cap (fun J _ => ∀ j ∈ J, C07.WF j.e) l img b := ⟨h.inv, h.buf⟩

theorem cinvx_step (g : Geom) {l : Log} {J : List JE} {D : Image} (h : CInvX g l J D) (c : Call)
    (tick : Bool) (order : List Bytes) :
    CInvX g (l.step g c tick order).1 (J ++ l.stepJ g c order)
      (applyOsOps D (directOps (l.step g c tick order).2.2)) := L.cinvx_step g h c tick order

/-- `open` on a relaxed disk: the recovered log satisfies the relaxed invariant on the same disk,
    for a serialisable journal `J'`, and has the same abstract state -/
theorem cinvx_reopen (g : Geom) (hB : g.B ≤ 65542) {l : Log} {J : List JE} {D : Image} (h : CInvX g l J D)
    (hwf : ∀ j ∈ J, C07.WF j.e) (policy : Policy) :
    ∃ (J' : List JE) (lp : Log) (io : Nat),
      recoverPre g D policy none = .ok (lp, [.ensureLen (l.files.headD 0) g.fileBytes], io) ∧
      CInvX g lp J' D ∧ (∀ j ∈ J', C07.WF j.e) ∧ AbsEq lp.queues l.queues ∧ lp.policy = policy := by
  obtain ⟨J', lp, io, h1, h2, h3, h4, h5, _⟩ := open_okX g hB h hwf policy
  exact ⟨J', lp, io, h1, h2, h3, h4, h5⟩

theorem flushDisk_of_empty (img : Image) (b : BufSt) (hb : b.pend = []) : flushDisk img b = img :=
  C02A.flushDisk_of_empty img b hb

/-- one more call keeps the invariant (`Carry.inv_step`); the three constructors that end with an `open` run it on
    the image a process left (`L.Stop`: at a restart, after a crash in a call, after a crash in `open`), where
    `Carry.stop` and `Carry.inv_of_xinvres` apply -/
theorem reachX_inv (g : Geom) (hB : g.B ≤ 65542) (cap : Nat) {l : Log} {img : Image} {b : BufSt}
    (h : ReachX g cap l img b) : XRInv g cap l img b := by
  suffices h : XRInvQ g cap (fun J _ => ∀ j ∈ J, C07.WF j.e) l img b from ⟨h.inv, h.buf⟩
  induction h with
  | base hr hwf =>
    have := C01R.reach_rinv g hB cap hr hwf
    exact ⟨⟨_, CInvX.of_cinv this.c, hwf⟩, this.buf⟩
  | step c tick order _ hwf ih => exact Carry.wfOnly.inv_step g cap ih c tick order hwf
  | reopen policy order lp e0 io r _ hpre hrec hgw ih =>
    exact (Carry.wfOnly.inv_of_xinvres g cap (Carry.wfOnly.stop g cap hB ih .clean) policy order lp e0 io r hpre hrec
      hgw).1
  | crash c tick order k cut X policy' order' lp e0 io r _ hb hwf htorn hXeq hpre hrec hgw ih =>
    subst hXeq
    exact (Carry.wfOnly.inv_of_xinvres g cap (Carry.wfOnly.stop g cap hB ih (.call c tick order k cut hb hwf htorn))
      policy' order' lp e0 io r hpre hrec hgw).1
  | crash2 policy order lp0 e00 io0 r0 k cut X policy' order' lp e0 io r _ hpre0 hrec0 hgw0 htorn hXeq hpre hrec hgw
      ih =>
    subst hXeq
    exact (Carry.wfOnly.inv_of_xinvres g cap
      (Carry.wfOnly.stop g cap hB ih (.opened policy order lp0 e00 io0 r0 k cut hpre0 hrec0 hgw0 htorn))
      policy' order' lp e0 io r hpre hrec hgw).1

/-- on the image a process running on a `ReachX` state leaves, `open` succeeds with the relaxed invariant and
    the abstract state of `l` or of `lA` -/
theorem stop_res (g : Geom) (hB : g.B ≤ 65542) (cap : Nat) {l lA : Log} {img X : Image} {b : BufSt}
    (h : ReachX g cap l img b) (hs : Stop g cap C07.WF l img b lA X) : XInvRes g l.queues lA.queues X :=
  Carry.wfOnly.stop g cap hB (reachX_inv g hB cap h).toQ hs

/-- (a), (b), (b′) below in one statement -/
theorem usable_stop (g : Geom) (hB : g.B ≤ 65542) (cap : Nat) {l lA : Log} {img X : Image} {b : BufSt}
    (h : ReachX g cap l img b) (hs : Stop g cap C07.WF l img b lA X) (policy : Policy) (order : List Bytes) :
    ∃ r, recover g X policy order none = .ok r ∧
      (AbsEq r.log.queues l.queues ∨ AbsEq r.log.queues lA.queues) := by
  obtain ⟨lp, e0, io, hrec, hq⟩ := (stop_res g hB cap h hs).xres policy
  obtain ⟨r, hr, hrq⟩ := recover_of_pre g _ policy order lp e0 io hrec
  exact ⟨r, hr, by rw [hrq]; exact hq⟩

theorem reachX_boundary (g : Geom) (hB : g.B ≤ 65542) (cap : Nat) {l : Log} {img : Image} {b : BufSt}
    (h : ReachX g cap l img b) (hb : b.pend = []) : ∃ J, CInvX g l J img ∧ ∀ j ∈ J, C07.WF j.e := by
  obtain ⟨⟨J, hc, hw⟩, _⟩ := reachX_inv g hB cap h
  rw [flushDisk_of_empty img b hb] at hc
  exact ⟨J, hc, hw⟩

/-- **(a) restarts** reproduce the abstract state -/
theorem C02_usable_restart (g : Geom) (hB : g.B ≤ 65542) (cap : Nat) (l : Log) (img : Image) (b : BufSt)
    (h : ReachX g cap l img b) (policy : Policy) (order : List Bytes) :
    ∃ r, recover g (flushDisk img b) policy order none = .ok r ∧ AbsEq r.log.queues l.queues :=
  have ⟨r, hr, hq⟩ := usable_stop g hB cap h .clean policy order
  ⟨r, hr, hq.elim id id⟩

/-- **(b) crash atomicity** from any `ReachX` call boundary, EVERY crash point -/
theorem C02_usable_crash_atomic (g : Geom) (hB : g.B ≤ 65542) (cap : Nat) (l : Log) (img : Image)
    (b : BufSt) (h : ReachX g cap l img b) (hb : b.pend = []) (c : Call) (tick : Bool)
    (order : List Bytes) (hfits : ∀ j ∈ l.stepJ g c order, C07.WF j.e)
    (htorn : C02A.TornStep g l c tick order) (k cut : Nat) (policy' : Policy) (order' : List Bytes) :
    ∃ rec, recover g (crashImage img (toOsOps cap b (l.step g c tick order).2.2).2 k cut) policy' order' none = .ok rec ∧
      (AbsEq rec.log.queues l.queues ∨ AbsEq rec.log.queues (l.step g c tick order).1.queues) :=
  usable_stop g hB cap h (.call c tick order k cut hb hfits htorn) policy' order'

/-- **(b′) second crash**: EVERY crash point of `open` itself on a `ReachX` state -/
theorem C02_usable_second_crash (g : Geom) (hB : g.B ≤ 65542) (cap : Nat) (l : Log) (img : Image)
    (b : BufSt) (h : ReachX g cap l img b) (policy : Policy) (order : List Bytes) (lp0 : Log)
    (e00 : List Effect) (io0 : Nat) (r0 : Recovered)
    (hpre0 : recoverPre g (flushDisk img b) policy none = .ok (lp0, e00, io0))
    (hrec0 : recover g (flushDisk img b) policy order none = .ok r0)
    (hgw0 : ∀ j ∈ lp0.gcJ g order, C07.WF j.e) (htorn : TornEffs r0.effects)
    (k cut : Nat) (policy' : Policy) (order' : List Bytes) :
    ∃ rec', recover g (crashImage (flushDisk img b) (toOsOps cap {} r0.effects).2 k cut)
        policy' order' none = .ok rec' ∧ AbsEq rec'.log.queues l.queues :=
  have ⟨r, hr, hq⟩ := usable_stop g hB cap h (.opened policy order lp0 e00 io0 r0 k cut hpre0 hrec0 hgw0 htorn)
    policy' order'
  ⟨r, hr, hq.elim id id⟩

/-- **(c) the C05 refinement keeps applying** -/
theorem C02_usable_refines (g : Geom) (hB : g.B ≤ 65542) (cap : Nat) (l : Log) (img : Image) (b : BufSt)
    (h : ReachX g cap l img b) (c : Call) (tick : Bool) (order : List Bytes) :
    C05.Inv l ∧ (l.step g c tick order).1.abs = (Spec.step l.abs c).1 ∧
      (l.step g c tick order).2.1.logical = (Spec.step l.abs c).2 ∧ C05.Inv (l.step g c tick order).1 := by
  obtain ⟨⟨J, hc, _⟩, _⟩ := reachX_inv g hB cap h
  exact ⟨hc.jinv.h.inv, C05_refines g l hc.jinv.h.inv c tick order⟩

/-- **EVERY crash point** `(k, cut)` of a call from a `ReachX` boundary: the recovered log, with the disk
    and buffer after the effects of `recover`, satisfies the relaxed invariant again -/
theorem crash_cinvx (g : Geom) (hB : g.B ≤ 65542) (cap : Nat) (l : Log) (img : Image) (b : BufSt)
    (h : ReachX g cap l img b) (hb : b.pend = []) (c : Call) (tick : Bool) (order : List Bytes)
    (hfits : ∀ j ∈ l.stepJ g c order, C07.WF j.e) (htorn : C02A.TornStep g l c tick order) (k cut : Nat)
    (policy' : Policy) (order' : List Bytes) (lp : Log) (e0 : List Effect) (io : Nat) (rec : Recovered)
    (hpre : recoverPre g (crashImage img (toOsOps cap b (l.step g c tick order).2.2).2 k cut) policy' none =
      .ok (lp, e0, io))
    (hrec : recover g (crashImage img (toOsOps cap b (l.step g c tick order).2.2).2 k cut) policy' order' none =
      .ok rec)
    (hgw : ∀ j ∈ lp.gcJ g order', C07.WF j.e) :
    (∃ J', CInvX g rec.log J'
        (flushDisk (applyOsOps (crashImage img (toOsOps cap b (l.step g c tick order).2.2).2 k cut)
          (toOsOps cap {} rec.effects).2) (toOsOps cap {} rec.effects).1) ∧ ∀ j ∈ J', C07.WF j.e) ∧
      BufOK cap rec.log (toOsOps cap {} rec.effects).1 ∧
      (AbsEq rec.log.queues l.queues ∨ AbsEq rec.log.queues (l.step g c tick order).1.queues) := by
  obtain ⟨hx, hq⟩ := Carry.wfOnly.inv_of_xinvres g cap
    (stop_res g hB cap h (.call c tick order k cut hb hfits htorn)) policy' order' lp e0 io rec hpre hrec hgw
  exact ⟨hx.inv, hx.buf, hq⟩

/-- `crash_cinvx` at the crash points lying at an effect boundary -/
theorem crash_cinvx_partial (g : Geom) (hB : g.B ≤ 65542) (cap : Nat) (l : Log) (img : Image) (b : BufSt)
    (h : ReachX g cap l img b) (hb : b.pend = []) (c : Call) (tick : Bool) (order : List Bytes)
    (hfits : ∀ j ∈ l.stepJ g c order, C07.WF j.e) (htorn : C02A.TornStep g l c tick order) (k cut : Nat)
    (_hbd : AtBoundary img (l.step g c tick order).2.2
      (crashImage img (toOsOps cap b (l.step g c tick order).2.2).2 k cut))
    (policy' : Policy) (order' : List Bytes) (lp : Log) (e0 : List Effect) (io : Nat) (rec : Recovered)
    (hpre : recoverPre g (crashImage img (toOsOps cap b (l.step g c tick order).2.2).2 k cut) policy' none =
      .ok (lp, e0, io))
    (hrec : recover g (crashImage img (toOsOps cap b (l.step g c tick order).2.2).2 k cut) policy' order' none =
      .ok rec)
    (hgw : ∀ j ∈ lp.gcJ g order', C07.WF j.e) :
    (∃ J', CInvX g rec.log J'
        (flushDisk (applyOsOps (crashImage img (toOsOps cap b (l.step g c tick order).2.2).2 k cut)
          (toOsOps cap {} rec.effects).2) (toOsOps cap {} rec.effects).1) ∧ ∀ j ∈ J', C07.WF j.e) ∧
      BufOK cap rec.log (toOsOps cap {} rec.effects).1 ∧
      (AbsEq rec.log.queues l.queues ∨ AbsEq rec.log.queues (l.step g c tick order).1.queues) :=
  crash_cinvx g hB cap l img b h hb c tick order hfits htorn k cut policy' order' lp e0 io rec hpre hrec hgw

theorem crashImage_full_write (img : Image) (ops : List OsOp) (k cut f off : Nat) (d : Bytes)
    (h : ops[k]? = some (.write f off d)) (hc : d.length ≤ cut) :
    crashImage img ops k cut = applyOsOps img (ops.take (k + 1)) := by
  have hk : k < ops.length := by
    rcases Nat.lt_or_ge k ops.length with h1 | h1
    · exact h1
    · rw [List.getElem?_eq_none h1] at h; cases h
  have ht : ops.take (k + 1) = ops.take k ++ [OsOp.write f off d] := by
    rw [List.take_add_one, h]; rfl
  simp only [crashImage, h]
  rw [ht, applyOsOps_append, List.take_of_length_le hc]
  rfl

theorem crashImage_nonwrite (img : Image) (ops : List OsOp) (k cut : Nat)
    (h : ∀ f off d, ops[k]? ≠ some (.write f off d)) :
    crashImage img ops k cut = applyOsOps img (ops.take k) := by
  unfold crashImage
  split
  · rename_i f off d hw; exact absurd hw (h f off d)
  · rfl

/-- the image after any whole number of OS operations of a call lies at an effect boundary:
    every crash point (k, cut) where operation `k` is not a write, or is a write of at most `cut`
    bytes, is covered by `crash_cinvx_partial` / `ReachX.crash` -/
theorem op_boundaries_covered (g : Geom) (hB : g.B ≤ 65542) (cap : Nat) (l : Log) (img : Image) (b : BufSt)
    (h : ReachX g cap l img b) (hb : b.pend = []) (c : Call) (tick : Bool) (order : List Bytes) (k : Nat) :
    AtBoundary img (l.step g c tick order).2.2
      (applyOsOps img ((toOsOps cap b (l.step g c tick order).2.2).2.take k)) := by
  obtain ⟨_, st, hinv, hclean⟩ := reachX_inv g hB cap h
  obtain ⟨st', hrun, _⟩ := C14.step_Disc g l c tick order st hclean
  obtain ⟨n, hn⟩ := op_boundary cap _ b st st' img hinv hrun k
  rw [pendW_nil b hb, List.nil_append] at hn
  exact ⟨n, hn⟩

/-- after a crash at ANY point the recovered state is `ReachX` again: (a), (b), (c) apply to it and to
    everything that follows -/
theorem C02_usable_reach_all (g : Geom) (cap : Nat) (l : Log) (img : Image) (b : BufSt)
    (h : ReachX g cap l img b) (hb : b.pend = []) (c : Call) (tick : Bool) (order : List Bytes)
    (hfits : ∀ j ∈ l.stepJ g c order, C07.WF j.e) (htorn : C02A.TornStep g l c tick order) (k cut : Nat)
    (policy' : Policy) (order' : List Bytes) (lp : Log) (e0 : List Effect) (io : Nat) (rec : Recovered)
    (hpre : recoverPre g (crashImage img (toOsOps cap b (l.step g c tick order).2.2).2 k cut) policy' none =
      .ok (lp, e0, io))
    (hrec : recover g (crashImage img (toOsOps cap b (l.step g c tick order).2.2).2 k cut) policy' order' none =
      .ok rec)
    (hgw : ∀ j ∈ lp.gcJ g order', C07.WF j.e) :
    ReachX g cap rec.log
      (applyOsOps (crashImage img (toOsOps cap b (l.step g c tick order).2.2).2 k cut)
        (toOsOps cap {} rec.effects).2) (toOsOps cap {} rec.effects).1 :=
  ReachX.crash c tick order k cut _ policy' order' lp e0 io rec h hb hfits htorn rfl hpre hrec hgw

/-- the same at the crash points lying at an effect boundary -/
theorem C02_usable_reach (g : Geom) (cap : Nat) (l : Log) (img : Image) (b : BufSt)
    (h : ReachX g cap l img b) (hb : b.pend = []) (c : Call) (tick : Bool) (order : List Bytes)
    (hfits : ∀ j ∈ l.stepJ g c order, C07.WF j.e) (htorn : C02A.TornStep g l c tick order) (k cut : Nat)
    (_hbd : AtBoundary img (l.step g c tick order).2.2
      (crashImage img (toOsOps cap b (l.step g c tick order).2.2).2 k cut))
    (policy' : Policy) (order' : List Bytes) (lp : Log) (e0 : List Effect) (io : Nat) (rec : Recovered)
    (hpre : recoverPre g (crashImage img (toOsOps cap b (l.step g c tick order).2.2).2 k cut) policy' none =
      .ok (lp, e0, io))
    (hrec : recover g (crashImage img (toOsOps cap b (l.step g c tick order).2.2).2 k cut) policy' order' none =
      .ok rec)
    (hgw : ∀ j ∈ lp.gcJ g order', C07.WF j.e) :
    ReachX g cap rec.log
      (applyOsOps (crashImage img (toOsOps cap b (l.step g c tick order).2.2).2 k cut)
        (toOsOps cap {} rec.effects).2) (toOsOps cap {} rec.effects).1 :=
  C02_usable_reach_all g cap l img b h hb c tick order hfits htorn k cut policy' order' lp e0 io rec hpre hrec hgw

/-- **C02, usability**: at EVERY crash point of a call from a `ReachX` boundary `recover`
    succeeds and the recovered log behaves exactly as the log `lref` — the log before the call or
    the log after it — that never crashed: same logical outcomes for any further calls, whatever
    the oracles, and equal abstract states at the end -/
theorem C02_usable (g : Geom) (hB : g.B ≤ 65542) (cap : Nat) (l : Log) (img : Image) (b : BufSt)
    (h : ReachX g cap l img b) (hb : b.pend = []) (c : Call) (tick : Bool) (order : List Bytes)
    (hfits : ∀ j ∈ l.stepJ g c order, C07.WF j.e) (htorn : C02A.TornStep g l c tick order) (k cut : Nat)
    (policy' : Policy) (order' : List Bytes) :
    ∃ rec lref, recover g (crashImage img (toOsOps cap b (l.step g c tick order).2.2).2 k cut) policy' order' none = .ok rec ∧
      (lref = l ∨ lref = (l.step g c tick order).1) ∧ AbsEq rec.log.queues lref.queues ∧
      ∀ cs1 cs2, SameCalls cs1 cs2 →
        (runL g rec.log cs1).2 = (runL g lref cs2).2 ∧
        AbsEq (runL g rec.log cs1).1.queues (runL g lref cs2).1.queues := by
  obtain ⟨rec, hrec, hq⟩ := C02_usable_crash_atomic g hB cap l img b h hb c tick order hfits htorn k cut policy' order'
  have hIl : C05.Inv l := (C02_usable_refines g hB cap l img b h c tick order).1
  have hIl' : C05.Inv (l.step g c tick order).1 := (C02_usable_refines g hB cap l img b h c tick order).2.2.2
  have hIr : C05.Inv rec.log := C08.recover_sorted g _ policy' order' none rec hrec
  rcases hq with hq | hq
  · refine ⟨rec, l, hrec, Or.inl rfl, hq, fun cs1 cs2 hs => ?_⟩
    exact absEq_run g cs1 cs2 hs hIr hIl hq
  · refine ⟨rec, _, hrec, Or.inr rfl, hq, fun cs1 cs2 hs => ?_⟩
    exact absEq_run g cs1 cs2 hs hIr hIl' hq

end MRL.C02U
