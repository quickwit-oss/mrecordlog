/-
C13, restart leg: a rejected or no-op call leaves no trace that a restart could see. The call
returns the log unchanged, adds nothing to the journal, hands nothing to the `BufWriter` and sends
nothing to the OS: the system state is literally the same, hence so are the flushed disk and the
result of every later restart.
-/
import MRL.Proofs.LegRestart
import MRL.Props.C13

namespace MRL.C13R
open Restart C13

theorem stepJ_rejected (g : Geom) (l : Log) (c : Call) (out : Outcome) (order : List Bytes)
    (h : Rejected l c out) : l.stepJ g c order = [] := by
  rw [Step.stepJ_eq, h.does.act_eq]

/-- **C13 on the end-to-end system.** A rejected / no-op call leaves the whole system state —
    log, journal, OS image, `BufWriter` — exactly as it was. -/
theorem C13_state_unchanged (g : Geom) (cap : Nat) (s : Sys) (c : Call) (out : Outcome) (tick : Bool)
    (order : List Bytes) (h : Rejected s.l c out) : s.step g cap c tick order = s := by
  have h1 := C13_no_trace g s.l tick order c out h
  have h2 := stepJ_rejected g s.l c out order h
  cases s with
  | mk l J img b =>
    simp only [Sys.step, h1, h2, List.append_nil, toOsOps, applyOsOps, List.foldl_nil]

/-- **C13 across restarts.** After a rejected / no-op call the flushed disk is the same, so every
    later restart — any policy, any GC order, any I/O fault plan — returns the same result, and
    the set of possible restarted states is the same. -/
theorem C13_restart_unaffected (g : Geom) (cap : Nat) (s : Sys) (c : Call) (out : Outcome) (tick : Bool)
    (order : List Bytes) (h : Rejected s.l c out) :
    (s.step g cap c tick order).disk = s.disk ∧
    (∀ policy order' fa, recover g (s.step g cap c tick order).disk policy order' fa =
      recover g s.disk policy order' fa) ∧
    (∀ policy order' s', Reopens g cap (s.step g cap c tick order) policy order' s' ↔
      Reopens g cap s policy order' s') := by
  rw [C13_state_unchanged g cap s c out tick order h]
  exact ⟨rfl, fun _ _ _ => rfl, fun _ _ _ => Iff.rfl⟩

/-- non-vacuity: `C13`'s concrete log with its four rejected shapes, as a system state -/
example (g : Geom) (cap : Nat) (img : Image) (b : BufSt) :
    let l : Log := { files := [0], cur := 0, off := 0, policy := .doNothing,
                     queues := [([1], { start := 5, recs := [] })] }
    let s : Sys := ⟨l, [], img, b⟩
    s.step g cap (.create [1]) false [] = s ∧ s.step g cap (.delete [2]) false [] = s ∧
    s.step g cap (.append [1] (some 4) [[9]]) false [] = s ∧
    s.step g cap (.append [1] (some 2) [[9]]) false [] = s := by
  intro l s
  exact ⟨C13_state_unchanged g cap s _ .alreadyExists false [] (.createExisting _ rfl),
    C13_state_unchanged g cap s _ .missingQueue false [] (.deleteMissing _ rfl),
    C13_state_unchanged g cap s _ (.appended none 0) false []
      (.appendRetry _ { start := 5, recs := [] } _ _ rfl rfl),
    C13_state_unchanged g cap s _ .past false []
      (.appendPast _ { start := 5, recs := [] } _ _ rfl (by decide))⟩

end MRL.C13R
