/-
C09 over crash-reachable states, saying WHICH entry is lost.

`C09X.C09_crash_one_frame` concludes "for SOME journal index `idx`, every record not appended by
`J[idx]` is recovered": at most one entry is lost. Here the index is identified: it is the entry the
damaged frame belongs to — and when the frame belongs to no retained entry NOTHING is lost. Both
statements are read off `C09X.one_frame_tape` (MRL/Props/C09Crash.lean).

The item tape of the image of a crash-reachable state is `ais = lead ++ gs.flatMap (·.2)`
(`L.TapeD`, from `L.CInvX.tapeD`): lead frames (the tail of an entry that began in a collected file),
then groups — live groups `(some j, fs)` (the frames `fs` of the retained journal entry `j`: `payloadOf (frs fs) =
j.e.encode`), dead groups (unfinished entries), junk slots. `LR.hitGroup lead gs n : Option Nat`
(computable, MRL/Proofs/LDamage.lean) is `some k` when position `n` of the tape lies in the `k`-th
live group, `none` when it lies in the lead frames, a dead group or a junk slot. The live groups are
the retained entries `J.filter (F ≤ ·.loc)` in order, and these are the last entries of `J`, so the
`k`-th live group is `J[J.length - (liveOf gs).length + k]`.

`C09_crash_which` (and `_reachX`): for the frame as written `a` at position `A1.length`
(`ais = A1 ++ a :: A2`, `a.2 = none`) damaged as in `C09_crash_one_frame`, `recover` on the damaged
image succeeds with `r`, and
* if `hitGroup lead gs A1.length = none`: EVERY record of every live queue is recovered;
* if `= some k`: with `idx := J.length - (liveOf gs).length + k`, the entry `J[idx] = j` is the one
  the frame belongs to — `(some j, fs) ∈ gs`, `a ∈ fs`, `payloadOf (frs fs) = j.e.encode`,
  `EntryFrames true (frs fs)`: the damaged bytes are bytes of the serialisation of `j.e` — and every
  record not appended by `J[idx]` is recovered.

`C09_reachD_which`: every `C01R.ReachD` state is a `ReachX` state (`C02U.ReachX.base`), so the statement
holds for histories without crashes too (with the item tape in place of the frame layout of
`C09V.C09_recover_one_frame_all`; on such a state every item is a frame as written).
-/
import MRL.Props.C09Crash

namespace MRL.C09W
open Codec Img L LR C09X

theorem C09_crash_which (g : Geom) (hB : g.B ≤ 65542) (cap : Nat) (l : Log) (img : Image) (b : BufSt)
    (W : List Entry) (h : C02W.ReachXW g cap l img b W) :
    ∃ (J : List JE) (ais lead : List AItm) (gs : List Grp) (z0 : Nat) (res : Bytes) (z1 : Nat),
      L.CInvX g l J (C02U.flushDisk img b) ∧ (∀ j ∈ J, C07.WF j.e) ∧ (∀ j ∈ J, j.e ∈ W) ∧
      streamOf (C02U.flushDisk img b) = flatJ g 0 ais ++ zeros z0 ++ res ++ zeros z1 ∧ Fits g 0 (frs ais) ∧
      ais = lead ++ gs.flatMap (·.2) ∧ (∀ x ∈ lead, x.2 = none ∧ x.1.2.1.isFirst = false) ∧
      (liveOf gs).map (·.1) = J.filter (fun j => decide (l.files.headD 0 ≤ j.loc)) ∧ (∀ y ∈ gs, GrpOK y) ∧
      ∀ A1 a A2, ais = A1 ++ a :: A2 → a.2 = none →
      ∀ crc' p' : Bytes, crc'.length = 4 → p'.length = a.1.2.2.length → frameCrc a.1.2.1 p' ≠ leNat crc' →
      ∀ W', SameShape (C02U.flushDisk img b) W' →
        streamOf W' = flatJ g 0 (A1 ++ damaged a crc' p' :: A2) ++ zeros z0 ++ res ++ zeros z1 →
      ∀ (policy : Policy) (order : List Bytes),
        ∃ r, recover g W' policy order none = .ok r ∧
          match hitGroup lead gs A1.length with
          | none => ∀ name q, l.queues.get? name = some q → ∀ rc ∈ q.recs,
              ∃ q', r.log.queues.get? name = some q' ∧ ∃ r' ∈ q'.recs, r'.pos = rc.pos ∧ r'.payload = rc.payload
          | some k =>
            (∃ j fs, J[J.length - (liveOf gs).length + k]? = some j ∧ (some j, fs) ∈ gs ∧ a ∈ fs ∧
              payloadOf (frs fs) = j.e.encode ∧ EntryFrames true (frs fs)) ∧
            ∀ name q, l.queues.get? name = some q → ∀ rc ∈ q.recs,
              ¬ C09V.RecordOfIdx J (J.length - (liveOf gs).length + k) name rc →
              ∃ q', r.log.queues.get? name = some q' ∧ ∃ r' ∈ q'.recs, r'.pos = rc.pos ∧ r'.payload = rc.payload := by
  obtain ⟨J, hc, hw, hJW, hR⟩ := reachXR_journal g hB cap h
  obtain ⟨hH, chunk, qs, hrep, heq, hqwf⟩ := hc.jinv
  obtain ⟨cs, x, ais, lead, gs, res, z0, z1, hd⟩ := hc.tapeD
  exact ⟨J, ais, lead, gs, z0, res, z1, hc, hw, hJW, hd.stream, hd.fits, hd.hais, hd.hlead, hd.hmap, hd.hok,
    fun A1 a A2 hs ha crc' p' h4 hp hdet W' hshape hS' policy order =>
      one_frame_tape g hB hd hw chunk.mono qs l.queues hrep heq hR A1 a A2 hs ha crc' p' h4 hp hdet W' hshape hS'
        policy order⟩

theorem C09_crash_which_reachX (g : Geom) (hB : g.B ≤ 65542) (cap : Nat) (l : Log) (img : Image) (b : BufSt)
    (h : C02U.ReachX g cap l img b) :
    ∃ (J : List JE) (ais lead : List AItm) (gs : List Grp) (z0 : Nat) (res : Bytes) (z1 : Nat),
      L.CInvX g l J (C02U.flushDisk img b) ∧ (∀ j ∈ J, C07.WF j.e) ∧
      streamOf (C02U.flushDisk img b) = flatJ g 0 ais ++ zeros z0 ++ res ++ zeros z1 ∧ Fits g 0 (frs ais) ∧
      ais = lead ++ gs.flatMap (·.2) ∧ (∀ x ∈ lead, x.2 = none ∧ x.1.2.1.isFirst = false) ∧
      (liveOf gs).map (·.1) = J.filter (fun j => decide (l.files.headD 0 ≤ j.loc)) ∧ (∀ y ∈ gs, GrpOK y) ∧
      ∀ A1 a A2, ais = A1 ++ a :: A2 → a.2 = none →
      ∀ crc' p' : Bytes, crc'.length = 4 → p'.length = a.1.2.2.length → frameCrc a.1.2.1 p' ≠ leNat crc' →
      ∀ W', SameShape (C02U.flushDisk img b) W' →
        streamOf W' = flatJ g 0 (A1 ++ damaged a crc' p' :: A2) ++ zeros z0 ++ res ++ zeros z1 →
      ∀ (policy : Policy) (order : List Bytes),
        ∃ r, recover g W' policy order none = .ok r ∧
          match hitGroup lead gs A1.length with
          | none => ∀ name q, l.queues.get? name = some q → ∀ rc ∈ q.recs,
              ∃ q', r.log.queues.get? name = some q' ∧ ∃ r' ∈ q'.recs, r'.pos = rc.pos ∧ r'.payload = rc.payload
          | some k =>
            (∃ j fs, J[J.length - (liveOf gs).length + k]? = some j ∧ (some j, fs) ∈ gs ∧ a ∈ fs ∧
              payloadOf (frs fs) = j.e.encode ∧ EntryFrames true (frs fs)) ∧
            ∀ name q, l.queues.get? name = some q → ∀ rc ∈ q.recs,
              ¬ C09V.RecordOfIdx J (J.length - (liveOf gs).length + k) name rc →
              ∃ q', r.log.queues.get? name = some q' ∧ ∃ r' ∈ q'.recs, r'.pos = rc.pos ∧ r'.payload = rc.payload := by
  obtain ⟨W, hW⟩ := C02W.ReachXW.ofReachX h
  obtain ⟨J, ais, lead, gs, z0, res, z1, a1, a2, _, a4, a5, a6, a7, a8, a9, a10⟩ :=
    C09_crash_which g hB cap l img b W hW
  exact ⟨J, ais, lead, gs, z0, res, z1, a1, a2, a4, a5, a6, a7, a8, a9, a10⟩

/-- the live group hit by a position is the one `hitGroup` computes (specification) -/
theorem hitGroup_live (lead : List AItm) (g1 : List Grp) (j : JE) (fs : List AItm) (g2 : List Grp)
    (pre : List AItm) (a : AItm) (post : List AItm) (hfs : fs = pre ++ a :: post) :
    hitGroup lead (g1 ++ (some j, fs) :: g2) ((lead ++ g1.flatMap (·.2) ++ pre).length) =
      some (liveJ g1).length := by
  unfold hitGroup
  rw [if_neg (by simp)]
  have hn : (lead ++ g1.flatMap (·.2) ++ pre).length - lead.length = (g1.flatMap (·.2)).length + pre.length := by
    simp
  rw [hn, hitGroups_spec g1 (some j, fs) g2 pre a post hfs 0]
  simp

theorem hitGroup_lead (lead : List AItm) (gs : List Grp) (n : Nat) (h : n < lead.length) :
    hitGroup lead gs n = none := by
  unfold hitGroup; rw [if_pos h]

theorem C09_reachD_which (g : Geom) (hB : g.B ≤ 65542) (cap : Nat) (l : Log) (J0 : List JE) (img : Image) (b : BufSt)
    (h : C01R.ReachD g cap l J0 img b) (hwf : ∀ j ∈ J0, C07.WF j.e) :
    ∃ (J : List JE) (ais lead : List AItm) (gs : List Grp) (z0 : Nat) (res : Bytes) (z1 : Nat),
      L.CInvX g l J (C02U.flushDisk img b) ∧ (∀ j ∈ J, C07.WF j.e) ∧
      streamOf (C02U.flushDisk img b) = flatJ g 0 ais ++ zeros z0 ++ res ++ zeros z1 ∧ Fits g 0 (frs ais) ∧
      ais = lead ++ gs.flatMap (·.2) ∧ (∀ x ∈ lead, x.2 = none ∧ x.1.2.1.isFirst = false) ∧
      (liveOf gs).map (·.1) = J.filter (fun j => decide (l.files.headD 0 ≤ j.loc)) ∧ (∀ y ∈ gs, GrpOK y) ∧
      ∀ A1 a A2, ais = A1 ++ a :: A2 → a.2 = none →
      ∀ crc' p' : Bytes, crc'.length = 4 → p'.length = a.1.2.2.length → frameCrc a.1.2.1 p' ≠ leNat crc' →
      ∀ W', SameShape (C02U.flushDisk img b) W' →
        streamOf W' = flatJ g 0 (A1 ++ damaged a crc' p' :: A2) ++ zeros z0 ++ res ++ zeros z1 →
      ∀ (policy : Policy) (order : List Bytes),
        ∃ r, recover g W' policy order none = .ok r ∧
          match hitGroup lead gs A1.length with
          | none => ∀ name q, l.queues.get? name = some q → ∀ rc ∈ q.recs,
              ∃ q', r.log.queues.get? name = some q' ∧ ∃ r' ∈ q'.recs, r'.pos = rc.pos ∧ r'.payload = rc.payload
          | some k =>
            (∃ j fs, J[J.length - (liveOf gs).length + k]? = some j ∧ (some j, fs) ∈ gs ∧ a ∈ fs ∧
              payloadOf (frs fs) = j.e.encode ∧ EntryFrames true (frs fs)) ∧
            ∀ name q, l.queues.get? name = some q → ∀ rc ∈ q.recs,
              ¬ C09V.RecordOfIdx J (J.length - (liveOf gs).length + k) name rc →
              ∃ q', r.log.queues.get? name = some q' ∧ ∃ r' ∈ q'.recs, r'.pos = rc.pos ∧ r'.payload = rc.payload :=
  C09_crash_which_reachX g hB cap l img b (C02U.ReachX.base h hwf)

end MRL.C09W
