/-
C01 (end to end) — a clean restart reproduces the exact logical state.

FULL STATEMENT. Let `ReachD g cap l J img b` be the (log, journal, OS image, `BufWriter` state)
quadruples reachable from the first `open` of an empty directory by any sequence of API calls
(`step`: the image is driven only by the effects the model emits, through the `BufWriter` model
`toOsOps cap`) and of restarts (`reopen`: the `BufWriter` is dropped — flushed — and the directory
is opened again; the journal is extended by the touches of the GC pass that ends `open`). Then for
every geometry with `g.B ≤ 65542` (frame lengths fit their 2-byte field), every capacity `cap`,
every reachable quadruple whose journal entries are serialisable (`C07.WF`: UTF-8 names shorter
than 2^16 bytes, positions < 2^64, payloads shorter than 2^32 bytes), every policy and GC order:

    ∃ r, recover g (flushDisk img b) policy order none = .ok r ∧ QsEquiv r.log.queues l.queues

i.e. dropping the log at any reachable point — after any calls, roll-overs, GC passes that deleted
any number of files, and earlier restarts — and opening the directory again succeeds and yields
the same queue names, the same records (positions, payloads, file handles) and the same next
positions. Corollaries: no deleted queue reappears (`C01_no_resurrection`) and the abstract state
of C05 is the same (`C01_obs`). Nothing is assumed but `ReachD`, `g.B ≤ 65542` and `WF`.
-/
import MRL.Props.C05
import MRL.Proofs.GRestart

namespace MRL.C01R
open C05 C01J G Codec

/-- what the OS holds once the `BufWriter` is dropped -/
abbrev flushDisk (img : Image) (b : BufSt) : Image := G.flushDisk img b

/-- reachable (log, journal, OS image, `BufWriter` state), restarts included -/
inductive ReachD (g : Geom) (cap : Nat) : Log → List JE → Image → BufSt → Prop
  | init (policy : Policy) (order : List Bytes) (r : Recovered) :
      recover g [] policy order none = .ok r →
      ReachD g cap r.log [] (applyOsOps [] (toOsOps cap {} r.effects).2) (toOsOps cap {} r.effects).1
  | step {l : Log} {J : List JE} {img : Image} {b : BufSt} (c : Call) (tick : Bool) (order : List Bytes) :
      ReachD g cap l J img b →
      ReachD g cap (l.step g c tick order).1 (J ++ l.stepJ g c order)
        (applyOsOps img (toOsOps cap b (l.step g c tick order).2.2).2)
        (toOsOps cap b (l.step g c tick order).2.2).1
  | reopen {l : Log} {J : List JE} {img : Image} {b : BufSt} (policy : Policy) (order : List Bytes)
      (lp : Log) (e0 : List Effect) (io : Nat) (r : Recovered) :
      ReachD g cap l J img b →
      recoverPre g (flushDisk img b) policy none = .ok (lp, e0, io) →
      recover g (flushDisk img b) policy order none = .ok r →
      ReachD g cap r.log (J ++ lp.gcJ g order)
        (applyOsOps (flushDisk img b) (toOsOps cap {} r.effects).2) (toOsOps cap {} r.effects).1

structure RInv (g : Geom) (cap : Nat) (l : Log) (J : List JE) (img : Image) (b : BufSt) : Prop where
  c : CInv g l J (flushDisk img b)
  buf : BufOK cap l b

theorem flushDisk_empty (D : Image) : flushDisk D {} = D := rfl

theorem init_pre (g : Geom) (hB : g.B ≤ 65542) (policy : Policy) :
    ∃ lp io, recoverPre g [] policy none = .ok (lp, (prepareImage g []).2, io) ∧
      CInv g lp [] (imgOf 0 [zeros g.fileBytes]) ∧ lp.files = [0] := by
  -- the state after creating `wal-0`
  let l0 : Log := { files := [0], cur := 0, off := 0, queues := [], policy := policy }
  have hd0 : DInvF g l0 (imgOf 0 [zeros g.fileBytes]) [] 0 := by
    refine ⟨[], [], [], ?_, ?_, ?_, ?_, Or.inl rfl⟩
    · refine ⟨?_, ?_, rfl, Nat.zero_le _, rfl, rfl⟩
      · simp [l0]
      · intro c hc; cases hc
    · refine ⟨?_, trivial, trivial, Or.inl rfl⟩
      simp [untag, layoutBufs, endPos, zeros]
    · refine ⟨[], [], rfl, ?_, rfl, ?_, trivial⟩
      · intro a ha; cases ha
      · intro s hs; cases hs
    · intro a ha; cases ha
  have hc0 : CInv g l0 [] (imgOf 0 [zeros g.fileBytes]) :=
    ⟨jinv_init policy, List.Pairwise.nil, Or.inr rfl, hd0⟩
  obtain ⟨lp, io, hrec, hc, _, hf, _⟩ := open_ok g hB hc0 (fun _ h => by cases h) policy
  have hprep : (prepareImage g (imgOf 0 [zeros g.fileBytes])).1 = (prepareImage g []).1 := by
    obtain ⟨_, _, _, _, hp, _⟩ := blocks_disk g 0 [zeros g.fileBytes] (by simp) (by simp) false 0
    rw [show imgOf 0 [zeros g.fileBytes] ++ L.xtra false 0 = imgOf 0 [zeros g.fileBytes] from List.append_nil _] at hp
    rw [hp]; rfl
  exact ⟨lp, io, Rec.recoverPre_img1 g (imgOf 0 [zeros g.fileBytes]) [] policy hprep.symm hrec, hc, hf⟩

theorem rinv_init (g : Geom) (hB : g.B ≤ 65542) (cap : Nat) (policy : Policy) (order : List Bytes)
    (r : Recovered) (h : recover g [] policy order none = .ok r) :
    RInv g cap r.log [] (applyOsOps [] (toOsOps cap {} r.effects).2) (toOsOps cap {} r.effects).1 := by
  obtain ⟨lp, io, hrec0, hc, hlpf⟩ := init_pre g hB policy
  obtain ⟨hgc1, _⟩ := Step.runGc_single g lp order 0 hlpf
  rw [Rec.recover_none, hrec0] at h
  simp only [hgc1, Except.ok.injEq] at h
  subst h
  have heff : (prepareImage g ([] : Image)).2 =
      [.create 0, .setLen 0 g.fileBytes, .ensureLen 0 g.fileBytes] := rfl
  simp only [heff, List.append_nil]
  have hops : toOsOps cap {} [Effect.create 0, .setLen 0 g.fileBytes, .ensureLen 0 g.fileBytes] =
      ({}, [OsOp.create 0, .setLen 0 g.fileBytes, .ensureLen 0 g.fileBytes]) := rfl
  rw [hops]
  have himg : applyOsOps [] [OsOp.create 0, .setLen 0 g.fileBytes, .ensureLen 0 g.fileBytes] =
      imgOf 0 [zeros g.fileBytes] := by
    simp [applyOsOps, applyOs, insertFile, mapFile, setLenBytes_nil, imgOf]
  rw [himg]
  exact ⟨hc, bufOK_empty cap lp⟩

theorem rinv_step (g : Geom) (cap : Nat) {l : Log} {J : List JE} {img : Image} {b : BufSt}
    (h : RInv g cap l J img b) (c : Call) (tick : Bool) (order : List Bytes) :
    RInv g cap (l.step g c tick order).1 (J ++ l.stepJ g c order)
      (applyOsOps img (toOsOps cap b (l.step g c tick order).2.2).2)
      (toOsOps cap b (l.step g c tick order).2.2).1 := by
  obtain ⟨hfl, hbuf⟩ := h.buf.step g img c tick order
  refine ⟨?_, hbuf⟩
  show CInv g _ _ (G.flushDisk _ _)
  rw [hfl]
  exact cinv_step g h.c c tick order

theorem rinv_reopen (g : Geom) (hB : g.B ≤ 65542) (cap : Nat) {l : Log} {J : List JE} {img : Image}
    {b : BufSt} (h : RInv g cap l J img b) (hwf : ∀ j ∈ J, C07.WF j.e) (policy : Policy)
    (order : List Bytes) (lp : Log) (e0 : List Effect) (io : Nat) (r : Recovered)
    (hpre : recoverPre g (flushDisk img b) policy none = .ok (lp, e0, io))
    (hrec : recover g (flushDisk img b) policy order none = .ok r) :
    RInv g cap r.log (J ++ lp.gcJ g order)
      (applyOsOps (flushDisk img b) (toOsOps cap {} r.effects).2) (toOsOps cap {} r.effects).1 := by
  obtain ⟨lp', io', r', hpre', hrec', _, _, hc, hbuf⟩ := recover_cinv g hB cap h.c hwf policy order
  rw [hpre] at hpre'
  simp only [Except.ok.injEq, Prod.mk.injEq] at hpre'
  obtain ⟨rfl, _, _⟩ := hpre'
  rw [hrec] at hrec'
  simp only [Except.ok.injEq] at hrec'
  subst hrec'
  exact ⟨hc, hbuf⟩

theorem reach_rinv (g : Geom) (hB : g.B ≤ 65542) (cap : Nat) {l : Log} {J : List JE} {img : Image}
    {b : BufSt} (h : ReachD g cap l J img b) : (∀ j ∈ J, C07.WF j.e) → RInv g cap l J img b := by
  induction h with
  | init policy order r hr => intro _; exact rinv_init g hB cap policy order r hr
  | step c tick order _ ih =>
    intro hwf
    exact rinv_step g cap (ih fun j hj => hwf j (List.mem_append_left _ hj)) c tick order
  | reopen policy order lp e0 io r _ hpre hrec ih =>
    intro hwf
    have hwf' := fun j hj => hwf j (List.mem_append_left _ hj)
    exact rinv_reopen g hB cap (ih hwf') hwf' policy order lp e0 io r hpre hrec

/-- **C01**: at every reachable quadruple, dropping the `BufWriter` and opening the directory
    again succeeds and gives the queues in memory, file handles included. -/
theorem C01_restart_exact (g : Geom) (hB : g.B ≤ 65542) (cap : Nat) (l : Log) (J : List JE)
    (img : Image) (b : BufSt) (h : ReachD g cap l J img b) (hfits : ∀ j ∈ J, C07.WF j.e)
    (policy : Policy) (order : List Bytes) :
    ∃ r, recover g (flushDisk img b) policy order none = .ok r ∧ QsEquiv r.log.queues l.queues := by
  have hr := reach_rinv g hB cap h hfits
  obtain ⟨lp, io, r, _, hrec, hlog, _, _, hq⟩ := recover_ok g hB hr.c hfits policy order
  refine ⟨r, hrec, ?_⟩
  rw [hlog, Step.runGc_queues]
  exact hq

theorem restart_queues {g : Geom} (hB : g.B ≤ 65542) {cap : Nat} {l : Log} {J : List JE} {img : Image} {b : BufSt}
    (h : ReachD g cap l J img b) (hfits : ∀ j ∈ J, C07.WF j.e) {policy : Policy} {order : List Bytes}
    {r : Recovered} (hr : recover g (flushDisk img b) policy order none = .ok r) :
    QsEquiv r.log.queues l.queues := by
  obtain ⟨r', hr', hq⟩ := C01_restart_exact g hB cap l J img b h hfits policy order
  cases hr.symm.trans hr'
  exact hq

/-- no deleted (or never created) queue reappears after a restart -/
theorem C01_no_resurrection (g : Geom) (hB : g.B ≤ 65542) (cap : Nat) (l : Log) (J : List JE)
    (img : Image) (b : BufSt) (h : ReachD g cap l J img b) (hfits : ∀ j ∈ J, C07.WF j.e)
    (policy : Policy) (order : List Bytes) (r : Recovered)
    (hr : recover g (flushDisk img b) policy order none = .ok r) (name : Bytes)
    (hn : l.queues.get? name = none) : r.log.queues.get? name = none :=
  (restart_queues hB h hfits hr).symm.get_none hn

/-- and every queue that exists still exists -/
theorem C01_no_loss (g : Geom) (hB : g.B ≤ 65542) (cap : Nat) (l : Log) (J : List JE)
    (img : Image) (b : BufSt) (h : ReachD g cap l J img b) (hfits : ∀ j ∈ J, C07.WF j.e)
    (policy : Policy) (order : List Bytes) (r : Recovered)
    (hr : recover g (flushDisk img b) policy order none = .ok r) (name : Bytes) (q : MemQueue)
    (hn : l.queues.get? name = some q) :
    ∃ q', r.log.queues.get? name = some q' ∧ q'.recs = q.recs ∧ q'.nextPosition = q.nextPosition := by
  obtain ⟨y, hy, hxy⟩ := (restart_queues hB h hfits hr).symm.get_some hn
  exact ⟨y, hy, hxy.1.symm, hxy.2.symm⟩

/-- the abstract state of C05 (queue name ↦ records and next position) is the same map -/
theorem C01_obs (g : Geom) (hB : g.B ≤ 65542) (cap : Nat) (l : Log) (J : List JE)
    (img : Image) (b : BufSt) (h : ReachD g cap l J img b) (hfits : ∀ j ∈ J, C07.WF j.e)
    (policy : Policy) (order : List Bytes) (r : Recovered)
    (hr : recover g (flushDisk img b) policy order none = .ok r) :
    ∀ name, r.log.abs.get? name = l.abs.get? name := by
  intro name
  rw [abs_get_eq, abs_get_eq]
  exact (restart_queues hB h hfits hr).map_get MemQueue.abs (fun _ _ => QEquiv.abs_eq) name

/-- the first `open` of an empty directory succeeds, so `ReachD.init` applies -/
theorem init_ok (g : Geom) (hB : g.B ≤ 65542) (policy : Policy) (order : List Bytes) :
    ∃ r, recover g [] policy order none = .ok r := by
  obtain ⟨lp, io, hrec0, _⟩ := init_pre g hB policy
  rw [Rec.recover_none, hrec0]
  exact ⟨_, rfl⟩

/-- at every reachable quadruple a restart succeeds, so `ReachD.reopen` applies -/
theorem reopen_ok (g : Geom) (hB : g.B ≤ 65542) (cap : Nat) (l : Log) (J : List JE)
    (img : Image) (b : BufSt) (h : ReachD g cap l J img b) (hfits : ∀ j ∈ J, C07.WF j.e)
    (policy : Policy) (order : List Bytes) :
    ∃ lp e0 io r, recoverPre g (flushDisk img b) policy none = .ok (lp, e0, io) ∧
      recover g (flushDisk img b) policy order none = .ok r := by
  have hr := reach_rinv g hB cap h hfits
  obtain ⟨lp, io, r, hpre, hrec, _⟩ := recover_ok g hB hr.c hfits policy order
  exact ⟨lp, _, io, r, hpre, hrec⟩

/-- by-product: `open` (before its GC pass) finds exactly the tracked files and installs the
    requested policy -/
theorem C01_files_kept (g : Geom) (hB : g.B ≤ 65542) (cap : Nat) (l : Log) (J : List JE)
    (img : Image) (b : BufSt) (h : ReachD g cap l J img b) (hfits : ∀ j ∈ J, C07.WF j.e)
    (policy : Policy) :
    ∃ lp e0 io, recoverPre g (flushDisk img b) policy none = .ok (lp, e0, io) ∧ lp.files = l.files ∧
      lp.policy = policy := by
  have hr := reach_rinv g hB cap h hfits
  obtain ⟨lp, io, hrec, _, _, hf, hp, _⟩ := open_ok g hB hr.c hfits policy
  exact ⟨lp, _, io, hrec, hf, hp⟩

end MRL.C01R
