/-
C12 — a batch append is all-or-nothing across crashes and damage.
Two facts about what recovery can make of ANY sequence of surviving WAL entries / frame events:

* `replay_batch_suffix`: replay any list of entries `es₁ ++ [append name p b] ++ es₂` (whatever
  sub-sequence of the WAL survives damage). If the replay succeeds, queue `name` is gone, or its records
  are (records of `es₁`) ++ (a suffix `b.drop k` of the batch) ++ (records of `es₂`); if part of the
  batch's head is gone (`0 < k`) everything before it is gone too; and unless `es₂` contains a
  `truncate name`, the batch is whole (`k = 0`) or entirely gone (`b.length ≤ k`).
  NB without the provenance clauses tying `pre` to earlier and `post` to later entries the predicate
  `∃ pre k post, plain q = pre ++ b.drop k ++ post ∧ (0 < k → pre = [])` is satisfied by every queue
  (`k := b.length`, `pre := []`, `post := plain q`).
* `assemble_whole_entry`: every entry `assemble` emits is the concatenation of the payloads of a run of
  CONSECUTIVE frame events `Full` or `First, Middle*, Last`, so a batch entry of which any frame is
  lost or damaged is not delivered at all.
-/
import MRL.Proofs.RecBatch
import MRL.Proofs.RecAssemble

namespace MRL.C12
open Rec

theorem replay_batch_suffix (es₁ es₂ : List (Nat × Entry)) (f : Nat) (name : Bytes) (p : Nat)
    (b : List (Nat × Bytes)) (qs : MemQueues)
    (h : replayEntries [] (es₁ ++ [(f, Entry.append name p b)] ++ es₂) = some qs) :
    Whole b name (recordsOf es₁) (recordsOf es₂) (noTrunc name es₂) (qs.get? name) := by
  obtain ⟨qs₁, qs₂, _, h1, hb, _, _, h2, _⟩ := replayEntries_batch h
  have hA : AllIn (recordsOf es₁) qs₁ := by
    have := AllIn_replayEntries es₁ [] [] qs₁ h1 (fun kv hkv => by cases hkv)
    simpa using this
  have := Whole_replayEntries es₂ [] true qs₂ qs h2 (Whole_after_append hb hA)
  simpa using this

/-- reading `Whole` for a batch whose records are not records of any other entry of the replayed
    list (same queue name, position and payload): the records of `b` present in the queue are
    exactly those of a suffix of `b`; without a later truncation, all of them or none. -/
theorem batch_suffix_fresh (es₁ es₂ : List (Nat × Entry)) (f : Nat) (name : Bytes) (p : Nat)
    (b : List (Nat × Bytes)) (qs : MemQueues) (q : MemQueue)
    (h : replayEntries [] (es₁ ++ [(f, Entry.append name p b)] ++ es₂) = some qs)
    (hq : qs.get? name = some q)
    (hfresh : ∀ r ∈ b, (name, r.1, r.2) ∉ recordsOf es₁ ∧ (name, r.1, r.2) ∉ recordsOf es₂) :
    ∃ k, (∀ r ∈ b, r ∈ plain q ↔ r ∈ b.drop k) ∧ (noTrunc name es₂ = true → k = 0 ∨ b.length ≤ k) := by
  have hW := replay_batch_suffix es₁ es₂ f name p b qs h
  rw [hq] at hW
  obtain ⟨pre, k, post, h1, _, h3, h4, h5⟩ := hW
  refine ⟨k, fun r hr => ?_, h5⟩
  rw [h1]
  simp only [List.mem_append]
  constructor
  · rintro ((h | h) | h)
    · exact absurd (h3 r h) (hfresh r hr).1
    · exact h
    · exact absurd (h4 r h) (hfresh r hr).2
  · intro h; exact Or.inl (Or.inr h)

/-- **all or nothing**: no truncation of the queue after the batch, fresh records: either every
    record of the batch is in the recovered queue or none is -/
theorem batch_all_or_nothing (es₁ es₂ : List (Nat × Entry)) (f : Nat) (name : Bytes) (p : Nat)
    (b : List (Nat × Bytes)) (qs : MemQueues) (q : MemQueue)
    (h : replayEntries [] (es₁ ++ [(f, Entry.append name p b)] ++ es₂) = some qs)
    (hq : qs.get? name = some q)
    (hfresh : ∀ r ∈ b, (name, r.1, r.2) ∉ recordsOf es₁ ∧ (name, r.1, r.2) ∉ recordsOf es₂)
    (hnt : noTrunc name es₂ = true) :
    (∀ r ∈ b, r ∈ plain q) ∨ (∀ r ∈ b, r ∉ plain q) := by
  obtain ⟨k, h1, h2⟩ := batch_suffix_fresh es₁ es₂ f name p b qs q h hq hfresh
  rcases h2 hnt with hk | hk
  · left; intro r hr; rw [h1 r hr, hk]; exact hr
  · right; intro r hr; rw [h1 r hr, List.drop_of_length_le hk]; simp

/-- **assemble_whole_entry.** Every entry delivered by the record reader started in its initial
    state is the concatenated payloads of a complete run (`Full`, or `First, Middle*, Last`) of
    consecutive frame events of its input. -/
theorem assemble_whole_entry (evs : List RdEv) (buf : Bytes) (attr : Nat) (a : Nat) (bytes : Bytes)
    (h : RecEv.entry a bytes ∈ assemble { within := false, buf := buf, attr := attr } evs) :
    ∃ pre run post, evs = pre ++ evsOf run ++ post ∧ Complete run ∧ bytes = payloadOfRun run :=
  assemble_runs evs { within := false, buf := buf, attr := attr } [] (fun h => by cases h) a bytes h

/-- a batch of three records after an earlier record, then a truncation through position 1:
    what is left of the batch is its suffix `drop 1`, and nothing before it -/
example :
    (replayEntries []
      ([(0, .touch [1] 0), (0, .append [1] 0 [(0, [7])])] ++
        [(0, Entry.append [1] 1 [(1, [8]), (2, [9]), (3, [10])])] ++ [(0, .truncate [1] 1)])).map
      (fun qs => (qs.get? [1]).map plain) = some (some [(2, [9]), (3, [10])]) := by decide +kernel

/-- the same list without the truncation: the whole batch after the earlier record -/
example :
    (replayEntries []
      ([(0, .touch [1] 0), (0, .append [1] 0 [(0, [7])])] ++
        [(0, Entry.append [1] 1 [(1, [8]), (2, [9]), (3, [10])])] ++ [])).map
      (fun qs => (qs.get? [1]).map plain) = some (some [(0, [7]), (1, [8]), (2, [9]), (3, [10])]) := by decide +kernel

/-- the theorem instantiated on the first list (hypothesis discharged by evaluation) -/
example : ∃ qs, Whole [(1, [8]), (2, [9]), (3, [10])] [1]
      (recordsOf [(0, .touch [1] 0), (0, .append [1] 0 [(0, [7])])]) (recordsOf [(0, .truncate [1] 1)])
      (noTrunc [1] [(0, .truncate [1] 1)]) (MemQueues.get? qs [1]) := by
  have h : (replayEntries []
      ([(0, .touch [1] 0), (0, .append [1] 0 [(0, [7])])] ++
        [(0, Entry.append [1] 1 [(1, [8]), (2, [9]), (3, [10])])] ++ [(0, .truncate [1] 1)])).isSome = true := by
    decide +kernel
  obtain ⟨qs, hqs⟩ := Option.isSome_iff_exists.mp h
  exact ⟨qs, replay_batch_suffix _ _ 0 [1] 1 _ qs hqs⟩

/-- frames: an entry cut short by a corrupt event is not delivered; complete runs are -/
example :
    assemble { within := false, buf := [], attr := 0 }
      [.frame 0 .first [1], .corrupt 0, .frame 0 .last [2],
       .frame 0 .first [3], .frame 0 .middle [4], .frame 1 .last [5], .frame 1 .full [6]]
    = [.corrupt, .entry 0 [3, 4, 5], .entry 1 [6]] := by rfl

end MRL.C12
