/-
C13, completeness of `C13.Rejected`: the seven shapes are ALL the rejected / no-op calls. Whenever
`Log.step` returns `alreadyExists`, `missingQueue`, `past` or `appended none _`, the call is one of
the shapes of `Rejected`, hence (`C13_no_trace`) it left the log unchanged, reported 0 bytes and
emitted no effect. In particular the branch of `step` that returns `past` *after* having written
(`appendAll` failing on a batch at or above the next position) is never taken (`Step.act_does`).
-/
import MRL.Props.C13

namespace MRL.C13C
open Log C13

/-- the outcome says "rejected" or "nothing to do" -/
def IsRejection : Outcome → Prop
  | .alreadyExists | .missingQueue | .past => True
  | .appended none _ => True
  | _ => False

/-- **completeness**: a rejecting / no-op outcome only comes from a `Rejected` shape -/
theorem rejected_of_outcome (g : Geom) (l : Log) (c : Call) (tick : Bool) (order : List Bytes)
    (h : IsRejection (step g l c tick order).2.1) : Rejected l c (step g l c tick order).2.1 := by
  have hd := Step.act_does l c
  rw [Step.step_eq] at h ⊢
  cases ha : Step.act l c with
  | skip out => exact (rejected_iff_skip l c out).mpr ha
  | sync a => rw [ha] at h; exact h.elim
  | log e qs' out =>
    -- a call that logs an entry reports `created`, `deleted`, `truncated` or `appended (some _)`
    rw [ha] at h hd
    cases hd <;> exact h.elim

/-- **C13 for every rejected or no-op call**, stated on the outcome alone: the log is unchanged,
    no effect is emitted, and the reported byte count is 0. -/
theorem C13_no_trace_of_outcome (g : Geom) (l : Log) (c : Call) (tick : Bool) (order : List Bytes)
    (h : IsRejection (step g l c tick order).2.1) :
    step g l c tick order = (l, (step g l c tick order).2.1, []) ∧ walBytes (step g l c tick order).2.1 = 0 :=
  ⟨C13_no_trace g l tick order c _ (rejected_of_outcome g l c tick order h),
   C13_zero_bytes l c _ (rejected_of_outcome g l c tick order h)⟩

/-- and conversely a `Rejected` shape has a rejecting outcome: `IsRejection` characterises them -/
theorem rejected_iff (g : Geom) (l : Log) (c : Call) (tick : Bool) (order : List Bytes) :
    IsRejection (step g l c tick order).2.1 ↔ Rejected l c (step g l c tick order).2.1 := by
  constructor
  · exact rejected_of_outcome g l c tick order
  · intro h
    generalize (step g l c tick order).2.1 = out at h
    cases h <;> trivial

end MRL.C13C
