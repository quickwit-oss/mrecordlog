/-
C03 (model level) — once persisted, never undone.

FULL STATEMENTS. Let `C01R.ReachD g cap l J img b` be a reachable quadruple at a persist point
(`b.pend = []`) and run ANY list of calls `cs` from it under ANY policies, threading the
`BufWriter` (`runD`: `s.ops` = all OS operations emitted, `s.b` = what is still buffered). Assume
`g.B ≤ 65542`, serialisable journal entries (`C07.WF`) and the CRC collision clause for the frames
written during the run (`TornRun`).

* `C03_durable`: for EVERY prefix length `k` of `s.ops` and EVERY byte cut, opening the crash image
  succeeds and yields — up to the file handles, `AbsEq`, see the finding of C02Atomic — the queues
  reached after SOME prefix `cs.take i` of the calls: never older than the persist point the run
  started from, never a mixture of states, whatever was buffered, rolled over or garbage-collected.
* `C03_durable_after`: if after the first `m` calls nothing is left in the `BufWriter`
  (`(runD … (cs.take m)).b.pend = []`: after every `create`/`delete`, every `persist`, every
  mutating call under `Always`/a due `OnDelay` — `C03.buffer_empty_of_flushedAtEnd`,
  `C03.always_persists`, `C03.create_synced`) and the crash happens after those calls' operations
  (`k ≥ (runD … (cs.take m)).ops.length`), then `m ≤ i`: recovery yields a state at least as recent
  as that point.
* `C03_power_loss`: if the effects of the first `m` calls end with `flush, fsync(file),
  fsync(dir)` (after `create`, `delete`, `persist FlushAndFsync`, and every mutating call under
  `Always(FlushAndFsync)`: `forced_tail`, `persist_tail`), then their OS operations end with a
  `sync`, nothing is buffered, and every crash/power-loss image that includes that `sync`
  (`k ≥` its position) recovers a state with `m ≤ i`.

All three are the theorems of `C03DurableX.lean` at a history without restarts (`runD_hist`), started in a
`ReachD` state.
-/
import MRL.Proofs.KRun
import MRL.Props.C03
import MRL.Props.C03DurableX

namespace MRL.C03D
open H K

export MRL.K (RunSt runD logD effsD jourD)

abbrev AbsEq := H.AbsEq

def TornRun (g : Geom) (l : Log) (cs : List (Call × Bool × List Bytes)) : Prop := TornEffs (effsD g l cs)

theorem effsD_append (g : Geom) (a b : List (Call × Bool × List Bytes)) : ∀ l : Log,
    effsD g l (a ++ b) = effsD g l a ++ effsD g (logD g l a) b := by
  induction a with
  | nil => intro l; rfl
  | cons x a ih =>
    intro l; obtain ⟨c, t, o⟩ := x
    simp only [List.cons_append, effsD, logD, ih, List.append_assoc]

def evsOf (cs : List (Call × Bool × List Bytes)) : List PX.Ev := cs.map fun x => PX.Ev.call x.1 x.2.1 x.2.2

theorem evsOf_take (cs : List (Call × Bool × List Bytes)) (i : Nat) : evsOf (cs.take i) = (evsOf cs).take i :=
  List.map_take

/-- **a run of calls is a history without restarts**, started on any flushed disk `img` -/
theorem runD_hist (g : Geom) (cap : Nat) (l : Log) (J : List JE) (b : BufSt) (img : Image)
    (cs : List (Call × Bool × List Bytes)) :
    runD g cap ⟨l, J, b, []⟩ cs = ⟨PX.logX g l img (evsOf cs), J ++ PX.jourX g l img (evsOf cs),
      (toOsOps cap b (PX.effsX g l img (evsOf cs))).1, (toOsOps cap b (PX.effsX g l img (evsOf cs))).2⟩ := by
  obtain ⟨h1, h2, h3⟩ := PX.calls_eq g cs l img
  rw [runD_eq, evsOf, h1, h2, h3]; rfl

theorem C03_durable_after (g : Geom) (hB : g.B ≤ 65542) (cap : Nat) (l : Log) (J : List JE) (img : Image)
    (b : BufSt) (h : C01R.ReachD g cap l J img b) (hb : b.pend = [])
    (cs : List (Call × Bool × List Bytes))
    (hfits : ∀ j ∈ (runD g cap ⟨l, J, b, []⟩ cs).J, C07.WF j.e) (htorn : TornRun g l cs)
    (m : Nat) (hm : m ≤ cs.length)
    (hpm : (runD g cap ⟨l, J, b, []⟩ (cs.take m)).b.pend = [])
    (k cut : Nat) (hk : (runD g cap ⟨l, J, b, []⟩ (cs.take m)).ops.length ≤ k)
    (policy' : Policy) (order' : List Bytes) :
    ∃ rec i, m ≤ i ∧ i ≤ cs.length ∧
      recover g (crashImage img (runD g cap ⟨l, J, b, []⟩ cs).ops k cut) policy' order' none = .ok rec ∧
      AbsEq rec.log.queues (runD g cap ⟨l, J, b, []⟩ (cs.take i)).l.queues := by
  simp only [runD_hist g cap l J b img, evsOf_take] at hfits hpm hk ⊢
  obtain ⟨rec, i, h1, h2, h3, h4⟩ := C03DX.C03_durable_afterX g hB cap l img b
    (.base h fun j hj => hfits j (List.mem_append_left _ hj)) hb (evsOf cs)
    (fun j hj => hfits j (List.mem_append_right _ hj)) ((PX.calls_eq g cs l img).1 ▸ htorn) m
    (by rw [evsOf, List.length_map]; exact hm) hpm k cut hk policy' order'
  exact ⟨rec, i, h1, by rw [evsOf, List.length_map] at h2; exact h2, h3, h4⟩

theorem C03_durable (g : Geom) (hB : g.B ≤ 65542) (cap : Nat) (l : Log) (J : List JE) (img : Image)
    (b : BufSt) (h : C01R.ReachD g cap l J img b) (hb : b.pend = [])
    (cs : List (Call × Bool × List Bytes))
    (hfits : ∀ j ∈ (runD g cap ⟨l, J, b, []⟩ cs).J, C07.WF j.e) (htorn : TornRun g l cs)
    (k cut : Nat) (policy' : Policy) (order' : List Bytes) :
    ∃ rec i, i ≤ cs.length ∧
      recover g (crashImage img (runD g cap ⟨l, J, b, []⟩ cs).ops k cut) policy' order' none = .ok rec ∧
      AbsEq rec.log.queues (runD g cap ⟨l, J, b, []⟩ (cs.take i)).l.queues := by
  -- the case `m = 0` of `C03_durable_after`
  obtain ⟨rec, i, _, hi, hr, hq⟩ := C03_durable_after g hB cap l J img b h hb cs hfits htorn 0 (Nat.zero_le _) hb k cut
    (Nat.zero_le _) policy' order'
  exact ⟨rec, i, hi, hr, hq⟩

/-- a `create`/`delete` that is not rejected ends with `flush, fsync(file), fsync(dir)` -/
theorem forced_tail (g : Geom) (l : Log) (c : Call) (tick : Bool) (order : List Bytes)
    (hc : Step.isForced c = true) (hne : (l.step g c tick order).2.2 ≠ []) :
    ∃ pre f, (l.step g c tick order).2.2 = pre ++ [.flush, .fsyncFile f, .fsyncDir] :=
  C03.step_triple_tail g l tick order c (fun a h => by subst h; cases hc) hne (by simp [Step.tailSync, hc])

/-- an explicit `persist FlushAndFsync` is `flush, fsync(file), fsync(dir)` -/
theorem persist_tail (g : Geom) (l : Log) (tick : Bool) (order : List Bytes) :
    (l.step g (.persist .flushAndFsync) tick order).2.2 = [] ++ [.flush, .fsyncFile l.cur, .fsyncDir] := rfl

theorem C03_power_loss (g : Geom) (hB : g.B ≤ 65542) (cap : Nat) (l : Log) (J : List JE) (img : Image)
    (b : BufSt) (h : C01R.ReachD g cap l J img b) (hb : b.pend = [])
    (cs : List (Call × Bool × List Bytes))
    (hfits : ∀ j ∈ (runD g cap ⟨l, J, b, []⟩ cs).J, C07.WF j.e) (htorn : TornRun g l cs)
    (m : Nat) (hm : m ≤ cs.length) (pre : List Effect) (f : Nat)
    (htail : effsD g l (cs.take m) = pre ++ [.flush, .fsyncFile f, .fsyncDir]) :
    -- the operations of the first `m` calls end with a `sync` …
    (runD g cap ⟨l, J, b, []⟩ (cs.take m)).ops.getLast? = some .sync ∧
    -- … and every image that includes it recovers a state at least as recent
    ∀ k cut policy' order', (runD g cap ⟨l, J, b, []⟩ (cs.take m)).ops.length ≤ k →
      ∃ rec i, m ≤ i ∧ i ≤ cs.length ∧
        recover g (crashImage img (runD g cap ⟨l, J, b, []⟩ cs).ops k cut) policy' order' none = .ok rec ∧
        AbsEq rec.log.queues (runD g cap ⟨l, J, b, []⟩ (cs.take i)).l.queues := by
  have hft := C03DX.fsync_tail cap b pre f
  rw [← htail] at hft
  have hops : (runD g cap ⟨l, J, b, []⟩ (cs.take m)).ops = (toOsOps cap b (effsD g l (cs.take m))).2 := by
    rw [runD_eq]; simp
  have hbuf : (runD g cap ⟨l, J, b, []⟩ (cs.take m)).b = (toOsOps cap b (effsD g l (cs.take m))).1 := by
    rw [runD_eq]
  refine ⟨by rw [hops]; exact hft.2, ?_⟩
  intro k cut policy' order' hk
  exact C03_durable_after g hB cap l J img b h hb cs hfits htorn m hm (by rw [hbuf]; exact hft.1) k cut hk
    policy' order'

end MRL.C03D
