/-
C16: memory accounting. `usedBytes` is exactly names + payloads + one `RecordMeta` per record;
truncation gives back exactly the evicted payloads and metadata; empty queues cost their names.
-/
import MRL.Proofs.QMemQueue

namespace MRL.C16

/-- payload bytes held by a queue -/
def payloadBytes (q : MemQueue) : Nat := (q.recs.map (·.payload.length)).sum

def nameBytes (qs : MemQueues) : Nat := (qs.map (·.1.length)).sum
def totalPayload (qs : MemQueues) : Nat := (qs.map fun kv => payloadBytes kv.2).sum
def totalRecords (qs : MemQueues) : Nat := (qs.map (·.2.recs.length)).sum

/-- payload bytes of the records at positions `≤ p` -/
def evictedBytes (q : MemQueue) (p : Nat) : Nat :=
  ((q.recs.filter (·.pos ≤ p)).map (·.payload.length)).sum

theorem size_eq (msz : Nat) (q : MemQueue) : q.size msz = payloadBytes q + msz * q.recs.length := by
  simp [MemQueue.size, payloadBytes, Nat.mul_comm]

/-- **C16.** per-queue form: name + payloads + `msz` per record -/
theorem C16_used_exact (msz : Nat) (qs : MemQueues) :
    MemQueues.usedBytes msz qs =
      (qs.map fun kv => kv.1.length + (kv.2.recs.map (·.payload.length)).sum + msz * kv.2.recs.length).sum := by
  unfold MemQueues.usedBytes
  congr 1
  apply List.map_congr_left
  intro kv _
  rw [size_eq, payloadBytes, Nat.add_assoc]

/-- **C16.** global form -/
theorem C16_used_split (msz : Nat) (qs : MemQueues) :
    MemQueues.usedBytes msz qs = nameBytes qs + totalPayload qs + msz * totalRecords qs := by
  induction qs with
  | nil => rfl
  | cons kv qs ih =>
    have h : MemQueues.usedBytes msz (kv :: qs) = kv.1.length + kv.2.size msz + MemQueues.usedBytes msz qs := by
      simp [MemQueues.usedBytes]
    rw [h, ih, size_eq]
    simp only [nameBytes, totalPayload, totalRecords, List.map_cons, List.sum_cons, Nat.mul_add]
    omega

theorem C16_used_ge (msz : Nat) (qs : MemQueues) :
    nameBytes qs + totalPayload qs ≤ MemQueues.usedBytes msz qs := by
  rw [C16_used_split]; exact Nat.le_add_right _ _

theorem C16_used_le (msz : Nat) (qs : MemQueues) :
    MemQueues.usedBytes msz qs ≤ nameBytes qs + totalPayload qs + msz * totalRecords qs :=
  Nat.le_of_eq (C16_used_split msz qs)

/-- **C16.** empty queues cost exactly their names -/
theorem C16_baseline (msz : Nat) (qs : MemQueues) (h : ∀ kv ∈ qs, kv.2.isEmpty = true) :
    MemQueues.usedBytes msz qs = nameBytes qs := by
  induction qs with
  | nil => rfl
  | cons kv qs ih =>
    have h1 : kv.2.recs = [] := by
      have := h kv List.mem_cons_self
      simpa [MemQueue.isEmpty] using this
    have ih' := ih (fun kv' hm => h kv' (List.mem_cons_of_mem _ hm))
    simp only [MemQueues.usedBytes, nameBytes, List.map_cons, List.sum_cons] at ih' ⊢
    rw [ih']
    simp [MemQueue.size, h1]

theorem truncateHead_prefix (q : MemQueue) (p : Nat) (hs : q.recs.Pairwise (·.pos < ·.pos)) (hp : q.start ≤ p) :
    (q.truncateHead p).2 = (q.recs.filter (·.pos ≤ p)).length ∧
    (q.truncateHead p).1.recs = q.recs.drop (q.recs.filter (·.pos ≤ p)).length ∧
    q.recs.filter (·.pos ≤ p) = q.recs.take (q.recs.filter (·.pos ≤ p)).length := by
  obtain ⟨h1, _, h3, _⟩ := MemQueue.truncateHead_of_le q p hs hp
  obtain ⟨s1, s2⟩ := MemQueue.sorted_take_drop hs p
  exact ⟨h3, h1.trans s2, s1⟩

/-- a truncation below the queue's start changes nothing -/
theorem C16_truncate_noop (q : MemQueue) (p : Nat) (h : q.start > p) : q.truncateHead p = (q, 0) := by
  simp [MemQueue.truncateHead, h]

/-- **C16.** A truncation gives back exactly the payload bytes of the evicted records (those at
    positions `≤ p`) plus one `RecordMeta` per evicted record. -/
theorem C16_truncate_drop (msz : Nat) (q : MemQueue) (p : Nat) (hs : q.recs.Pairwise (·.pos < ·.pos))
    (hp : q.start ≤ p) :
    (q.truncateHead p).1.size msz + evictedBytes q p + msz * (q.truncateHead p).2 = q.size msz := by
  obtain ⟨h1, h2, h3⟩ := truncateHead_prefix q p hs hp
  have hle := List.length_filter_le (·.pos ≤ p) q.recs
  unfold evictedBytes MemQueue.size
  rw [h1, h2]
  generalize (q.recs.filter (·.pos ≤ p)).length = k at hle h3 ⊢
  rw [h3]
  -- the records are the `k` evicted ones followed by those kept
  have hsum := congrArg (fun l : List Rec => (l.map (·.payload.length)).sum) (List.take_append_drop k q.recs)
  simp only [List.map_append, List.sum_append] at hsum
  rw [List.length_drop, Nat.mul_comm msz, ← hsum, Nat.sub_mul]
  have := Nat.mul_le_mul_right msz hle
  omega

theorem C16_truncate_count (q : MemQueue) (p : Nat) (hs : q.recs.Pairwise (·.pos < ·.pos)) (hp : q.start ≤ p) :
    (q.truncateHead p).2 = (q.recs.filter (·.pos ≤ p)).length :=
  (truncateHead_prefix q p hs hp).1

theorem dropLastHandle_payloads (rs : List Rec) (file : Nat) :
    (MemQueue.dropLastHandle rs file).map (·.payload.length) = rs.map (·.payload.length) := by
  have := congrArg (List.map fun x : Nat × Bytes => x.2.length) (MemQueue.dropLastHandle_map rs file)
  simpa [List.map_map, Function.comp_def] using this

/-- appending one record costs its payload plus one `RecordMeta` -/
theorem C16_append_grows (msz : Nat) (q q' : MemQueue) (file pos : Nat) (pl : Bytes)
    (h : q.appendRecord file pos pl = some q') : q'.size msz = q.size msz + pl.length + msz := by
  unfold MemQueue.appendRecord at h
  split at h
  · cases h
  · injection h with h
    subst h
    have hp := dropLastHandle_payloads q.recs file
    have hl := congrArg List.length hp
    simp only [List.length_map] at hl
    simp only [MemQueue.size, List.map_append, List.sum_append, hp, List.length_append, hl,
      List.map_cons, List.map_nil, List.sum_cons, List.sum_nil, List.length_cons, List.length_nil, Nat.add_mul]
    omega

theorem appendAll_size (msz : Nat) (file : Nat) (recs : List (Nat × Bytes)) : ∀ (q q' : MemQueue),
    Log.appendAll q file recs = some q' →
    q'.size msz = q.size msz + (recs.map (·.2.length)).sum + msz * recs.length := by
  induction recs with
  | nil => intro q q' h; cases h; simp
  | cons r rs ih =>
    intro q q' h
    obtain ⟨p, pl⟩ := r
    simp only [Log.appendAll] at h
    cases ha : q.appendRecord file p pl with
    | none => rw [ha] at h; cases h
    | some q1 =>
      rw [ha] at h
      have h1 := C16_append_grows msz q q1 file p pl ha
      have h2 := ih q1 q' h
      simp only [List.map_cons, List.sum_cons, List.length_cons, Nat.mul_succ]
      omega

def qA : MemQueue :=
  { start := 3, recs := [⟨3, [1, 2, 3], none⟩, ⟨4, [4, 5], some 0⟩, ⟨7, [6, 7, 8, 9], some 1⟩] }

def qsEx : MemQueues := [([97, 98], qA), ([99], {})]

/-- names 3 + payloads 9 + 3 records of 24 bytes = 84 -/
example : MemQueues.usedBytes 24 qsEx = 84 ∧ nameBytes qsEx = 3 ∧ totalPayload qsEx = 9 ∧ totalRecords qsEx = 3 := by
  decide

/-- truncating `..=5` evicts positions 3 and 4: 5 payload bytes and two metas -/
example : qA.recs.Pairwise (·.pos < ·.pos) ∧ qA.start ≤ 5 ∧ (qA.truncateHead 5).2 = 2 ∧ evictedBytes qA 5 = 5 ∧
    (qA.truncateHead 5).1.size 24 = 28 ∧ qA.size 24 = 81 := by
  decide

example : (qA.truncateHead 2) = (qA, 0) ∧ (qA.truncateHead 100).1.size 24 = 0 := by decide

end MRL.C16
