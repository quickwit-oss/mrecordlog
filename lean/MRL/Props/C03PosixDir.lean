/-
C03 under power loss with a LAZY DIRECTORY: unlinks that stay volatile beyond their call.

MODEL (`MRL/Model/PowerLossDir.lean`, executable). `powerImageD img ops u`: as `powerImage`, but of
the unlinks issued since the last `fsync(dir)` only the first `u` (program order) are durable; the
others are undone — the file reappears, with its last-`fsync`ed content fitted to the length it had
when it was unlinked. Directory operations persist in order; creations since the last `fsync(dir)`
are dropped. `powerImageD_all`: with `u ≥` the number of pending unlinks it is `powerImage`.

`C03_posix_dir_partial`: the statement of `C03PX.C03_posix_reachX` with `powerImageD … u`, for EVERY `u`
and every instant `k`, under ONE hypothesis on the instant: `lateSync img (opsP.take k) = false` — no
`fsync(file)` has made NEW content durable while an unlink was not yet covered by an `fsync(dir)`
(computed by the model: `DState.hard`). In the code every `fsync(file)` is immediately followed by
`fsync(dir)` (`persist`, roll-over), so the excluded instants are exactly: the power lost BETWEEN the
`fsync(file)` and the `fsync(dir)` of a persist that makes appends durable which were issued AFTER a GC
pass whose unlinks no `fsync(dir)` has covered yet (a GC pass in `truncate` under a policy that does not
fsync, or the GC pass of `open`; then appends; then the persist). `C03_posix_dir_full`
(`C03PosixDirAll.lean`) covers them.

Unlinks are issued only when everything is durable, and nothing issued after them is durable before the
next `fsync(file)`: while `lateSync = false` the image with `u` durable unlinks is the volatile image at the
instant of the `u`-th pending unlink — a between-unlinks crash image of C02A; an undone unlink just moves
the instant back. At the excluded instants the image holds, side by side, files older than every tracked
file and appends issued after their unlinks: it is no cut state of the ordered model.
-/
import MRL.Proofs.PDRun
import MRL.Props.C02Usable

namespace MRL.C03PD
open H L Buf PX PD

abbrev AbsEq := H.AbsEq

/-- all the pending unlinks durable: the model of `PowerLoss.lean` -/
theorem powerImageD_all (img : Image) (ops : List OsOpP) (u : Nat) (h : pendingUnlinks img ops ≤ u) :
    powerImageD img ops u = powerImage img ops := by
  unfold powerImageD powerImage DState.image pendingUnlinks at *
  rw [List.drop_of_length_le h]
  simp only [List.foldr_nil]
  rw [prunD_s]
  rfl

theorem C03_posix_dir_cinvx (g : Geom) (hB : g.B ≤ 65542) (cap : Nat) (l : Log) (J : List JE) (D : Image)
    (b : BufSt) (hc : CInvX g l J D) (hwJ : ∀ j ∈ J, C07.WF j.e) (hb : b.pend = []) (evs : List Ev)
    (hfits : ∀ j ∈ jourX g l D evs, C07.WF j.e) (htorn : TornEffs (effsX g l D evs))
    (m : Nat) (hm : m ≤ evs.length) (pre : List Effect) (f : Nat)
    (htail : effsX g l D (evs.take m) = pre ++ [.flush, .fsyncFile f, .fsyncDir])
    (k : Nat) (hk : (toOsOpsP cap b (effsX g l D (evs.take m))).2.length ≤ k)
    (hns : lateSync D ((toOsOpsP cap b (effsX g l D evs)).2.take k) = false) (u : Nat)
    (policy' : Policy) (order' : List Bytes) :
    ∃ rec i, m ≤ i ∧ i ≤ evs.length ∧
      recover g (powerImageD D ((toOsOpsP cap b (effsX g l D evs)).2.take k) u) policy' order' none = .ok rec ∧
      AbsEq rec.log.queues (logX g l D (evs.take i)).queues := by
  obtain ⟨p, hred⟩ := power_reductionD g hB cap l J D b hc hwJ hb evs hfits htorn m pre f htail k hk hns u
  rw [hred]
  exact runX_cut_after g hB hc hwJ evs hfits htorn m hm false _ (L.CutW.of_take false _ p _) policy' order'

/-- **C03 under power loss with a lazy directory** (every `u`; every instant at which no
    `fsync(file)` has made new content durable while unlinks were pending) -/
theorem C03_posix_dir_partial (g : Geom) (hB : g.B ≤ 65542) (cap : Nat) (l : Log) (img : Image) (b : BufSt)
    (h : C02U.ReachX g cap l img b) (hb : b.pend = []) (evs : List Ev)
    (hfits : ∀ j ∈ jourX g l img evs, C07.WF j.e) (htorn : TornEffs (effsX g l img evs))
    (m : Nat) (hm : m ≤ evs.length) (pre : List Effect) (f : Nat)
    (htail : effsX g l img (evs.take m) = pre ++ [.flush, .fsyncFile f, .fsyncDir])
    (k : Nat) (hk : (toOsOpsP cap b (effsX g l img (evs.take m))).2.length ≤ k)
    (hns : lateSync img ((toOsOpsP cap b (effsX g l img evs)).2.take k) = false) (u : Nat)
    (policy' : Policy) (order' : List Bytes) :
    ∃ rec i, m ≤ i ∧ i ≤ evs.length ∧
      recover g (powerImageD img ((toOsOpsP cap b (effsX g l img evs)).2.take k) u) policy' order' none = .ok rec ∧
      AbsEq rec.log.queues (logX g l img (evs.take i)).queues := by
  obtain ⟨J, hc, hw⟩ := C02U.reachX_boundary g hB cap h hb
  exact C03_posix_dir_cinvx g hB cap l J img b hc hw hb evs hfits htorn m hm pre f htail k hk hns u policy' order'

/-- the image is an effect-boundary image of the ordered model -/
theorem powerImageD_is_cut (g : Geom) (hB : g.B ≤ 65542) (cap : Nat) (l : Log) (img : Image) (b : BufSt)
    (h : C02U.ReachX g cap l img b) (hb : b.pend = []) (evs : List Ev)
    (hfits : ∀ j ∈ jourX g l img evs, C07.WF j.e) (htorn : TornEffs (effsX g l img evs))
    (m : Nat) (pre : List Effect) (f : Nat)
    (htail : effsX g l img (evs.take m) = pre ++ [.flush, .fsyncFile f, .fsyncDir])
    (k : Nat) (hk : (toOsOpsP cap b (effsX g l img (evs.take m))).2.length ≤ k)
    (hns : lateSync img ((toOsOpsP cap b (effsX g l img evs)).2.take k) = false) (u : Nat) :
    ∃ p, powerImageD img ((toOsOpsP cap b (effsX g l img evs)).2.take k) u =
      applyOsOps (diskXs g l img (evs.take m))
        (directOps ((effsX g (logX g l img (evs.take m)) (diskXs g l img (evs.take m)) (evs.drop m)).take p)) := by
  obtain ⟨J, hc, hw⟩ := C02U.reachX_boundary g hB cap h hb
  exact power_reductionD g hB cap l J img b hc hw hb evs hfits htorn m pre f htail k hk hns u

end MRL.C03PD
