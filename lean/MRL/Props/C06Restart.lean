/-
C06, restart leg: at every state reachable from an empty directory — calls and restarts in any
order — the tracked files `l.files` are a contiguous run ending at the file being written; every
restart and every `truncate`/`delete_queue` leaves as oldest tracked file one that is not older than
the file being written before it, or one some queue still references; GC releases nothing referenced.
These statements are about the tracker; that the directory holds exactly the tracked files, each of
the nominal size except possibly an empty successor of the current file (which `FilesOk` excludes), is
`C06X.filesOkX_reachX` (`Props/C06Crash.lean`; every state here is a `ReachX` state by `ReachX.base`).
The conjunct on `disk_used_bytes` is the definition of `Log.diskUsed`.
-/
import MRL.Proofs.LegRestart
import MRL.Props.C06

namespace MRL.C06R
open C01R Restart C06

variable {g : Geom} {cap : Nat}

/-- **`FilesOk` is an invariant of the end-to-end system.** -/
theorem filesOk_reach (hB : g.B ≤ 65542) {l : Log} {J : List JE} {img : Image} {b : BufSt}
    (h : ReachD g cap l J img b) : (∀ j ∈ J, C07.WF j.e) → FilesOk l := by
  intro hwf
  -- the disk invariant of reachable states says which files are tracked (`G.Tape`)
  obtain ⟨init, t, afs, ht, _⟩ := (reach_rinv g hB cap h hwf).c.disk
  exact filesOk_range ht.files ht.cur

/-- **C06 at every restart of a reachable state.** -/
theorem C06_reach_open (hB : g.B ≤ 65542) {s s' : Sys} (h : Reach g cap s) (hwf : WFJ s)
    {policy : Policy} {order : List Bytes} (hr : Reopens g cap s policy order s') :
    FilesOk s'.l ∧ s'.l.diskUsed g = s'.l.files.length * g.fileBytes ∧
    (∀ f₀, s'.l.files.head? = some f₀ → s.l.cur ≤ f₀ ∨ s'.l.queues.refsFile f₀ = true) ∧
    (∀ lp e0 io r, recoverPre g s.disk policy none = .ok (lp, e0, io) →
      recover g s.disk policy order none = .ok r →
      ∀ f, Effect.unlink f ∈ r.effects → r.log.queues.refsFile f = false ∧ f ≠ r.log.cur ∧ f ∉ r.log.files) := by
  obtain ⟨lp, e0, io, r, hpre, hrec, rfl⟩ := hr
  obtain ⟨_, hf, hc⟩ := reopen_facts hB h hwf policy order lp e0 io r hpre hrec
  have hok : FilesOk lp := (filesOk_reach hB h hwf).same hf hc
  obtain ⟨h1, h2, h3, _⟩ := C06_open g order s.disk policy none r lp e0 io hpre hrec hok
  refine ⟨h1, h2, by rw [← hc]; exact h3, ?_⟩
  intro lp' e0' io' r' hpre' hrec'
  rw [hpre] at hpre'
  simp only [Except.ok.injEq, Prod.mk.injEq] at hpre'
  obtain ⟨rfl, rfl, rfl⟩ := hpre'
  exact (C06_open g order s.disk policy none r' lp e0 io hpre hrec' hok).2.2.2

/-- **C06 at every `truncate`/`delete_queue` of a reachable state.** -/
theorem C06_reach_reclaim (hB : g.B ≤ 65542) {s : Sys} (h : Reach g cap s) (hwf : WFJ s) (c : Call)
    (tick : Bool) (order : List Bytes) (hc : Step.isGcCall c = true) :
    let r := Log.step g s.l c tick order
    FilesOk r.1 ∧ r.1.diskUsed g = r.1.files.length * g.fileBytes ∧
    (r.2.1 ≠ .missingQueue → ∀ f₀, r.1.files.head? = some f₀ →
      s.l.cur ≤ f₀ ∨ r.1.queues.refsFile f₀ = true) ∧
    (∀ f, Effect.unlink f ∈ r.2.2 → r.1.queues.refsFile f = false ∧ f ≠ r.1.cur ∧ f ∉ r.1.files) := by
  intro r
  have hok := filesOk_reach hB h hwf
  obtain ⟨h1, h2, h3⟩ := C06_reclaim g s.l c tick order hok hc
  refine ⟨h1, h2, h3, fun f hf => ?_⟩
  obtain ⟨a, b, c'⟩ := no_premature_release g s.l c tick order f hf
  exact ⟨a, b, c' hok⟩

/-- non-vacuity: the initial state is reachable and satisfies the invariant; so does every
    restart of it -/
example (hB : g.B ≤ 65542) : ∃ s, Reach g cap s ∧ FilesOk s.l ∧ ∃ s', Reopens g cap s .doNothing [] s' ∧ FilesOk s'.l := by
  obtain ⟨s, hs, hJ⟩ := reach_init (g := g) (cap := cap) hB .doNothing []
  have hwf : WFJ s := by intro j hj; rw [hJ] at hj; cases hj
  obtain ⟨s', hs'⟩ := reopens_exists hB hs hwf .doNothing []
  exact ⟨s, hs, filesOk_reach hB hs hwf, s', hs', (C06_reach_open hB hs hwf hs').1⟩

end MRL.C06R
