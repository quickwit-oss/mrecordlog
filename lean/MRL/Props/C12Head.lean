/-
C12, the missing head made exact.

`C12.batch_suffix_fresh`, `C12X.no_hole`, `CD.C12_crash_no_hole_clean` say that the records of a
delivered batch `b` present in the recovered queue are a suffix `b.drop k`, and constrain `k` only
when NO truncate of the queue is delivered after the batch. Here the surviving records are
characterised exactly, from the entries `es₂` delivered after the batch:

* `wiped name es₂` (a `DeleteQueue` or a `RecordPosition` entry of that queue is among them): NO record
  of the batch is in the recovered queue. (Replaying a `RecordPosition` entry on a non-empty queue
  replaces it by an empty one — `ack_position` — which can only happen in a damaged replay, the writer
  emitting such entries for empty queues only.)
* otherwise they are exactly the records whose position is above the largest bound `T` of the truncate
  entries of that queue among them (`maxB (truncs name es₂)`), or all of them if there is none.

Hypothesis: the records of `b` are not records of an append to the same queue delivered AFTER it
(the incarnation caveat; records delivered BEFORE the batch do not matter here). `head_exact` is
about any successful replay; `C12_crash_head_clean` instantiates it for `recover` on damaged images
of crash-reachable states (`Img.CleanDamage`).
-/
import MRL.Props.CrashDamageClean

namespace MRL.C12H
open Rec

/-- does the entry remove every record of queue `name`? -/
def wipes (name : Bytes) : Entry → Bool
  | .touch q _ => q == name
  | .delete q _ => q == name
  | _ => false

/-- the truncation bound of the entry, if it truncates queue `name` -/
def truncOf (name : Bytes) : Entry → List Nat
  | .truncate q p => if q == name then [p] else []
  | _ => []

def wiped (name : Bytes) (es : List (Nat × Entry)) : Bool := es.any fun fe => wipes name fe.2

/-- the bounds of the truncate entries of queue `name`, in order -/
def truncs (name : Bytes) (es : List (Nat × Entry)) : List Nat := es.flatMap fun fe => truncOf name fe.2

/-- the largest element -/
def maxB : List Nat → Option Nat
  | [] => none
  | a :: l => some (match maxB l with | none => a | some m => max a m)

theorem all_lt_maxB (x : Nat) : ∀ l : List Nat,
    (∀ T ∈ l, T < x) ↔ (match maxB l with | none => True | some M => M < x) := by
  intro l
  induction l with
  | nil => simp [maxB]
  | cons a l ih =>
    simp only [List.mem_cons, forall_eq_or_imp, maxB, ih]
    cases maxB l with
    | none => simp
    | some m => simp only; exact Nat.max_lt.symm

/-- record `r` is in the queue, if there is one -/
def InQ (x : Option MemQueue) (r : Nat × Bytes) : Prop := ∃ q, x = some q ∧ r ∈ plain q

theorem inQ_none (r : Nat × Bytes) : ¬ InQ none r := fun ⟨_, h, _⟩ => by cases h

theorem inQ_some (q : MemQueue) (r : Nat × Bytes) : InQ (some q) r ↔ r ∈ plain q :=
  ⟨fun ⟨_, h, hr⟩ => by cases h; exact hr, fun h => ⟨q, rfl, h⟩⟩

theorem plain_withNext (p : Nat) : plain (MemQueue.withNextPosition p) = [] := rfl

theorem mem_plain_truncate (q : MemQueue) (hq : C05.QInv q) (p : Nat) (r : Nat × Bytes) :
    r ∈ plain (q.truncateHead p).1 ↔ r ∈ plain q ∧ p < r.1 := by
  rw [(Drop.truncate_plain q p hq).1, List.mem_filter, decide_eq_true_eq]

theorem step_inQ {qs qs' : MemQueues} {f : Nat} {e : Entry} (h : replayEntry qs f e = some qs') (hI : QsInv qs)
    (name : Bytes) (r : Nat × Bytes) (hfr : (name, r.1, r.2) ∉ recordsOf [(f, e)]) :
    InQ (qs'.get? name) r ↔ (InQ (qs.get? name) r ∧ wipes name e = false ∧ ∀ T ∈ truncOf name e, T < r.1) := by
  obtain ⟨ho, hother⟩ := replayEntry_get? h
  by_cases hn : name = e.queue
  · subst hn
    cases e with
    | append q p recs =>
      simp only [Entry.slot, Entry.queue] at ho ⊢
      simp only [wipes, truncOf, List.not_mem_nil, false_implies, implies_true, and_true]
      have hnr : r ∉ recs := fun hr => hfr (mem_recordsOf_append f q p recs r hr)
      cases ha : Log.appendAll ((qs.get? q).getD (MemQueue.withNextPosition p)) f recs with
      | none => rw [ha] at ho; cases ho
      | some q'' =>
        rw [ha] at ho
        simp only [Option.map_some, Option.some.injEq] at ho
        rw [← ho, inQ_some, plain_appendAll f recs _ _ ha, List.mem_append]
        cases hg : qs.get? q with
        | none =>
          simp only [Option.getD_none, plain_withNext, List.not_mem_nil, false_or]
          exact ⟨fun h => absurd h hnr, fun h => absurd h (inQ_none r)⟩
        | some q0 =>
          simp only [Option.getD_some, inQ_some]
          exact ⟨fun h => h.elim id (fun h => absurd h hnr), Or.inl⟩
    | truncate q p =>
      simp only [Entry.slot, Entry.queue, Option.some.injEq] at ho ⊢
      simp only [wipes, truncOf, beq_self_eq_true, if_true, List.mem_singleton, forall_eq, true_and]
      rw [← ho]
      cases hg : qs.get? q with
      | none => simp only [Option.map_none]; exact ⟨fun h => absurd h (inQ_none r), fun h => absurd h.1 (inQ_none r)⟩
      | some q0 =>
        simp only [Option.map_some, inQ_some]
        exact mem_plain_truncate q0 (all_get hI.2 hg) p r
    | touch q p =>
      simp only [Entry.slot, Entry.queue, Option.some.injEq] at ho ⊢
      simp only [wipes, beq_self_eq_true, Bool.true_eq_false, false_and, and_false, iff_false]
      rw [← ho, inQ_some, plain_withNext]
      simp
    | delete q p =>
      simp only [Entry.slot, Entry.queue, Option.some.injEq] at ho ⊢
      simp only [wipes, beq_self_eq_true, Bool.true_eq_false, false_and, and_false, iff_false]
      rw [← ho]
      exact inQ_none r
  · rw [hother name hn]
    have hq : (e.queue == name) = false := beq_eq_false_iff_ne.mpr fun h => hn h.symm
    have h1 : wipes name e = false := by
      cases e <;> simp only [wipes, Entry.queue] at hq ⊢ <;> exact hq
    have h2 : truncOf name e = [] := by
      cases e <;> simp only [truncOf, Entry.queue] at hq ⊢
      rw [hq]; rfl
    rw [h1, h2]
    simp

theorem wiped_append (name : Bytes) (a b : List (Nat × Entry)) :
    wiped name (a ++ b) = (wiped name a || wiped name b) := List.any_append

theorem truncs_append (name : Bytes) (a b : List (Nat × Entry)) :
    truncs name (a ++ b) = truncs name a ++ truncs name b := List.flatMap_append

/-- along a list of entries, from queues in which the record is present iff `w = false` and it lies
    above every bound in `Ts`: the wipes and the truncation bounds met accumulate -/
theorem replay_inQ (name : Bytes) (r : Nat × Bytes) (es : List (Nat × Entry)) (qs qs' : MemQueues) (w : Bool)
    (Ts : List Nat) (hI : QsInv qs) (h : replayEntries qs es = some qs') (hfr : (name, r.1, r.2) ∉ recordsOf es)
    (h0 : InQ (qs.get? name) r ↔ (w = false ∧ ∀ T ∈ Ts, T < r.1)) :
    (InQ (qs'.get? name) r ↔ ((w || wiped name es) = false ∧ ∀ T ∈ Ts ++ truncs name es, T < r.1)) := by
  refine (replayEntries_prefix (P := fun done qs => QsInv qs ∧
    (InQ (qs.get? name) r ↔ ((w || wiped name done) = false ∧ ∀ T ∈ Ts ++ truncs name done, T < r.1))) es
    (fun done fe rest {qs qs'} he hP hr => ?_) ⟨hI, by simpa [wiped, truncs] using h0⟩ h).2
  have hfe : (name, r.1, r.2) ∉ recordsOf [fe] := fun hm => hfr (by
    rw [he, recordsOf_append, List.mem_append, show fe :: rest = [fe] ++ rest from rfl, recordsOf_append,
      List.mem_append]
    exact .inr (.inl hm))
  refine ⟨QsInv_replayEntry hr hP.1, ?_⟩
  rw [step_inQ hr hP.1 name r hfe, hP.2, wiped_append, truncs_append]
  simp only [wiped, truncs, List.any_cons, List.any_nil, Bool.or_false, List.flatMap_cons, List.flatMap_nil,
    List.append_nil, Bool.or_eq_false_iff, List.mem_append]
  constructor
  · rintro ⟨⟨⟨a, b⟩, c⟩, d, e⟩
    exact ⟨⟨a, b, d⟩, fun T hT => hT.elim (fun h => c T (.inl h)) fun hT => hT.elim (fun h => c T (.inr h)) (e T)⟩
  · rintro ⟨⟨a, b, d⟩, c⟩
    exact ⟨⟨⟨a, b⟩, fun T hT => c T (hT.imp_right .inl)⟩, d, fun T hT => c T (.inr (.inr hT))⟩

theorem head_mem (L : List (Nat × Entry)) (qs : MemQueues) (h : replayEntries [] L = some qs)
    (es₁ es₂ : List (Nat × Entry)) (f : Nat) (name : Bytes) (p : Nat) (b : List (Nat × Bytes))
    (hL : L = es₁ ++ [(f, Entry.append name p b)] ++ es₂)
    (hfresh : ∀ r ∈ b, (name, r.1, r.2) ∉ recordsOf es₂)
    (q : MemQueue) (hq : qs.get? name = some q) :
    ∀ r ∈ b, r ∈ plain q ↔ (wiped name es₂ = false ∧ ∀ T ∈ truncs name es₂, T < r.1) := by
  subst hL
  intro r hr
  obtain ⟨qs₁, qs₂, q'', _, _, ha, hg, h, hI2⟩ := replayEntries_batch h
  -- right after the batch every record of it is there
  have hbase : InQ (qs₂.get? name) r := by
    rw [hg, inQ_some, plain_appendAll f b _ _ ha]
    exact List.mem_append_right _ hr
  have := replay_inQ name r es₂ qs₂ qs false [] hI2 h (hfresh r hr)
    ⟨fun _ => ⟨rfl, fun _ h => by cases h⟩, fun _ => hbase⟩
  rwa [hq, inQ_some, Bool.false_or, List.nil_append] at this

/-- **no missing head but a truncated one**: the records of a delivered batch present in the
    recovered queue, in the order of the batch — none after a delivered delete / `RecordPosition` of
    the queue, otherwise exactly those above the largest delivered truncation bound. -/
theorem head_exact (L : List (Nat × Entry)) (qs : MemQueues) (h : replayEntries [] L = some qs)
    (es₁ es₂ : List (Nat × Entry)) (f : Nat) (name : Bytes) (p : Nat) (b : List (Nat × Bytes))
    (hL : L = es₁ ++ [(f, Entry.append name p b)] ++ es₂)
    (hfresh : ∀ r ∈ b, (name, r.1, r.2) ∉ recordsOf es₂)
    (q : MemQueue) (hq : qs.get? name = some q) :
    b.filter (fun r => decide (r ∈ plain q)) =
      if wiped name es₂ then []
      else match maxB (truncs name es₂) with
        | none => b
        | some T => b.filter (fun r => decide (T < r.1)) := by
  have hm := head_mem L qs h es₁ es₂ f name p b hL hfresh q hq
  cases hw : wiped name es₂ with
  | true =>
    simp only [if_true]
    rw [List.filter_eq_nil_iff]
    intro r hr
    have := hm r hr
    rw [hw] at this
    simpa using this
  | false =>
    simp only [Bool.false_eq_true, if_false]
    have hm' : ∀ r ∈ b, r ∈ plain q ↔ (match maxB (truncs name es₂) with | none => True | some M => M < r.1) := by
      intro r hr
      rw [hm r hr, hw, all_lt_maxB]
      simp
    cases hmx : maxB (truncs name es₂) with
    | none =>
      rw [hmx] at hm'
      simp only
      rw [List.filter_eq_self]
      intro r hr
      simpa using (hm' r hr).mpr trivial
    | some T =>
      rw [hmx] at hm'
      simp only
      apply List.filter_congr
      intro r hr
      simp only [decide_eq_decide]
      exact hm' r hr

/-- in the vocabulary of `C12.batch_suffix_fresh`: no delivered wipe and no delivered truncate of the
    queue — the batch is whole; a truncate whose bound lies below the batch removes nothing -/
theorem head_whole (L : List (Nat × Entry)) (qs : MemQueues) (h : replayEntries [] L = some qs)
    (es₁ es₂ : List (Nat × Entry)) (f : Nat) (name : Bytes) (p : Nat) (b : List (Nat × Bytes))
    (hL : L = es₁ ++ [(f, Entry.append name p b)] ++ es₂)
    (hfresh : ∀ r ∈ b, (name, r.1, r.2) ∉ recordsOf es₂)
    (q : MemQueue) (hq : qs.get? name = some q) (hw : wiped name es₂ = false)
    (hbelow : ∀ T ∈ truncs name es₂, ∀ r ∈ b, T < r.1) : ∀ r ∈ b, r ∈ plain q := by
  intro r hr
  rw [head_mem L qs h es₁ es₂ f name p b hL hfresh q hq r hr]
  exact ⟨hw, fun T hT => hbelow T hT r hr⟩

/-- **C12_crash_head_clean.** For every crash-reachable state and every admissible damaged image:
    whatever `recover` returns is the replay of a list `L` of entries handed to the writer, and
    every delivered batch of `L` (fresh with respect to what is delivered after it) shows up in its
    queue with exactly the head a delivered truncation removed. -/
theorem C12_crash_head_clean (g : Geom) (hB : g.B ≤ 65542) (cap : Nat) (l : Log) (img : Image) (b : BufSt)
    (W : List Entry) (h : C02W.ReachXW g cap l img b W) :
    ∀ W', Img.SameShape (C02U.flushDisk img b) W' → Img.CleanDamage g (C02U.flushDisk img b) W' →
    ∀ (policy : Policy) (order : List Bytes) (r : Recovered), recover g W' policy order none = .ok r →
      ∃ L : List (Nat × Entry), (∀ fe ∈ L, fe.2 ∈ W) ∧ replayEntries [] L = some r.log.queues ∧
        ∀ es₁ es₂ f name p bt, L = es₁ ++ [(f, Entry.append name p bt)] ++ es₂ →
          (∀ rc ∈ bt, (name, rc.1, rc.2) ∉ recordsOf es₂) →
          ∀ q, r.log.queues.get? name = some q →
            bt.filter (fun rc => decide (rc ∈ plain q)) =
              if wiped name es₂ then []
              else match maxB (truncs name es₂) with
                | none => bt
                | some T => bt.filter (fun rc => decide (T < rc.1)) := by
  obtain ⟨J, _, _, _, hall⟩ := CD.C12_crash_damage_clean g hB cap l img b W h
  intro W' hshape hN policy order r hr
  obtain ⟨L, _, hLW, hL1, _⟩ := hall W' hshape hN policy order r hr
  refine ⟨L, hLW, hL1, ?_⟩
  intro es₁ es₂ f name p bt hL hfresh q hq
  exact head_exact L _ hL1 es₁ es₂ f name p bt hL hfresh q hq

/-- the same for a restart without damage (no hypothesis) -/
theorem C12_crash_head_restart (g : Geom) (hB : g.B ≤ 65542) (cap : Nat) (l : Log) (img : Image) (b : BufSt)
    (W : List Entry) (h : C02W.ReachXW g cap l img b W) :
    ∀ (policy : Policy) (order : List Bytes) (r : Recovered),
      recover g (C02U.flushDisk img b) policy order none = .ok r →
      ∃ L : List (Nat × Entry), (∀ fe ∈ L, fe.2 ∈ W) ∧ replayEntries [] L = some r.log.queues ∧
        ∀ es₁ es₂ f name p bt, L = es₁ ++ [(f, Entry.append name p bt)] ++ es₂ →
          (∀ rc ∈ bt, (name, rc.1, rc.2) ∉ recordsOf es₂) →
          ∀ q, r.log.queues.get? name = some q →
            bt.filter (fun rc => decide (rc ∈ plain q)) =
              if wiped name es₂ then []
              else match maxB (truncs name es₂) with
                | none => bt
                | some T => bt.filter (fun rc => decide (T < rc.1)) := by
  obtain ⟨J, _, _, _, hall⟩ := C12X.C12_crash_restart g hB cap l img b W h
  intro policy order r hr
  obtain ⟨L, _, hLW, hL1, _⟩ := hall policy order r hr
  refine ⟨L, hLW, hL1, ?_⟩
  intro es₁ es₂ f name p bt hL hfresh q hq
  exact head_exact L _ hL1 es₁ es₂ f name p bt hL hfresh q hq

/-- a truncate whose bound lies below the batch, a second one cutting into it: the head missing is
    exactly the records at positions `≤ 5`; `C12.batch_suffix_fresh` allows any `k` here -/
example :
    let bt : List (Nat × Bytes) := [(4, [7]), (5, [8]), (6, [9])]
    let es₁ : List (Nat × Entry) := [(0, .append [1] 0 [(0, [1]), (1, [2])])]
    let es₂ : List (Nat × Entry) := [(0, .truncate [1] 0), (0, .truncate [1] 5), (0, .truncate [2] 9)]
    ∃ qs q, replayEntries [] (es₁ ++ [(0, Entry.append [1] 4 bt)] ++ es₂) = some qs ∧ qs.get? [1] = some q ∧
      wiped [1] es₂ = false ∧ maxB (truncs [1] es₂) = some 5 ∧
      bt.filter (fun r => decide (r ∈ plain q)) = [(6, [9])] := by
  refine ⟨_, _, rfl, rfl, rfl, rfl, ?_⟩
  decide

/-- a `RecordPosition` entry delivered after the batch (its queue having been… not emptied: a
    damaged replay): the whole batch is gone -/
example :
    let bt : List (Nat × Bytes) := [(0, [7]), (1, [8])]
    let es₂ : List (Nat × Entry) := [(0, .touch [1] 2)]
    ∃ qs q, replayEntries [] ([] ++ [(0, Entry.append [1] 0 bt)] ++ es₂) = some qs ∧ qs.get? [1] = some q ∧
      wiped [1] es₂ = true ∧ bt.filter (fun r => decide (r ∈ plain q)) = [] := by
  refine ⟨_, _, rfl, rfl, rfl, ?_⟩
  decide

end MRL.C12H
