/-
C12, crash leg: a batch is atomic across a crash. If an `append` of several payloads is in
flight when the process dies, then after recovery the queue holds either exactly the records it
had before, or those plus ALL the records of the batch at consecutive fresh positions — never a
strict non-empty prefix of the batch, never a hole.
-/
import MRL.Proofs.LegCrash

namespace MRL.C12K
open Log C02A Crash

/-- **C12 across a crash.** `mq` is the queue before the call; the call, had it completed, would
    have returned `.appended (some last) w`. -/
theorem C12_crash_batch_atomic (g : Geom) (hB : g.B ≤ 65542) (cap : Nat) (l : Log) (J : List JE)
    (img : Image) (b : BufSt) (h : C01R.ReachD g cap l J img b) (hb : b.pend = [])
    (q : Bytes) (pos : Option Nat) (pls : List Bytes) (tick : Bool) (order : List Bytes)
    (hfits : ∀ j ∈ J ++ l.stepJ g (.append q pos pls) order, C07.WF j.e)
    (htorn : TornStep g l (.append q pos pls) tick order) (k cut : Nat) (policy' : Policy)
    (order' : List Bytes) (mq : MemQueue) (hg : l.queues.get? q = some mq) (last w : Nat)
    (hout : (l.step g (.append q pos pls) tick order).2.1 = .appended (some last) w) :
    ∃ rec p, recover g (crashDisk g cap l img b (.append q pos pls) tick order k cut) policy' order' none
        = .ok rec ∧
      mq.nextPosition ≤ p ∧ (numberFrom p pls).map (·.1) = List.range' p pls.length ∧
      ∃ sq, C18.view rec.log q = some sq ∧
        ((sq.recs = mq.abs.recs ∧ sq.next = mq.nextPosition) ∨
         (sq.recs = mq.abs.recs ++ numberFrom p pls ∧ sq.next = last + 1)) := by
  obtain ⟨rec, hrec, _, hI, hv⟩ :=
    crash_views g hB cap l J img b h hb (.append q pos pls) tick order hfits htorn k cut policy' order'
  obtain ⟨mq', p, h1, h2, h3, h4, h5⟩ :=
    C04.C04_model_append_fresh g l hI tick order q pos pls last w mq hg hout
  refine ⟨rec, p, hrec, h2, h4, ?_⟩
  rcases hv with hv | hv
  · refine ⟨mq.abs, ?_, .inl ⟨rfl, rfl⟩⟩
    rw [hv q]; unfold C18.view; rw [hg]; rfl
  · refine ⟨mq'.abs, ?_, .inr ⟨h3, ?_⟩⟩
    · rw [hv q]; unfold C18.view; rw [h1]; rfl
    · show mq'.nextPosition = last + 1
      omega

/-- spelled out: the number of records of `q` after recovery is the old one or the old one plus
    the whole batch; in particular no strict non-empty prefix of the batch survives alone -/
theorem C12_crash_no_partial_batch (g : Geom) (hB : g.B ≤ 65542) (cap : Nat) (l : Log) (J : List JE)
    (img : Image) (b : BufSt) (h : C01R.ReachD g cap l J img b) (hb : b.pend = [])
    (q : Bytes) (pos : Option Nat) (pls : List Bytes) (tick : Bool) (order : List Bytes)
    (hfits : ∀ j ∈ J ++ l.stepJ g (.append q pos pls) order, C07.WF j.e)
    (htorn : TornStep g l (.append q pos pls) tick order) (k cut : Nat) (policy' : Policy)
    (order' : List Bytes) (mq : MemQueue) (hg : l.queues.get? q = some mq) (last w : Nat)
    (hout : (l.step g (.append q pos pls) tick order).2.1 = .appended (some last) w) :
    ∃ rec sq, recover g (crashDisk g cap l img b (.append q pos pls) tick order k cut) policy' order' none
        = .ok rec ∧ C18.view rec.log q = some sq ∧
      (sq.recs.length = mq.recs.length ∨ sq.recs.length = mq.recs.length + pls.length) ∧
      ∀ p j, 0 < j → j < pls.length → sq.recs ≠ mq.abs.recs ++ (numberFrom p pls).take j := by
  obtain ⟨rec, p, hrec, _, _, sq, hsq, hcases⟩ :=
    C12_crash_batch_atomic g hB cap l J img b h hb q pos pls tick order hfits htorn k cut policy' order'
      mq hg last w hout
  have hlen : (mq.abs.recs).length = mq.recs.length := by simp [MemQueue.abs]
  have hnf : ∀ p, (numberFrom p pls).length = pls.length := fun p => numberFrom_length p pls
  have hl : sq.recs.length = mq.recs.length ∨ sq.recs.length = mq.recs.length + pls.length := by
    rcases hcases with ⟨h1, _⟩ | ⟨h1, _⟩
    · left; rw [h1, hlen]
    · right; rw [h1, List.length_append, hlen, hnf]
  refine ⟨rec, sq, hrec, hsq, hl, ?_⟩
  intro p' j hj0 hj he
  have := congrArg List.length he
  rw [List.length_append, List.length_take, hnf, hlen] at this
  omega

end MRL.C12K
