/-
Non-vacuity on the crash-reachable state `S*`: the hypotheses of the crash-level damage theorems hold
simultaneously on a concrete, non-trivial state, and their conclusions say something there.

`S*` = (`R2.log`, `img6`, empty buffer) is the crash-reachable state of `NonVacuityHistory.lean`
(`reachS : C02W.ReachXW g 0 R2.log img6 {} Wfin`): a crash in the middle of an append (torn frame on
disk), recovery, three completed appends, a crash between two unlinks of a GC pass, recovery. Its
directory: 7 files of 32 bytes, 17 frames; its queue "a" holds the batches B = (2,[5]),(3,[6]) and
C = (4,[7]),(5,[8]), each written as 6 frames over 3–4 files.

C08 under damage: the layout-level clause `NoAccidentalFrameImgX` of `C08X.C08_crash_genuine` is not
satisfied by the undamaged image (`old_clause_fails`), nor by any image with a valid frame
(`CD.old_clause_forces_none`): that theorem says nothing on images that still hold a frame. The
byte-level clause `Img.CleanDamage` holds without damage (`clean6`) and for `imgD`, one payload byte of
a live Middle frame changed (`cleanD`: all 140 cursor positions of the 14 blocks re-checked, checksums
evaluated). C08, C09, C12 and `C10MF` are instantiated on `S*` with `imgD`; C06X and `C10V` on `S*`.
The power-loss theorems (C03) are instantiated in `NonVacuityPower.lean` and `NonVacuityDir.lean`, the
`ReachD`-level theorems in `NonVacuity2.lean`, further crash-level ones in `NonVacuity3.lean`.
All equations are proved by kernel evaluation (`decide +kernel` after rewriting with the equations of
`MRL/Proofs/EvalTwin.lean`, which hold for all arguments).
-/
import MRL.Props.NonVacuityHistory
import MRL.Proofs.EvalCheck
import MRL.Props.C06Crash
import MRL.Props.CrashDamageClean
import MRL.Props.C09Crash
import MRL.Props.C10Reach
import MRL.Props.C10MemoryFail

namespace MRL.NV

open Codec in
def frames6 : List (Nat × Frm) :=
  [(0, .middle, [0, 0, 0, 0, 0, 0, 1, 0, 0]), (16, .last, [0, 4]), (25, .first, []),
   (32, .middle, [4, 2, 0, 0, 0, 0, 0, 0, 0]), (48, .middle, [1, 0, 97, 2, 0, 0, 0, 0, 0]),
   (64, .middle, [0, 0, 1, 0, 0, 0, 5, 3, 0]), (80, .middle, [0, 0, 0, 0, 0, 0, 1, 0, 0]), (96, .last, [0, 6]),
   (105, .first, []), (112, .middle, [4, 4, 0, 0, 0, 0, 0, 0, 0]), (128, .middle, [1, 0, 97, 4, 0, 0, 0, 0, 0]),
   (144, .middle, [0, 0, 1, 0, 0, 0, 7, 5, 0]), (160, .middle, [0, 0, 0, 0, 0, 0, 1, 0, 0]), (176, .last, [0, 8]),
   (185, .first, []), (192, .middle, [1, 1, 0, 0, 0, 0, 0, 0, 0]), (208, .last, [1, 0, 97])]


open Log Twin Codec Img Gen

theorem flush6 : C02U.flushDisk img6 {} = img6 := rfl

theorem accepted6 : accepted g (streamOf img6) 14 = frames6 := by
  simp only [accepted, acceptB, frameCrc_eq]; decide +kernel
theorem count6 : frameCount g 5 (streamOf img6) 14 = 17 := by rw [frameCount_twin]; decide +kernel

/-- the layout-level clause `NoAccidentalFrameImgX` is not satisfied by the undamaged image -/
theorem old_clause_fails : ¬ NoAccidentalFrameImgX g (C02U.flushDisk img6 {}) (C02U.flushDisk img6 {}) := by
  apply CD.old_clause_not_refl g _ 0 0 .middle [0, 0, 0, 0, 0, 0, 1, 0, 0]
  unfold Accepts
  rw [frameCrc_eq]
  decide +kernel

theorem shape_refl : SameShape img6 img6 := rfl

/-- the byte-level clause `CleanDamage` holds for the undamaged image -/
theorem clean6 : CleanDamage g img6 img6 := by
  apply CD.cleanDamage_refl
  · show (accepted g (streamOf img6) ((streamOf img6).length / g.B)).length ≤
      frameCount g ((img6.map (·.1)).headD 0) (streamOf img6) ((streamOf img6).length / g.B)
    have h1 : (streamOf img6).length / g.B = 14 := by decide +kernel
    have h2 : (img6.map (·.1)).headD 0 = 5 := rfl
    rw [h1, h2, accepted6, count6]
    decide
  · decide +kernel

/-- the damaged image: one payload byte of a Middle frame of batch C (file 9, byte 7: 1 ↦ 255) -/
def imgD : Image := img6.map fun kv => if kv.1 = 9 then (kv.1, kv.2.set 7 255) else kv

theorem shapeD : SameShape img6 imgD := by unfold SameShape; decide +kernel

theorem cleanD : CleanDamage g img6 imgD := by
  refine ⟨clean6.1, ?_⟩
  have h1 : (streamOf img6).length / g.B = 14 := by decide +kernel
  rw [h1]
  apply noAcc_of_check g _ _ 14 (by decide +kernel)
  rw [accepted6]
  simp only [checkAll, acceptB, frameCrc_eq]; decide +kernel

def RD : Recovered :=
  { log := { files := [5, 6, 7, 8, 9, 10, 11], cur := 11, off := 26,
             queues := [([97], { start := 2, recs := [{ pos := 2, payload := [5], file := none },
                                                      { pos := 3, payload := [6], file := some 5 }] })],
             policy := .doNothing },
    effects := [.ensureLen 5 32], ioCalls := 29 }

def RC : Recovered :=
  { RD with log := { RD.log with queues := [([97], { start := 2, recs :=
      [{ pos := 2, payload := [5], file := none }, { pos := 3, payload := [6], file := some 5 },
       { pos := 4, payload := [7], file := none }, { pos := 5, payload := [8], file := some 8 }] })] } }

theorem e_RD : recover g imgD .doNothing [] none = .ok RD := by rw [recover_twin]; decide +kernel
theorem e_RC : recover g img6 .doNothing [] none = .ok RC := e_RS


/-- `CD.C08_crash_genuine_clean` applies to `S*`, to the undamaged image and to the damaged one: all
    hypotheses hold simultaneously; the two recovered logs differ (the damage is not absorbed), and
    both are genuine for the same journal. -/
theorem nv_C08 : ∃ J : List JE, L.CInvX g R2.log J img6 ∧ (∀ j ∈ J, C07.WF j.e) ∧ (∀ j ∈ J, j.e ∈ Wfin) ∧
    C08X.Genuine J 5 RC ∧ C08X.Genuine J 5 RD ∧
    (∀ kv ∈ RD.log.queues, ∀ rec ∈ kv.2.recs, (kv.1, rec.pos, rec.payload) ∈ recordsOfE Wfin) ∧
    RD.log.queues ≠ RC.log.queues := by
  obtain ⟨J, hc, hw, hJW, hall⟩ := CD.C08_crash_genuine_clean g (by decide) 0 R2.log img6 {} Wfin reachS
  obtain ⟨g1, _⟩ := hall img6 shape_refl clean6 .doNothing [] RC e_RC
  obtain ⟨g2, h2⟩ := hall imgD shapeD cleanD .doNothing [] RD e_RD
  exact ⟨J, hc, hw, hJW, g1, g2, h2, by decide⟩

instance fitsDec (g : Geom) : ∀ (c : Nat) (fs : List Frm), Decidable (Fits g c fs)
  | _, [] => isTrue trivial
  | c, fr :: fs => by
    unfold Fits
    exact @instDecidableAnd _ _ _ (fitsDec g _ fs)

/-- an item layout of the tape of `S*`: the 17 frames, all genuine (tagged with their files) -/
def ais6 : List L.AItm := frames6.map fun x => ((5 + x.1 / 32, x.2), none)

theorem tape6 : streamOf img6 = L.flatJ g 0 ais6 ++ zeros 6 ++ [] ++ zeros 0 ∧ Fits g 0 (L.frs ais6) := by
  rw [flatJ_twin]; decide +kernel

/-- the item damaged: the Middle frame at position 128 (file 9, block 0), payload
    `[1,0,97,4,0,0,0,0,0]` (queue name and first record position of batch C) -/
def aD : L.AItm := ((9, (.middle, [1, 0, 97, 4, 0, 0, 0, 0, 0])), none)
def crcD : Bytes := [113, 194, 150, 169]
def pD : Bytes := [255, 0, 97, 4, 0, 0, 0, 0, 0]

/-- the hypotheses of `C09_crash_one_frame` about the damaged frame hold for `imgD` -/
theorem nv_C09_hyps :
    ais6 = ais6.take 10 ++ aD :: ais6.drop 11 ∧ aD.2 = none ∧ crcD.length = 4 ∧ pD.length = aD.1.2.2.length ∧
    frameCrc aD.1.2.1 pD ≠ leNat crcD ∧ SameShape (C02U.flushDisk img6 {}) imgD ∧
    streamOf imgD = L.flatJ g 0 (ais6.take 10 ++ C09X.damaged aD crcD pD :: ais6.drop 11) ++ zeros 6 ++ [] ++ zeros 0 := by
  refine ⟨by decide +kernel, rfl, rfl, rfl, by rw [frameCrc_eq]; decide +kernel, shapeD,
    by rw [flatJ_twin]; decide +kernel⟩

/-- … and the conclusion on it: `open` succeeds and loses exactly the records of the entry that
    frame belongs to (batch C); every other record is recovered with its position and payload -/
theorem nv_C09_concl : recover g imgD .doNothing [] none = .ok RD ∧
    (RD.log.queues.map fun kv => (kv.1, kv.2.recs.map fun r => (r.pos, r.payload))) =
      [([97], [(2, [5]), (3, [6])])] ∧
    (R2.log.queues.map fun kv => (kv.1, kv.2.recs.map fun r => (r.pos, r.payload))) =
      [([97], [(2, [5]), (3, [6]), (4, [7]), (5, [8])])] := ⟨e_RD, by decide, by decide⟩

/-- the theorem itself applies to `S*` (its item list is existential: the concrete layout `ais6` above
    shows what such a list looks like; instantiating the theorem's own list with it would need a
    uniqueness lemma for item layouts, which is not proved) -/
theorem nv_C09 : ∃ (J : List JE) (ais : List L.AItm) (z0 : Nat) (res : Bytes) (z1 : Nat),
    L.CInvX g R2.log J img6 ∧ (∀ j ∈ J, j.e ∈ Wfin) ∧
    streamOf img6 = L.flatJ g 0 ais ++ zeros z0 ++ res ++ zeros z1 ∧ Fits g 0 (L.frs ais) := by
  obtain ⟨J, ais, z0, res, z1, h1, _, h3, h4, h5, _⟩ :=
    C09X.C09_crash_one_frame g (by decide) 0 R2.log img6 {} Wfin reachS
  exact ⟨J, ais, z0, res, z1, h1, h3, h4, h5⟩

/-- `CD.C12_crash_no_hole_clean` applies to `S*` and the damaged image `imgD` -/
theorem nv_C12 : ∃ L : List (Nat × Entry), (∀ fe ∈ L, fe.2 ∈ Wfin) ∧ Rec.replayEntries [] L = some RD.log.queues ∧
    (∀ es₁ es₂ f name p bt, L = es₁ ++ [(f, Entry.append name p bt)] ++ es₂ →
      (∀ rc ∈ bt, (name, rc.1, rc.2) ∉ Rec.recordsOf es₁ ∧ (name, rc.1, rc.2) ∉ Rec.recordsOf es₂) →
      ∀ q, RD.log.queues.get? name = some q →
        ∃ k, bt.filter (fun rc => decide (rc ∈ Rec.plain q)) = bt.drop k ∧
          (Rec.noTrunc name es₂ = true → k = 0 ∨ bt.length ≤ k)) ∧
    (∀ name rc, (name, rc.1, rc.2) ∉ Rec.recordsOf L →
      ∀ q, RD.log.queues.get? name = some q → rc ∉ Rec.plain q) :=
  CD.C12_crash_no_hole_clean g (by decide) 0 R2.log img6 {} Wfin reachS imgD shapeD cleanD .doNothing [] RD e_RD

/-- on the damaged image: batch C (6 frames over files 8–10, its third frame damaged) is gone
    entirely (`k = length`), batch B (6 frames over files 5–8) is intact (`k = 0`) -/
theorem nv_C12_eval :
    let q : MemQueue := { start := 2, recs := [{ pos := 2, payload := [5], file := none },
                                                { pos := 3, payload := [6], file := some 5 }] }
    RD.log.queues.get? [97] = some q ∧
    ([(4, [7]), (5, [8])] : List (Nat × Bytes)).filter (fun rc => decide (rc ∈ Rec.plain q)) =
      ([(4, [7]), (5, [8])] : List (Nat × Bytes)).drop 2 ∧
    ([(2, [5]), (3, [6])] : List (Nat × Bytes)).filter (fun rc => decide (rc ∈ Rec.plain q)) =
      ([(2, [5]), (3, [6])] : List (Nat × Bytes)).drop 0 := by decide

/-- `C06X.filesOkX_reachX` on `S*`: the tracked files are exactly the directory, all of nominal size -/
theorem nv_C06 : C06X.FilesOkX R2.log ∧ img6.map (·.1) = R2.log.files ∧
    ∀ kv ∈ img6, kv.2.length = g.fileBytes ∨ (kv.2 = [] ∧ kv.1 = R2.log.cur + 1) :=
  C06X.filesOkX_reachX (g := g) (by decide) 0 reachS.toReachX
/-- on `S*` even the strict clause holds (no empty next file was left behind) -/
theorem nv_C06_strict : C06.FilesOk R2.log := ⟨⟨rfl, rfl, rfl, rfl, rfl, rfl, trivial⟩, rfl⟩
/-- `C06X.C06_crash_reclaim` for a `truncate` issued from `S*` -/
theorem nv_C06_reclaim :
    let r := Log.step g R2.log (.truncate [97] 3) false []
    C06X.FilesOkX r.1 ∧ r.1.diskUsed g = r.1.files.length * g.fileBytes ∧
    (r.2.1 ≠ .missingQueue → ∀ f₀, r.1.files.head? = some f₀ →
      R2.log.cur ≤ f₀ ∨ r.1.queues.refsFile f₀ = true) ∧
    (∀ f, Effect.unlink f ∈ r.2.2 → r.1.queues.refsFile f = false ∧ f ≠ r.1.cur ∧ f ∉ r.1.files) :=
  C06X.C06_crash_reclaim (g := g) (by decide) 0 reachS.toReachX (.truncate [97] 3) false [] rfl
/-- no file of `img6` exceeds its nominal size (`C10V.reach_noOversize`): `open` reads it unclipped -/
theorem nv_C10 : C10A.NoOversize g img6 := C10V.reach_noOversize g (by decide) 0 reachS.toReachX

end MRL.NV

namespace MRL.NV3
open Twin NV

/-- `C10MF.openC_trace_bounded` on the damaged image: the final state of the replay loop -/
theorem nv3_C10MF : C16.nameBytes RD.log.queues + C16.totalPayload RD.log.queues ≤ C10.imageBytes imgD + g.fileBytes ∧
    12 * C16.totalRecords RD.log.queues ≤ C10.imageBytes imgD + g.fileBytes ∧
    12 * MemQueues.usedBytes 40 RD.log.queues ≤ (12 + 40) * (C10.imageBytes imgD + g.fileBytes) :=
  C10MF.openC_trace_bounded 40 g imgD none RD.log.queues (by rw [deliveredEvents_twin]; decide +kernel)

theorem nv3_C10MF_eval : C16.nameBytes RD.log.queues + C16.totalPayload RD.log.queues = 3 ∧
    C16.totalRecords RD.log.queues = 2 ∧ C10.imageBytes imgD + g.fileBytes = 256 := by decide +kernel

end MRL.NV3
