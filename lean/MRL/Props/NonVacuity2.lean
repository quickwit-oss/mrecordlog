/-
Non-vacuity of the `ReachD`-level damage theorems (no crash in the history).

The clause `Img.NoAccidentalFrameImg g W W'` (used by `C08V.C08_recover_genuine`,
`C12V.C12_recover_damage`) is NOT vacuous. It quantifies over the frame layouts `fs` of the tape of `W`
(`TapeLayout`: the stream is the layout of `fs`, then ZEROS — no free residue as in `ItemTape`), and on
a clean image that layout is unique (`Img.tapeLayout_unique`, `MRL/Proofs/ImgClean.lean`);
`Img.noAccImg_of_clean` derives the clause from the byte-level `Img.CleanDamage`. Below it is
established on a concrete non-trivial reachable state, for the undamaged image and for a damaged
one, and the three theorems are instantiated with non-trivial conclusions. The existential layout
of `C09V.C09_recover_one_frame_all` is INSTANTIATED (uniqueness), not only illustrated.
The other clauses: `C08G.NoAccidentalFrame` is a hypothesis on an explicit layout and is witnessed
in `C08Genuine.lean` (`exCheck`, `exNoAcc`); `C02A.TornStep` and `C03D.TornRun` are discharged on
concrete calls in `NonVacuityHistory.lean` (`torn2`, `torn6`) and `NonVacuityPower.lean` (`tornC`, `tornE`).

History 2 (geometry `B = 16`, `K = 2`, capacity 0, no crash), from the empty directory:
`open`; `create_queue "a"`; `append [[1],[2]]` (A), `append [[3],[4]]` (B), `append [[5],[6]]` (C) — each
entry is 5–6 frames and rolls over two or three times; `truncate "a" ..=1` — its GC pass unlinks
`wal-0`, `wal-1`, `wal-2`. State `T*` = (`t4.1`, `JJ`, `jm4`, empty buffer): 7 files, 16 frames (the Last
frame of A as a lead frame, B and C live with 6 frames each, the truncate entry).
The history is derived once, as a `C07F.ReachDF` derivation (`NV3.reachTF`: every `CallFits`, `CallBelow` and
the record budget discharged); `reachT` and `wfJJ` are projections of `C07F.reachDF_inv`. Also on `T*`
(namespace `NV3`): `nv3_C07_inv`, `nv3_C01` (+ `_eval`), `nv3_C10R` (`C10R.reopen_no_panic`).
-/
import MRL.Props.NonVacuityHistory
import MRL.Proofs.EvalCheck
import MRL.Proofs.ImgClean
import MRL.Props.CrashDamageClean
import MRL.Props.C09Close
import MRL.Props.C07Fits
import MRL.Props.C10NoPanicReach

namespace MRL.NV2

def a1 : Call := .append [97] none [[1],[2]]

def t1 : Log × Outcome × List Effect :=
  ({ files := [0, 1, 2, 3], cur := 3, off := 9, queues := [([97], { start := 0, recs := [{ pos := 0, payload := [1], file := none }, { pos := 1, payload := [2], file := some 0 }] })], policy := MRL.Policy.doNothing }, MRL.Outcome.appended (some 1) 79, [MRL.Effect.write 0 26 [0, 0, 0, 0, 0, 0],
    MRL.Effect.flush,
    MRL.Effect.fsyncFile 0,
    MRL.Effect.fsyncDir,
    MRL.Effect.create 1,
    MRL.Effect.setLen 1 32,
    MRL.Effect.write 1 0 [71, 233, 147, 186, 9, 0, 2, 4, 0, 0, 0, 0, 0, 0, 0, 0],
    MRL.Effect.write 1 16 [103, 128, 7, 50, 9, 0, 3, 1, 0, 97, 0, 0, 0, 0, 0, 0],
    MRL.Effect.flush,
    MRL.Effect.fsyncFile 1,
    MRL.Effect.fsyncDir,
    MRL.Effect.create 2,
    MRL.Effect.setLen 2 32,
    MRL.Effect.write 2 0 [183, 131, 19, 182, 9, 0, 3, 0, 0, 1, 0, 0, 0, 1, 1, 0],
    MRL.Effect.write 2 16 [66, 185, 127, 9, 9, 0, 3, 0, 0, 0, 0, 0, 0, 1, 0, 0],
    MRL.Effect.flush,
    MRL.Effect.fsyncFile 2,
    MRL.Effect.fsyncDir,
    MRL.Effect.create 3,
    MRL.Effect.setLen 3 32,
    MRL.Effect.write 3 0 [226, 16, 70, 22, 2, 0, 4, 0, 2]])

def jm1 : Image :=
  [(0, [205, 144, 137, 201, 9, 0, 2, 2, 0, 0, 0, 0, 0, 0, 0, 0, 178, 115, 81, 149, 3, 0, 4, 1, 0, 97, 0, 0, 0, 0, 0, 0]),
    (1, [71, 233, 147, 186, 9, 0, 2, 4, 0, 0, 0, 0, 0, 0, 0, 0, 103, 128, 7, 50, 9, 0, 3, 1, 0, 97, 0, 0, 0, 0, 0, 0]),
    (2, [183, 131, 19, 182, 9, 0, 3, 0, 0, 1, 0, 0, 0, 1, 1, 0, 66, 185, 127, 9, 9, 0, 3, 0, 0, 0, 0, 0, 0, 1, 0, 0]),
    (3, [226, 16, 70, 22, 2, 0, 4, 0, 2, 0, 0, 0, 0, 0, 0, 0, 0, 0, 0, 0, 0, 0, 0, 0, 0, 0, 0, 0, 0, 0, 0, 0])]

def t2 : Log × Outcome × List Effect :=
  ({ files := [0, 1, 2, 3, 4, 5], cur := 5, off := 25, queues := [([97], { start := 0, recs := [{ pos := 0, payload := [1], file := none }, { pos := 1, payload := [2], file := some 0 }, { pos := 2, payload := [3], file := none }, { pos := 3, payload := [4], file := some 3 }] })], policy := MRL.Policy.doNothing }, MRL.Outcome.appended (some 3) 80, [MRL.Effect.write 3 9 [161, 142, 12, 60, 0, 0, 2],
    MRL.Effect.write 3 16 [4, 133, 116, 23, 9, 0, 3, 4, 2, 0, 0, 0, 0, 0, 0, 0],
    MRL.Effect.flush,
    MRL.Effect.fsyncFile 3,
    MRL.Effect.fsyncDir,
    MRL.Effect.create 4,
    MRL.Effect.setLen 4 32,
    MRL.Effect.write 4 0 [108, 33, 207, 127, 9, 0, 3, 1, 0, 97, 2, 0, 0, 0, 0, 0],
    MRL.Effect.write 4 16 [91, 53, 161, 135, 9, 0, 3, 0, 0, 1, 0, 0, 0, 3, 3, 0],
    MRL.Effect.flush,
    MRL.Effect.fsyncFile 4,
    MRL.Effect.fsyncDir,
    MRL.Effect.create 5,
    MRL.Effect.setLen 5 32,
    MRL.Effect.write 5 0 [66, 185, 127, 9, 9, 0, 3, 0, 0, 0, 0, 0, 0, 1, 0, 0],
    MRL.Effect.write 5 16 [215, 181, 37, 255, 2, 0, 4, 0, 4]])

def jm2 : Image :=
  [(0, [205, 144, 137, 201, 9, 0, 2, 2, 0, 0, 0, 0, 0, 0, 0, 0, 178, 115, 81, 149, 3, 0, 4, 1, 0, 97, 0, 0, 0, 0, 0, 0]),
    (1, [71, 233, 147, 186, 9, 0, 2, 4, 0, 0, 0, 0, 0, 0, 0, 0, 103, 128, 7, 50, 9, 0, 3, 1, 0, 97, 0, 0, 0, 0, 0, 0]),
    (2, [183, 131, 19, 182, 9, 0, 3, 0, 0, 1, 0, 0, 0, 1, 1, 0, 66, 185, 127, 9, 9, 0, 3, 0, 0, 0, 0, 0, 0, 1, 0, 0]),
    (3, [226, 16, 70, 22, 2, 0, 4, 0, 2, 161, 142, 12, 60, 0, 0, 2, 4, 133, 116, 23, 9, 0, 3, 4, 2, 0, 0, 0, 0, 0, 0, 0]),
    (4, [108, 33, 207, 127, 9, 0, 3, 1, 0, 97, 2, 0, 0, 0, 0, 0, 91, 53, 161, 135, 9, 0, 3, 0, 0, 1, 0, 0, 0, 3, 3, 0]),
    (5, [66, 185, 127, 9, 9, 0, 3, 0, 0, 0, 0, 0, 0, 1, 0, 0, 215, 181, 37, 255, 2, 0, 4, 0, 4, 0, 0, 0, 0, 0, 0, 0])]

def t3 : Log × Outcome × List Effect :=
  ({ files := [0, 1, 2, 3, 4, 5, 6, 7, 8], cur := 8, off := 9, queues := [([97], { start := 0, recs := [{ pos := 0, payload := [1], file := none }, { pos := 1, payload := [2], file := some 0 }, { pos := 2, payload := [3], file := none }, { pos := 3, payload := [4], file := some 3 }, { pos := 4, payload := [5], file := none }, { pos := 5, payload := [6], file := some 5 }] })], policy := MRL.Policy.doNothing }, MRL.Outcome.appended (some 5) 80, [MRL.Effect.write 5 25 [161, 142, 12, 60, 0, 0, 2],
    MRL.Effect.flush,
    MRL.Effect.fsyncFile 5,
    MRL.Effect.fsyncDir,
    MRL.Effect.create 6,
    MRL.Effect.setLen 6 32,
    MRL.Effect.write 6 0 [131, 140, 27, 209, 9, 0, 3, 4, 4, 0, 0, 0, 0, 0, 0, 0],
    MRL.Effect.write 6 16 [113, 194, 150, 169, 9, 0, 3, 1, 0, 97, 4, 0, 0, 0, 0, 0],
    MRL.Effect.flush,
    MRL.Effect.fsyncFile 6,
    MRL.Effect.fsyncDir,
    MRL.Effect.create 7,
    MRL.Effect.setLen 7 32,
    MRL.Effect.write 7 0 [111, 238, 118, 213, 9, 0, 3, 0, 0, 1, 0, 0, 0, 5, 5, 0],
    MRL.Effect.write 7 16 [66, 185, 127, 9, 9, 0, 3, 0, 0, 0, 0, 0, 0, 1, 0, 0],
    MRL.Effect.flush,
    MRL.Effect.fsyncFile 7,
    MRL.Effect.fsyncDir,
    MRL.Effect.create 8,
    MRL.Effect.setLen 8 32,
    MRL.Effect.write 8 0 [251, 212, 43, 17, 2, 0, 4, 0, 6]])

def jm3 : Image :=
  [(0, [205, 144, 137, 201, 9, 0, 2, 2, 0, 0, 0, 0, 0, 0, 0, 0, 178, 115, 81, 149, 3, 0, 4, 1, 0, 97, 0, 0, 0, 0, 0, 0]),
    (1, [71, 233, 147, 186, 9, 0, 2, 4, 0, 0, 0, 0, 0, 0, 0, 0, 103, 128, 7, 50, 9, 0, 3, 1, 0, 97, 0, 0, 0, 0, 0, 0]),
    (2, [183, 131, 19, 182, 9, 0, 3, 0, 0, 1, 0, 0, 0, 1, 1, 0, 66, 185, 127, 9, 9, 0, 3, 0, 0, 0, 0, 0, 0, 1, 0, 0]),
    (3, [226, 16, 70, 22, 2, 0, 4, 0, 2, 161, 142, 12, 60, 0, 0, 2, 4, 133, 116, 23, 9, 0, 3, 4, 2, 0, 0, 0, 0, 0, 0, 0]),
    (4, [108, 33, 207, 127, 9, 0, 3, 1, 0, 97, 2, 0, 0, 0, 0, 0, 91, 53, 161, 135, 9, 0, 3, 0, 0, 1, 0, 0, 0, 3, 3, 0]),
    (5, [66, 185, 127, 9, 9, 0, 3, 0, 0, 0, 0, 0, 0, 1, 0, 0, 215, 181, 37, 255, 2, 0, 4, 0, 4, 161, 142, 12, 60, 0, 0, 2]),
    (6, [131, 140, 27, 209, 9, 0, 3, 4, 4, 0, 0, 0, 0, 0, 0, 0, 113, 194, 150, 169, 9, 0, 3, 1, 0, 97, 4, 0, 0, 0, 0, 0]),
    (7, [111, 238, 118, 213, 9, 0, 3, 0, 0, 1, 0, 0, 0, 5, 5, 0, 66, 185, 127, 9, 9, 0, 3, 0, 0, 0, 0, 0, 0, 1, 0, 0]),
    (8, [251, 212, 43, 17, 2, 0, 4, 0, 6, 0, 0, 0, 0, 0, 0, 0, 0, 0, 0, 0, 0, 0, 0, 0, 0, 0, 0, 0, 0, 0, 0, 0])]

def t4 : Log × Outcome × List Effect :=
  ({ files := [3, 4, 5, 6, 7, 8, 9], cur := 9, off := 10, queues := [([97], { start := 2, recs := [{ pos := 2, payload := [3], file := none }, { pos := 3, payload := [4], file := some 3 }, { pos := 4, payload := [5], file := none }, { pos := 5, payload := [6], file := some 5 }] })], policy := MRL.Policy.doNothing }, MRL.Outcome.truncated 2 33, [MRL.Effect.write 8 9 [161, 142, 12, 60, 0, 0, 2],
    MRL.Effect.write 8 16 [168, 199, 108, 211, 9, 0, 3, 1, 1, 0, 0, 0, 0, 0, 0, 0],
    MRL.Effect.flush,
    MRL.Effect.fsyncFile 8,
    MRL.Effect.fsyncDir,
    MRL.Effect.create 9,
    MRL.Effect.setLen 9 32,
    MRL.Effect.write 9 0 [178, 115, 81, 149, 3, 0, 4, 1, 0, 97],
    MRL.Effect.flush,
    MRL.Effect.fsyncFile 9,
    MRL.Effect.fsyncDir,
    MRL.Effect.unlink 0,
    MRL.Effect.unlink 1,
    MRL.Effect.unlink 2])

def jm4 : Image :=
  [(3, [226, 16, 70, 22, 2, 0, 4, 0, 2, 161, 142, 12, 60, 0, 0, 2, 4, 133, 116, 23, 9, 0, 3, 4, 2, 0, 0, 0, 0, 0, 0, 0]),
    (4, [108, 33, 207, 127, 9, 0, 3, 1, 0, 97, 2, 0, 0, 0, 0, 0, 91, 53, 161, 135, 9, 0, 3, 0, 0, 1, 0, 0, 0, 3, 3, 0]),
    (5, [66, 185, 127, 9, 9, 0, 3, 0, 0, 0, 0, 0, 0, 1, 0, 0, 215, 181, 37, 255, 2, 0, 4, 0, 4, 161, 142, 12, 60, 0, 0, 2]),
    (6, [131, 140, 27, 209, 9, 0, 3, 4, 4, 0, 0, 0, 0, 0, 0, 0, 113, 194, 150, 169, 9, 0, 3, 1, 0, 97, 4, 0, 0, 0, 0, 0]),
    (7, [111, 238, 118, 213, 9, 0, 3, 0, 0, 1, 0, 0, 0, 5, 5, 0, 66, 185, 127, 9, 9, 0, 3, 0, 0, 0, 0, 0, 0, 1, 0, 0]),
    (8, [251, 212, 43, 17, 2, 0, 4, 0, 6, 161, 142, 12, 60, 0, 0, 2, 168, 199, 108, 211, 9, 0, 3, 1, 1, 0, 0, 0, 0, 0, 0, 0]),
    (9, [178, 115, 81, 149, 3, 0, 4, 1, 0, 97, 0, 0, 0, 0, 0, 0, 0, 0, 0, 0, 0, 0, 0, 0, 0, 0, 0, 0, 0, 0, 0, 0])]

def JJ : List JE :=
  [{ loc := 0, attr := 0, e := MRL.Entry.touch [97] 0 },
    { loc := 1, attr := 0, e := MRL.Entry.append [97] 0 [(0, [1]),
    (1, [2])] },
    { loc := 3, attr := 3, e := MRL.Entry.append [97] 2 [(2, [3]),
    (3, [4])] },
    { loc := 5, attr := 5, e := MRL.Entry.append [97] 4 [(4, [5]),
    (5, [6])] },
    { loc := 8, attr := 8, e := MRL.Entry.truncate [97] 1 }]

def QC : Recovered :=
  { log := { files := [3, 4, 5, 6, 7, 8, 9], cur := 9, off := 16, queues := [([97], { start := 2, recs := [{ pos := 2, payload := [3], file := none }, { pos := 3, payload := [4], file := some 3 }, { pos := 4, payload := [5], file := none }, { pos := 5, payload := [6], file := some 5 }] })], policy := MRL.Policy.doNothing }, effects := [MRL.Effect.ensureLen 3 32], ioCalls := 28 }

def QD : Recovered :=
  { log := { files := [3, 4, 5, 6, 7, 8, 9], cur := 9, off := 16, queues := [([97], { start := 2, recs := [{ pos := 2, payload := [3], file := none }, { pos := 3, payload := [4], file := some 3 }] })], policy := MRL.Policy.doNothing }, effects := [MRL.Effect.ensureLen 3 32], ioCalls := 28 }

def PT : Log × List Effect × Nat :=
  ({ files := [3, 4, 5, 6, 7, 8, 9], cur := 9, off := 16, queues := [([97], { start := 2, recs := [{ pos := 2, payload := [3], file := none }, { pos := 3, payload := [4], file := some 3 }, { pos := 4, payload := [5], file := none }, { pos := 5, payload := [6], file := some 5 }] })], policy := MRL.Policy.doNothing }, [MRL.Effect.ensureLen 3 32], 28)

open Codec in
def framesT : List (Nat × Frm) :=
  [(0, .last, [0, 2]), (9, .first, []), (16, .middle, [4, 2, 0, 0, 0, 0, 0, 0, 0]),
   (32, .middle, [1, 0, 97, 2, 0, 0, 0, 0, 0]), (48, .middle, [0, 0, 1, 0, 0, 0, 3, 3, 0]),
   (64, .middle, [0, 0, 0, 0, 0, 0, 1, 0, 0]), (80, .last, [0, 4]), (89, .first, []),
   (96, .middle, [4, 4, 0, 0, 0, 0, 0, 0, 0]), (112, .middle, [1, 0, 97, 4, 0, 0, 0, 0, 0]),
   (128, .middle, [0, 0, 1, 0, 0, 0, 5, 5, 0]), (144, .middle, [0, 0, 0, 0, 0, 0, 1, 0, 0]), (160, .last, [0, 6]),
   (169, .first, []), (176, .middle, [1, 1, 0, 0, 0, 0, 0, 0, 0]), (192, .last, [1, 0, 97])]

open Log Twin Codec Img Gen NV

theorem e_t1 : s1.1.step g a1 false [] = t1 := by rw [step_twin]; decide +kernel
theorem e_jm1 : applyOsOps img1 (toOsOps 0 {} t1.2.2).2 = jm1 ∧ (toOsOps 0 {} t1.2.2).1 = {} := by decide +kernel
theorem e_t2 : t1.1.step g c3 false [] = t2 := by rw [step_twin]; decide +kernel
theorem e_jm2 : applyOsOps jm1 (toOsOps 0 {} t2.2.2).2 = jm2 ∧ (toOsOps 0 {} t2.2.2).1 = {} := by decide +kernel
theorem e_t3 : t2.1.step g c4 false [] = t3 := by rw [step_twin]; decide +kernel
theorem e_jm3 : applyOsOps jm2 (toOsOps 0 {} t3.2.2).2 = jm3 ∧ (toOsOps 0 {} t3.2.2).1 = {} := by decide +kernel
theorem e_t4 : t3.1.step g c6 false [] = t4 := by rw [step_twin]; decide +kernel
theorem e_jm4 : applyOsOps jm3 (toOsOps 0 {} t4.2.2).2 = jm4 ∧ (toOsOps 0 {} t4.2.2).1 = {} := by decide +kernel

theorem e_JJ : R0.log.stepJ g c1 [] ++ s1.1.stepJ g a1 [] ++ t1.1.stepJ g c3 [] ++ t2.1.stepJ g c4 [] ++
    t3.1.stepJ g c6 [] = JJ := by
  simp only [stepJ_twin]; decide +kernel

end MRL.NV2
namespace MRL.NV3
open Log Twin NV NV2

theorem castDF {g : Geom} {cap P n n' : Nat} {l l' : Log} {J J' : List JE} {img img' : Image} {b b' : BufSt}
    (h : C07F.ReachDF g cap P n l J img b) (e0 : n = n') (e1 : l = l') (e2 : J = J') (e3 : img = img') (e4 : b = b') :
    C07F.ReachDF g cap P n' l' J' img' b' := by subst e0 e1 e2 e3 e4; exact h

theorem fitsC1 : C07F.CallFits c1 := by unfold c1 C07F.CallFits C07F.NameFits; decide +kernel
theorem fitsApp (pls : List Bytes) (h : ∀ p ∈ pls, p.length < 2 ^ 32) : C07F.CallFits (.append [97] none pls) := h

theorem rdf0 : C07F.ReachDF g 0 100 0 R0.log [] img0 {} :=
  castDF (C07F.ReachDF.init .doNothing [] R0 hR0) rfl rfl rfl e_img0.1 e_img0.2

theorem rdf1 : C07F.ReachDF g 0 100 0 s1.1 (R0.log.stepJ g c1 []) img1 {} :=
  castDF (C07F.ReachDF.step c1 false [] rdf0 fitsC1 trivial (by decide)) rfl (by rw [e_s1]) (by simp)
    (by rw [e_s1]; exact e_img1.1) (by rw [e_s1]; exact e_img1.2)

theorem rdf2 : C07F.ReachDF g 0 100 2 t1.1 (R0.log.stepJ g c1 [] ++ s1.1.stepJ g a1 []) jm1 {} :=
  castDF (C07F.ReachDF.step a1 false [] rdf1 (fitsApp _ (by decide)) trivial (by decide)) rfl (by rw [e_t1]) rfl
    (by rw [e_t1]; exact e_jm1.1) (by rw [e_t1]; exact e_jm1.2)

theorem rdf3 : C07F.ReachDF g 0 100 4 t2.1 (R0.log.stepJ g c1 [] ++ s1.1.stepJ g a1 [] ++ t1.1.stepJ g c3 []) jm2 {} :=
  castDF (C07F.ReachDF.step c3 false [] rdf2 (fitsApp _ (by decide)) trivial (by decide)) rfl (by rw [e_t2]) rfl
    (by rw [e_t2]; exact e_jm2.1) (by rw [e_t2]; exact e_jm2.2)

theorem rdf4 : C07F.ReachDF g 0 100 6 t3.1
    (R0.log.stepJ g c1 [] ++ s1.1.stepJ g a1 [] ++ t1.1.stepJ g c3 [] ++ t2.1.stepJ g c4 []) jm3 {} :=
  castDF (C07F.ReachDF.step c4 false [] rdf3 (fitsApp _ (by decide)) trivial (by decide)) rfl (by rw [e_t3]) rfl
    (by rw [e_t3]; exact e_jm3.1) (by rw [e_t3]; exact e_jm3.2)

/-- the crash-free history as a `ReachDF` derivation: every `CallFits`, `CallBelow 100` and the
    record budget discharged; no hypothesis on the journal -/
theorem reachTF : C07F.ReachDF g 0 100 6 t4.1 JJ jm4 {} :=
  castDF (C07F.ReachDF.step c6 false [] rdf4 trivial (by show 1 < 100; decide) (by decide)) rfl (by rw [e_t4]) e_JJ
    (by rw [e_t4]; exact e_jm4.1) (by rw [e_t4]; exact e_jm4.2)

end MRL.NV3
namespace MRL.NV2
open Log Twin Codec Img Gen NV

/-- `T*` is reachable (calls only) -/
theorem reachT : C01R.ReachD g 0 t4.1 JJ jm4 {} := (C07F.reachDF_inv g (by decide) 0 100 (by decide) NV3.reachTF).1

theorem wfJJ : ∀ j ∈ JJ, C07.WF j.e := (C07F.reachDF_inv g (by decide) 0 100 (by decide) NV3.reachTF).2.1

theorem flushT : C01R.flushDisk jm4 {} = jm4 := rfl

theorem acceptedT : accepted g (streamOf jm4) 14 = framesT := by
  simp only [accepted, acceptB, frameCrc_eq]; decide +kernel
theorem countT : frameCount g 3 (streamOf jm4) 14 = 16 := by rw [frameCount_twin]; decide +kernel
theorem lenT : (streamOf jm4).length = 14 * g.B := by decide +kernel

theorem cleanT0 : (accepted g (streamOf jm4) 14).length ≤ frameCount g ((jm4.map (·.1)).headD 0) (streamOf jm4) 14 := by
  have h2 : (jm4.map (·.1)).headD 0 = 3 := rfl
  rw [h2, acceptedT, countT]; decide

theorem cleanT : CleanDamage g jm4 jm4 := by
  apply CD.cleanDamage_refl
  · have h1 : (streamOf jm4).length / g.B = 14 := by decide +kernel
    rw [h1]; exact cleanT0
  · decide +kernel

/-- the damaged image: the first payload byte of the Middle frame at position 112 (file 6, byte 23;
    the queue-name frame of batch C) changed from 1 to 255 -/
def jmD : Image := jm4.map fun kv => if kv.1 = 6 then (kv.1, kv.2.set 23 255) else kv

theorem shapeTD : SameShape jm4 jmD := by unfold SameShape; decide +kernel

theorem cleanTD : CleanDamage g jm4 jmD := by
  refine ⟨cleanT.1, ?_⟩
  have h1 : (streamOf jm4).length / g.B = 14 := by decide +kernel
  rw [h1]
  apply noAcc_of_check g _ _ 14 (by decide +kernel)
  rw [acceptedT]
  simp only [checkAll, acceptB, frameCrc_eq]; decide +kernel

/-- the `ReachD`-level clause holds on `T*`, undamaged and damaged -/
theorem noAccT : NoAccidentalFrameImg g jm4 jm4 := noAccImg_of_clean g (by decide) jm4 jm4 14 lenT (by decide) cleanT
theorem noAccTD : NoAccidentalFrameImg g jm4 jmD := noAccImg_of_clean g (by decide) jm4 jmD 14 lenT (by decide) cleanTD

theorem e_PT : recoverPre g jm4 .doNothing none = .ok PT := by rw [recoverPre_twin]; decide +kernel
theorem e_QC : recover g jm4 .doNothing [] none = .ok QC := by
  rw [Rec.recover_none, e_PT]; simp only [runGc_twin]; decide +kernel
theorem e_QD : recover g jmD .doNothing [] none = .ok QD := by rw [recover_twin]; decide +kernel

/-- the hypotheses of `C08_recover_genuine` hold for both images; both recovered logs are genuine
    for `JJ`; they differ -/
theorem nv2_C08 :
    (∀ kv ∈ QC.log.queues, ∀ rec ∈ kv.2.recs, (kv.1, rec.pos, rec.payload) ∈ C08V.appended JJ) ∧
    (∀ kv ∈ QD.log.queues, ∀ rec ∈ kv.2.recs, (kv.1, rec.pos, rec.payload) ∈ C08V.appended JJ) ∧
    (∃ L : List (Nat × Entry), Rec.replayEntries [] L = some QD.log.queues ∧
      List.Sublist (L.map (·.2)) ((JJ.filter fun j => decide (t4.1.files.headD 0 ≤ j.loc)).map (·.e))) ∧
    QD.log.queues ≠ QC.log.queues := by
  obtain ⟨_, a2, _⟩ := C08V.C08_recover_genuine g (by decide) 0 t4.1 JJ jm4 {} reachT wfJJ jm4 rfl noAccT
    .doNothing [] QC e_QC
  obtain ⟨_, b2, b3⟩ := C08V.C08_recover_genuine g (by decide) 0 t4.1 JJ jm4 {} reachT wfJJ jmD shapeTD noAccTD
    .doNothing [] QD e_QD
  exact ⟨a2, b2, b3, by decide⟩

theorem nv2_C12 : ∃ L : List (Nat × Entry),
    List.Sublist (L.map (·.2)) ((JJ.filter fun j => decide (t4.1.files.headD 0 ≤ j.loc)).map (·.e)) ∧
    C12C.AllOrSuffix L QD.log.queues :=
  C12V.C12_recover_damage g (by decide) 0 t4.1 JJ jm4 {} reachT wfJJ jmD shapeTD noAccTD .doNothing [] QD e_QD

/-- on the damaged image: batch C (6 frames over files 5–8, its third frame damaged) is gone
    entirely; batch B (6 frames over files 3–5) is intact; the journal entries delivered are a proper
    sub-sequence of the retained ones -/
theorem nv2_C12_eval :
    QD.log.queues.map (fun kv => (kv.1, kv.2.recs.map fun r => (r.pos, r.payload))) = [([97], [(2, [3]), (3, [4])])] ∧
    QC.log.queues.map (fun kv => (kv.1, kv.2.recs.map fun r => (r.pos, r.payload))) =
      [([97], [(2, [3]), (3, [4]), (4, [5]), (5, [6])])] ∧
    (JJ.filter fun j => decide (t4.1.files.headD 0 ≤ j.loc)).map (·.e) =
      [.append [97] 2 [(2, [3]), (3, [4])], .append [97] 4 [(4, [5]), (5, [6])], .truncate [97] 1] := by
  decide +kernel

def fsT : List Frm := framesT.map (·.2)

/-- every frame layout of the tape of `T*` is `fsT` -/
theorem layoutT (fs : List Frm) (z : Nat) (h1 : streamOf jm4 = (layoutBufs g 0 fs).flatten ++ zeros z)
    (h2 : Fits g 0 fs) : fs = fsT ∧ z = 22 := by
  have hfs : fs = fsT := by
    have := tapeLayout_unique g (by decide) jm4 14 lenT (by decide) cleanT0 fs ⟨h2, z, h1⟩
    rw [acceptedT] at this
    exact this
  refine ⟨hfs, ?_⟩
  subst hfs
  have hl := congrArg List.length h1
  have e1 : (streamOf jm4).length = 224 := by decide +kernel
  have e2 : (layoutBufs g 0 fsT).flatten.length = 202 := by rw [G.layout0_length g fsT h2]; decide +kernel
  rw [List.length_append, e1, e2] at hl
  simp only [zeros, List.length_replicate] at hl
  omega

def crcT : Bytes := [113, 194, 150, 169]
def pT : Bytes := [255, 0, 97, 4, 0, 0, 0, 0, 0]

/-- `C09_recover_one_frame_all` instantiated on `T*`: for the damaged frame (the 10th of the
    layout), `open` on `jmD` returns `QD`, and for some journal index `a` every record of the live
    queue not appended by `JJ[a]` is in `QD` -/
theorem nv2_C09 : ∃ a, ∀ name q, t4.1.queues.get? name = some q → ∀ rc ∈ q.recs, ¬ C09V.RecordOfIdx JJ a name rc →
    ∃ q', QD.log.queues.get? name = some q' ∧ ∃ r' ∈ q'.recs, r'.pos = rc.pos ∧ r'.payload = rc.payload := by
  obtain ⟨fs, z, h1, h2, h3⟩ := C09V.C09_recover_one_frame_all g (by decide) 0 t4.1 JJ jm4 {} reachT wfJJ
  obtain ⟨rfl, rfl⟩ := layoutT fs z h1 h2
  obtain ⟨r, a, hr, hall⟩ := h3 (fsT.take 9) .middle [1, 0, 97, 4, 0, 0, 0, 0, 0] (fsT.drop 10) (by decide +kernel)
    crcT pT rfl rfl (by rw [frameCrc_eq]; decide +kernel) jmD shapeTD
    (by unfold C09.damagedBufs; rw [good_eq]; decide +kernel) .doNothing []
  rw [e_QD] at hr
  simp only [Except.ok.injEq] at hr
  subst hr
  exact ⟨a, hall⟩

/-- … and what is lost is exactly batch C -/
theorem nv2_C09_eval :
    t4.1.queues.map (fun kv => (kv.1, kv.2.recs.map fun r => (r.pos, r.payload))) =
      [([97], [(2, [3]), (3, [4]), (4, [5]), (5, [6])])] ∧
    QD.log.queues.map (fun kv => (kv.1, kv.2.recs.map fun r => (r.pos, r.payload))) = [([97], [(2, [3]), (3, [4])])] := by
  decide +kernel

end MRL.NV2

namespace MRL.NV3
open Log Twin Codec Img Gen NV NV2

theorem nv3_C07_inv : C01R.ReachD g 0 t4.1 JJ jm4 {} ∧ (∀ j ∈ JJ, C07.WF j.e) ∧ C07F.Fit (100 + 6) t4.1 ∧
    100 + 6 < U64MAX :=
  C07F.reachDF_inv g (by decide) 0 100 (by decide) reachTF

theorem nv3_C01 : ∃ r, recover g jm4 .doNothing [] none = .ok r ∧ QsEquiv r.log.queues t4.1.queues :=
  C07F.C01_restart_exact_calls g (by decide) 0 100 (by decide) reachTF .doNothing []

/-- evaluated: the restart returns `QC`, whose queue is the live one record for record -/
theorem nv3_C01_eval : recover g jm4 .doNothing [] none = .ok QC ∧ QC.log.queues = t4.1.queues := ⟨NV2.e_QC, by decide⟩

/-- `C10R.reopen_no_panic` on `T*`, its file-number and roll-over-room hypotheses discharged
    (`nroom = 0`: the GC pass of this `open` writes nothing) -/
theorem nv3_C10R :
    C10.NoMax (deliveredEvents g jm4 none) ∧ clipImage g jm4 = jm4 ∧
    recoverP g (clipImage g jm4) .doNothing [] none = .ok (recover g jm4 .doNothing [] none) ∧
    ∀ r, recover g jm4 .doNothing [] none = .ok r → accessorsPanic r.log.queues = false := by
  have h := C10R.reopen_no_panic g (by decide) 0 100 (by decide) (C07F.ReachXF.base reachTF) .doNothing [] 0
    (by decide +kernel) (by decide) (by
      intro lp e0 io hpre
      have hp : recoverPre g (C02U.flushDisk jm4 {}) .doNothing none = .ok PT := e_PT
      rw [hp] at hpre
      simp only [Except.ok.injEq] at hpre
      have hl : lp = PT.1 := by rw [hpre]
      rw [hl]
      decide +kernel)
  exact h

end MRL.NV3
