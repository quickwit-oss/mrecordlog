/-
C10, memory, whatever the outcome of `open`. `C10M.recoverC_bounded` bounds the queues of a log that
`open` RETURNS. Here: the queues held BETWEEN two entries of the replay loop — the initial state and the
state after every entry that was applied, up to the one in which an I/O fault or a rejected entry
(`Corruption`) stops the loop — are bounded by the bytes read, for EVERY image and EVERY fault plan.
The trace (`replayTrace`) stops at the state BEFORE a rejected entry: the code appends the records of a
batch one by one and fails in the middle (multi_record_log.rs, the `for record in records` loop), so the
state it holds when it returns `Corruption` also has the records of that batch before the offending one.
That state is not in the trace and no statement here bounds it.
-/
import MRL.Props.C10Memory

namespace MRL.C10MF
open C10 C16 Rec C10M

/-- the states of the replay loop: the initial one, then the one after each applied entry; an
    undecodable entry or a corrupt event changes nothing; the loop stops at a rejected entry -/
def replayTrace (qs : MemQueues) : List RecEv → List MemQueues
  | [] => [qs]
  | .corrupt :: evs => replayTrace qs evs
  | .entry file bytes :: evs =>
    match Entry.decode bytes with
    | none => replayTrace qs evs
    | some e =>
      match replayEntry qs file e with
      | none => [qs]
      | some qs' => qs :: replayTrace qs' evs

theorem replayTrace_last (evs : List RecEv) : ∀ (qs qs' : MemQueues), replay qs evs = some qs' →
    (replayTrace qs evs).getLast? = some qs' := by
  induction evs with
  | nil => intro qs qs' h; cases h; rfl
  | cons ev evs ih =>
    intro qs qs' h
    cases ev with
    | corrupt => exact ih qs qs' h
    | entry f bytes =>
      cases hd : Entry.decode bytes with
      | none =>
        rw [replay_skip _ _ _ _ hd] at h
        simp only [replayTrace, hd]
        exact ih qs qs' h
      | some e =>
        rw [replay_entry _ _ _ _ e hd] at h
        simp only [replayTrace, hd]
        cases hr : replayEntry qs f e with
        | none => rw [hr] at h; cases h
        | some qs1 =>
          rw [hr] at h
          simp only [List.getLast?_cons, ih qs1 qs' h, Option.getD_some]

theorem mem_replayTrace (evs : List RecEv) : ∀ (qs s : MemQueues), s ∈ replayTrace qs evs →
    ∃ evs', evs' <+: evs ∧ replay qs evs' = some s := by
  induction evs with
  | nil =>
    intro qs s hs
    simp only [replayTrace, List.mem_singleton] at hs
    subst hs
    exact ⟨[], List.prefix_refl _, rfl⟩
  | cons ev evs ih =>
    intro qs s hs
    cases ev with
    | corrupt =>
      simp only [replayTrace] at hs
      obtain ⟨evs', hp, hr⟩ := ih qs s hs
      exact ⟨.corrupt :: evs', (List.cons_prefix_cons).mpr ⟨rfl, hp⟩, by simpa [replay] using hr⟩
    | entry f bytes =>
      cases hd : Entry.decode bytes with
      | none =>
        simp only [replayTrace, hd] at hs
        obtain ⟨evs', hp, hr⟩ := ih qs s hs
        exact ⟨.entry f bytes :: evs', (List.cons_prefix_cons).mpr ⟨rfl, hp⟩, by rw [replay_skip _ _ _ _ hd]; exact hr⟩
      | some e =>
        cases hre : replayEntry qs f e with
        | none =>
          simp only [replayTrace, hd, hre, List.mem_singleton] at hs
          subst hs
          exact ⟨[], List.nil_prefix, rfl⟩
        | some qs1 =>
          simp only [replayTrace, hd, hre, List.mem_cons] at hs
          rcases hs with rfl | hs
          · exact ⟨[], List.nil_prefix, rfl⟩
          · obtain ⟨evs', hp, hr⟩ := ih qs1 s hs
            exact ⟨.entry f bytes :: evs', (List.cons_prefix_cons).mpr ⟨rfl, hp⟩,
              by rw [replay_entry _ _ _ _ e hd, hre]; exact hr⟩

theorem entryBytes_append (a b : List RecEv) : entryBytes (a ++ b) = entryBytes a + entryBytes b := by
  induction a with
  | nil => simp [entryBytes]
  | cons ev a ih =>
    cases ev with
    | corrupt => simpa [entryBytes] using ih
    | entry f bytes => simp only [List.cons_append, entryBytes, ih, Nat.add_assoc]

theorem entryBytes_prefix {a b : List RecEv} (h : a <+: b) : entryBytes a ≤ entryBytes b := by
  obtain ⟨t, rfl⟩ := h
  rw [entryBytes_append]; exact Nat.le_add_right _ _

/-- the replay of any prefix of the delivered events is bounded by the bytes read, for every
    image and fault plan, whether or not `open` succeeds in the end -/
theorem replay_prefix_bounded (g : Geom) (img : Image) (failAt : Option Nat) (evs' : List RecEv)
    (hp : evs' <+: deliveredEvents g img failAt) (qs : MemQueues) (h : replay [] evs' = some qs) :
    MemQueues.usedBytes 12 qs ≤ imageBytes (prepareImage g img).1 := by
  have h1 : _ ≤ 0 + entryBytes evs' := replay_potential evs' [] qs h List.nodup_nil
  rw [Nat.zero_add] at h1
  exact Nat.le_trans h1 (Nat.le_trans (entryBytes_prefix hp) (delivered_bytes g img failAt))

theorem replayTrace_bounded (g : Geom) (img : Image) (failAt : Option Nat) (s : MemQueues)
    (hs : s ∈ replayTrace [] (deliveredEvents g img failAt)) :
    MemQueues.usedBytes 12 s ≤ imageBytes (prepareImage g img).1 := by
  obtain ⟨evs', hp, hr⟩ := mem_replayTrace _ [] s hs
  exact replay_prefix_bounded g img failAt evs' hp s hr

theorem trace_bounded (msz : Nat) (g : Geom) (img : Image) (failAt : Option Nat) (s : MemQueues)
    (hs : s ∈ replayTrace [] (deliveredEvents g img failAt)) :
    nameBytes s + totalPayload s ≤ imageBytes (prepareImage g img).1 ∧
    12 * totalRecords s ≤ imageBytes (prepareImage g img).1 ∧
    12 * MemQueues.usedBytes msz s ≤ (12 + msz) * imageBytes (prepareImage g img).1 :=
  potential_bounds msz _ _ (replayTrace_bounded g img failAt s hs)

/-- **`open` as the code does it, whatever it returns** (`Ok`, `Err(Io)`, `Err(Corruption)`): every
    state of its replay loop is bounded by the bytes of the directory plus one nominal file -/
theorem openC_trace_bounded (msz : Nat) (g : Geom) (img : Image) (failAt : Option Nat) (s : MemQueues)
    (hs : s ∈ replayTrace [] (deliveredEvents g (clipImage g img) failAt)) :
    nameBytes s + totalPayload s ≤ imageBytes img + g.fileBytes ∧
    12 * totalRecords s ≤ imageBytes img + g.fileBytes ∧
    12 * MemQueues.usedBytes msz s ≤ (12 + msz) * (imageBytes img + g.fileBytes) :=
  potential_bounds msz _ _ (Nat.le_trans (replayTrace_bounded g _ failAt s hs) (prepared_clip_le g img))

/-- the reassembly buffer never exceeds that either -/
theorem openC_buf_bounded (g : Geom) (img : Image) (failAt : Option Nat) (f : Nat) (bytes : Bytes)
    (h : RecEv.entry f bytes ∈ deliveredEvents g (clipImage g img) failAt) :
    bytes.length ≤ imageBytes img + g.fileBytes :=
  Nat.le_trans (recover_buf_bounded g _ failAt f bytes h) (prepared_clip_le g img)

/-- the trace is what `open` computes: when `recoverPre` succeeds its queues are the last state -/
theorem trace_last_of_pre {g : Geom} {img : Image} {policy : Policy} {failAt : Option Nat} {lp : Log}
    {e0 : List Effect} {io : Nat} (h : recoverPre g img policy failAt = .ok (lp, e0, io)) :
    (replayTrace [] (deliveredEvents g img failAt)).getLast? = some lp.queues :=
  replayTrace_last _ [] lp.queues (deliveredEvents_of_pre h)

theorem trace_head (evs : List RecEv) (qs : MemQueues) : (replayTrace qs evs).head? = some qs := by
  induction evs generalizing qs with
  | nil => rfl
  | cons ev evs ih =>
    cases ev with
    | corrupt => simpa [replayTrace] using ih qs
    | entry f bytes =>
      simp only [replayTrace]
      cases Entry.decode bytes with
      | none => exact ih qs
      | some e =>
        simp only
        cases replayEntry qs f e <;> rfl

end MRL.C10MF
