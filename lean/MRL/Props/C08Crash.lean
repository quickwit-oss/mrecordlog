/-
C08 over crash-reachable states, against the hidden journal of the state, with the provenance of
every recovered record: it was handed to the writer by a call or a GC pass of the history.

`C02U.ReachX g cap l img b`: the states reachable by calls, restarts AND crashes at any point.
`C02W.ReachXW g cap l img b W` (`MRL/Proofs/LProvReach.lean`) is the same set of states
(`ReachXW.toReachX`, `ReachXW.ofReachX`) together with the list `W` of every entry that a call or a
GC pass of the history handed to the writer — the `stepJ` entries of every call INCLUDING the call
interrupted at a crash, the `gcJ` entries (touches) of every `open`, including an `open` that was
itself interrupted. The image `W₀ := flushDisk img b` of such a state holds a tape of ITEMS
(`L.TapeD`, from `L.CInvX.tapeD`): frames as written, junk slots left by cut writes (a slot whose
checksum fails, or a torn header), orphan First/Middle runs of entries that were never finished
(dead groups), possibly a residue of at most 6 junk bytes (6 = HEADER_LEN − 1) and an empty next
file.

* `crash_damaged_read` states it against the tape: there are a journal `J` with `L.CInvX g l J W₀`, all
  entries serialisable and IN `W`, and the item tape of `W₀` with its witnesses, such that for ANY image
  `W'` of the same shape satisfying `Gen.NoAcc` against the genuine frames `glocs g 0 ais` of the tape —
  THE collision clause — a successful `recover g W' …` returns a log satisfying `C05.Inv` whose queues are
  the replay of a sub-sequence of the retained entries of `J` (`C08X.Genuine`) and whose every record is
  `(name, position, payload)` of an `append` entry of `W`. A clause on images gives a theorem as soon as
  it implies that one on the tape:
* `C08_crash_genuine` (`_reachX`: `∃ W`; `_partial`: `W` forgotten): under `Img.NoAccidentalFrameImgX g
  W₀ W'`, which quantifies over every item layout of `W₀`, the empty one included, and so forces that
  no position of `W'` is accepted (`CD.old_clause_forces_none`); `CD.C08_crash_genuine_clean`
  (`Props/CrashDamageClean.lean`) is the same under `Img.CleanDamage`, a clause an image holding frames
  can satisfy.
* `C08_crash_restart` (`_reachX`, `_partial`): without damage and without any clause, the same for
  `recover g W₀ …` itself.
`ReachXW` covers every crash point of `open` itself and of every call that starts with an empty
`BufWriter` (`b.pend = []` in `ReachXW.crash`; the collision clause `TornStep` for that call), GC passes
cut in the middle included, any number of times. A crash while the `BufWriter` holds bytes of earlier
calls is not a constructor.
-/
import MRL.Props.C08Recover
import MRL.Proofs.LRunReach

namespace MRL.C08X
open Img

theorem appended_subset {J : List JE} {W : List Entry} (hJW : ∀ j ∈ J, j.e ∈ W) :
    ∀ x ∈ C08V.appended J, x ∈ recordsOfE W := by
  intro x hx
  unfold C08V.appended at hx
  rw [recordsOf_eq, List.map_map] at hx
  apply recordsOfE_subset _ x hx
  intro e he
  obtain ⟨j, hj, rfl⟩ := List.mem_map.mp he
  exact hJW j hj

theorem crash_damaged_read (g : Geom) (hB : g.B ≤ 65542) (cap : Nat) (l : Log) (img : Image) (b : BufSt)
    (W : List Entry) (h : C02W.ReachXW g cap l img b W) :
    ∃ (J : List JE) (cs : List Bytes) (x : Bool) (ais lead : List L.AItm) (gs : List L.Grp) (res : Bytes) (z0 z1 : Nat),
      L.CInvX g l J (C02U.flushDisk img b) ∧ (∀ j ∈ J, C07.WF j.e) ∧ (∀ j ∈ J, j.e ∈ W) ∧
      L.TapeD g (C02U.flushDisk img b) (l.files.headD 0) J cs x ais lead gs res z0 z1 ∧
      ∀ W', SameShape (C02U.flushDisk img b) W' → Gen.NoAcc g (glocs g 0 ais) (streamOf W') →
      ∀ (policy : Policy) (order : List Bytes) (r : Recovered), recover g W' policy order none = .ok r →
        Genuine J (l.files.headD 0) r ∧
        ∀ kv ∈ r.log.queues, ∀ rec ∈ kv.2.recs, (kv.1, rec.pos, rec.payload) ∈ recordsOfE W := by
  obtain ⟨J, hc, hw, hJW⟩ := C02W.reachXW_journal g hB cap h
  obtain ⟨cs, x, ais, lead, gs, res, z0, z1, hd⟩ := hc.tapeD
  refine ⟨J, cs, x, ais, lead, gs, res, z0, z1, hc, hw, hJW, hd, fun W' hshape hN policy order r hr => ?_⟩
  have hG := genuine_tapeD g hd hw W' hshape hN policy order r hr
  exact ⟨hG, fun kv hkv rec hrec => appended_subset hJW _ (hG.2.1 kv hkv rec hrec)⟩

theorem C08_crash_genuine (g : Geom) (hB : g.B ≤ 65542) (cap : Nat) (l : Log) (img : Image) (b : BufSt)
    (W : List Entry) (h : C02W.ReachXW g cap l img b W) :
    ∃ J : List JE, L.CInvX g l J (C02U.flushDisk img b) ∧ (∀ j ∈ J, C07.WF j.e) ∧ (∀ j ∈ J, j.e ∈ W) ∧
      ∀ W', SameShape (C02U.flushDisk img b) W' → NoAccidentalFrameImgX g (C02U.flushDisk img b) W' →
      ∀ (policy : Policy) (order : List Bytes) (r : Recovered), recover g W' policy order none = .ok r →
        Genuine J (l.files.headD 0) r ∧
        ∀ kv ∈ r.log.queues, ∀ rec ∈ kv.2.recs, (kv.1, rec.pos, rec.payload) ∈ recordsOfE W := by
  obtain ⟨J, cs, x, ais, lead, gs, res, z0, z1, hc, hw, hJW, hd, hall⟩ := crash_damaged_read g hB cap l img b W h
  exact ⟨J, hc, hw, hJW, fun W' hshape hN => hall W' hshape (hN ais hd.itemTape)⟩

theorem C08_crash_genuine_partial (g : Geom) (hB : g.B ≤ 65542) (cap : Nat) (l : Log) (img : Image) (b : BufSt)
    (h : C02U.ReachX g cap l img b) :
    ∃ J : List JE, L.CInvX g l J (C02U.flushDisk img b) ∧ (∀ j ∈ J, C07.WF j.e) ∧
      ∀ W', SameShape (C02U.flushDisk img b) W' → NoAccidentalFrameImgX g (C02U.flushDisk img b) W' →
      ∀ (policy : Policy) (order : List Bytes) (r : Recovered), recover g W' policy order none = .ok r →
        Genuine J (l.files.headD 0) r := by
  obtain ⟨W, hW⟩ := C02W.ReachXW.ofReachX h
  obtain ⟨J, hc, hw, _, hall⟩ := C08_crash_genuine g hB cap l img b W hW
  exact ⟨J, hc, hw, fun W' hshape hN policy order r hr => (hall W' hshape hN policy order r hr).1⟩

theorem restart_delivered (g : Geom) (hB : g.B ≤ 65542) {l : Log} {J : List JE} {D : Image}
    (hc : L.CInvX g l J D) (hw : ∀ j ∈ J, C07.WF j.e) (policy : Policy) (order : List Bytes) (r : Recovered)
    (hr : recover g D policy order none = .ok r) :
    ∃ L : List (Nat × Entry), Rec.replayEntries [] L = some r.log.queues ∧
      L.map (·.2) = (J.filter fun j => decide (l.files.headD 0 ≤ j.loc)).map (·.e) := by
  obtain ⟨qs, hrep, _, _⟩ := hc.jinv.rep
  obtain ⟨J', lp, io, _, _, _, _, _, _, _, hrec, _, hJ', _, _, hrel, _⟩ :=
    L.read_diskX g hB hc.diskX hw qs hrep policy
  -- the recovered queues are those of `recoverPre`, the replay of the journal `J'` read back
  have hq : r.log.queues = lp.queues := by
    rw [Rec.recover_none, hrec] at hr
    simp only [Except.ok.injEq] at hr
    subst hr
    simp only [Step.runGc_queues]
  have hJ'ge : ∀ j ∈ J', l.files.headD 0 ≤ j.loc := by
    intro j hj
    obtain ⟨b', hb', _, h2, _, _⟩ := hrel.mem_left j hj
    have := (List.mem_filter.mp hb').2
    rw [h2]; simpa using this
  rw [replayJ_ge _ J' [] hJ'ge, ← hq] at hJ'
  refine ⟨_, hJ', ?_⟩
  -- the entries of `J'` are those of the retained part of `J`
  rw [List.map_map]
  exact hrel.map_eq (·.e) (·.e) fun _ _ hab => hab.1

/-- No damage, no hypothesis: restarting from a crash-reachable
    state returns only records of `append` entries of the journal. -/
theorem C08_crash_restart_partial (g : Geom) (hB : g.B ≤ 65542) (cap : Nat) (l : Log) (img : Image) (b : BufSt)
    (h : C02U.ReachX g cap l img b) :
    ∃ J : List JE, L.CInvX g l J (C02U.flushDisk img b) ∧ (∀ j ∈ J, C07.WF j.e) ∧
      ∀ (policy : Policy) (order : List Bytes) (r : Recovered),
        recover g (C02U.flushDisk img b) policy order none = .ok r →
        C05.Inv r.log ∧
        ∀ kv ∈ r.log.queues, ∀ rec ∈ kv.2.recs, (kv.1, rec.pos, rec.payload) ∈ C08V.appended J := by
  obtain ⟨⟨J, hc, hw⟩, _⟩ := C02U.reachX_inv g hB cap h
  refine ⟨J, hc, hw, ?_⟩
  intro policy order r hr
  obtain ⟨L, hL1, hL2⟩ := restart_delivered g hB hc hw policy order r hr
  obtain ⟨h1, h2, _⟩ := C08V.genuine_of_delivered g _ policy order r hr J _ L hL1
    (by rw [hL2]; exact List.Sublist.refl _)
  exact ⟨h1, h2⟩

theorem C08_crash_restart (g : Geom) (hB : g.B ≤ 65542) (cap : Nat) (l : Log) (img : Image) (b : BufSt)
    (W : List Entry) (h : C02W.ReachXW g cap l img b W) :
    ∀ (policy : Policy) (order : List Bytes) (r : Recovered),
      recover g (C02U.flushDisk img b) policy order none = .ok r →
      C05.Inv r.log ∧
      ∀ kv ∈ r.log.queues, ∀ rec ∈ kv.2.recs, (kv.1, rec.pos, rec.payload) ∈ recordsOfE W := by
  intro policy order r hr
  refine ⟨C08.recover_sorted g _ policy order none r hr, ?_⟩
  obtain ⟨J, hc, hw, hJW⟩ := C02W.reachXW_journal g hB cap h
  obtain ⟨L, hL1, hL2⟩ := restart_delivered g hB hc hw policy order r hr
  intro kv hkv rec hrec'
  have h1 := C08.replay_records_subset _ _ hL1 kv hkv rec hrec'
  rw [recordsOf_eq, hL2] at h1
  refine recordsOfE_subset (fun e he => ?_) _ h1
  obtain ⟨j, hj, rfl⟩ := List.mem_map.mp he
  exact hJW j (List.mem_filter.mp hj).1

theorem C08_crash_genuine_reachX (g : Geom) (hB : g.B ≤ 65542) (cap : Nat) (l : Log) (img : Image) (b : BufSt)
    (h : C02U.ReachX g cap l img b) :
    ∃ W : List Entry, C02W.ReachXW g cap l img b W ∧
    ∃ J : List JE, L.CInvX g l J (C02U.flushDisk img b) ∧ (∀ j ∈ J, C07.WF j.e) ∧ (∀ j ∈ J, j.e ∈ W) ∧
      ∀ W', SameShape (C02U.flushDisk img b) W' → NoAccidentalFrameImgX g (C02U.flushDisk img b) W' →
      ∀ (policy : Policy) (order : List Bytes) (r : Recovered), recover g W' policy order none = .ok r →
        Genuine J (l.files.headD 0) r ∧
        ∀ kv ∈ r.log.queues, ∀ rec ∈ kv.2.recs, (kv.1, rec.pos, rec.payload) ∈ recordsOfE W := by
  obtain ⟨W, hW⟩ := C02W.ReachXW.ofReachX h
  exact ⟨W, hW, C08_crash_genuine g hB cap l img b W hW⟩

theorem C08_crash_restart_reachX (g : Geom) (hB : g.B ≤ 65542) (cap : Nat) (l : Log) (img : Image) (b : BufSt)
    (h : C02U.ReachX g cap l img b) :
    ∃ W : List Entry, C02W.ReachXW g cap l img b W ∧
    ∀ (policy : Policy) (order : List Bytes) (r : Recovered),
      recover g (C02U.flushDisk img b) policy order none = .ok r →
      C05.Inv r.log ∧
      ∀ kv ∈ r.log.queues, ∀ rec ∈ kv.2.recs, (kv.1, rec.pos, rec.payload) ∈ recordsOfE W := by
  obtain ⟨W, hW⟩ := C02W.ReachXW.ofReachX h
  exact ⟨W, hW, C08_crash_restart g hB cap l img b W hW⟩

end MRL.C08X
