/-
C05 — every call conforms to the sequential queue-map specification.
`Log.step` refines `Spec.step` through the abstraction `Log.abs`, with the same logical outcome,
under (and preserving) the representation invariant `Inv`; the read accessors of `MemQueue`
agree with those of the specification.
-/
import MRL.Proofs.JStep

namespace MRL.C05
open Log

theorem abs_of_queues {l l' : Log} (h : l'.queues = l.queues) : l'.abs = l.abs := by
  unfold Log.abs; rw [h]

theorem Inv.remove {l l' : Log} {q : Bytes} (h : l'.queues = l.queues.remove q)
    (hI : Inv l) : Inv l' := by
  unfold Inv; rw [h]
  exact ⟨remove_keys_nodup _ _ hI.1, fun kv hkv => hI.2 kv (mem_remove hkv)⟩

theorem abs_of_set {l l' : Log} {q : Bytes} {mq : MemQueue} (h : l'.queues = l.queues.set q mq) :
    l'.abs = Spec.set l.abs q mq.abs := by
  unfold Log.abs; rw [h]; exact AL.set_mapV MemQueue.abs _ q mq

theorem abs_of_remove {l l' : Log} {q : Bytes} (h : l'.queues = l.queues.remove q) :
    l'.abs = Spec.remove l.abs q := by
  unfold Log.abs; rw [h]; exact AL.remove_mapV MemQueue.abs _ q

theorem abs_get_eq (l : Log) (name : Bytes) :
    Spec.get? l.abs name = (l.queues.get? name).map MemQueue.abs :=
  AL.get?_mapV MemQueue.abs l.queues name

theorem get_abs (l : Log) (name : Bytes) :
    (l.queues.get? name = none ↔ l.abs.get? name = none) ∧
    (l.queues.get? name).map MemQueue.abs = l.abs.get? name := by
  rw [abs_get_eq]
  exact ⟨by simp, rfl⟩

/-- **C05 (one call).** Under the invariant, `Log.step` and `Spec.step` commute with the
    abstraction, return the same logical outcome, and the invariant is kept. -/
theorem C05_refines (g : Geom) (l : Log) (hI : Inv l) (c : Call) (tick : Bool) (order : List Bytes) :
    let r := Log.step g l c tick order
    r.1.abs = (Spec.step l.abs c).1 ∧ r.2.1.logical = (Spec.step l.abs c).2 ∧ Inv r.1 := by
  intro r
  -- the invariant: a call replays the entry it logs
  have hInv : Inv r.1 := by
    rcases step_queues_replay g l c tick order with h | ⟨e, h⟩
    · exact hI.of_queues h
    · exact Rec.QsInv_replayEntry h hI
  suffices h : r.1.abs = (Spec.step l.abs c).1 ∧ r.2.1.logical = (Spec.step l.abs c).2 from ⟨h.1, h.2, hInv⟩
  -- state and outcome: what the call found in the queues (`Step.act_does`) is what the
  -- specification finds in their abstraction, case by case
  have hs : ∀ q, Spec.get? l.abs q = (l.queues.get? q).map MemQueue.abs := abs_get_eq l
  have hd := Step.act_does l c
  show (step g l c tick order).1.abs = _ ∧ (step g l c tick order).2.1.logical = _
  cases ha : Step.act l c with
  | sync a => rw [ha] at hd; cases hd; exact ⟨rfl, rfl⟩
  | skip out =>
    rw [Step.step_skip g l ha]
    rw [ha] at hd
    have key : Spec.step l.abs c = (l.abs, out.logical) := by
      cases hd with
      | createExisting q hc =>
        rw [MemQueues.contains_isSome, Option.isSome_iff_exists] at hc
        obtain ⟨mq, hg⟩ := hc
        simp only [Spec.step, hs, hg, Option.map_some]; rfl
      | deleteMissing q hg => simp only [Spec.step, hs, hg, Option.map_none]; rfl
      | truncateMissing q p hg => simp only [Spec.step, hs, hg, Option.map_none]; rfl
      | appendMissing q pos? pls hg => simp only [Spec.step, hs, hg, Option.map_none]; rfl
      | appendRetry q mq p pls hg hp =>
        simp only [Spec.step, hs, hg, Option.map_some, MemQueue.abs, hp, if_true]; rfl
      | appendPast q mq p pls hg hp =>
        simp only [Spec.step, hs, hg, Option.map_some, MemQueue.abs,
          if_neg (Nat.ne_of_lt hp), if_pos (Nat.lt_of_succ_lt hp)]; rfl
      | appendEmpty q mq pos? hg hp =>
        cases pos? with
        | none => simp only [Spec.step, hs, hg, Option.map_some, List.isEmpty_nil, if_true]; rfl
        | some p =>
          have := hp p rfl
          simp only [Spec.step, hs, hg, Option.map_some, MemQueue.abs,
            if_neg (Nat.ne_of_gt (Nat.lt_succ_of_le this)), if_neg (Nat.not_lt_of_le this),
            List.isEmpty_nil, if_true]; rfl
    rw [key]; exact ⟨rfl, rfl⟩
  | log e qs' out =>
    obtain ⟨hq, n, ho⟩ := Step.step_log g l ha tick order
    rw [ha] at hd
    rw [ho]
    cases hd with
    | create q hc =>
      rw [MemQueues.contains_isSome, Option.isSome_eq_false_iff, Option.isNone_iff_eq_none] at hc
      have key : Spec.step l.abs (.create q) = (Spec.set l.abs q ({} : MemQueue).abs, .created) := by
        simp only [Spec.step, hs, hc, Option.map_none]; rfl
      rw [key]; exact ⟨abs_of_set hq, rfl⟩
    | delete q mq hg =>
      have key : Spec.step l.abs (.delete q) = (Spec.remove l.abs q, .deleted) := by
        simp only [Spec.step, hs, hg, Option.map_some]
      rw [key]; exact ⟨abs_of_remove hq, rfl⟩
    | truncate q p mq hg =>
      obtain ⟨hrecs, hnext, hev, _, _⟩ := MemQueue.truncateHead_spec mq p (hI.get hg).1 (hI.get hg).2
      have key : Spec.step l.abs (.truncate q p) =
          (Spec.set l.abs q (mq.truncateHead p).1.abs, .truncated (mq.truncateHead p).2) := by
        simp only [Spec.step, hs, hg, Option.map_some, MemQueue.abs, hrecs, hnext, hev, List.filter_map,
          List.length_map]
        rfl
      rw [key]; exact ⟨abs_of_set hq, rfl⟩
    | append q mq mq' pos? pls pos hg hat hall =>
      obtain ⟨hne, hpos, hle⟩ := Step.appendAt_eq_ok.mp hat
      obtain ⟨mq2, hall2, hrecs, hnx, _, _⟩ :=
        appendAll_spec l.cur pls mq pos (hI.get hg).1 (hI.get hg).2 hle
      rw [hall] at hall2; cases hall2
      have hemp : pls.isEmpty = false := by cases pls <;> simp_all
      have habs : mq'.abs = { next := pos + pls.length, recs := mq.abs.recs ++ numberFrom pos pls } := by
        simp only [MemQueue.abs, hrecs, hnx hne]
      have key : Spec.step l.abs (.append q pos? pls) =
          (Spec.set l.abs q mq'.abs, .appended (some (pos + pls.length - 1))) := by
        rw [habs]
        cases pos? with
        | none =>
          have hp' : pos = mq.nextPosition := hpos
          subst hp'
          simp only [Spec.step, hs, hg, Option.map_some, hemp]; rfl
        | some p =>
          have hp' : pos = p := hpos
          subst hp'
          simp only [Spec.step, hs, hg, Option.map_some, MemQueue.abs,
            if_neg (Nat.ne_of_gt (Nat.lt_succ_of_le hle)), if_neg (Nat.not_lt_of_le hle), hemp]
          rfl
      rw [key]; exact ⟨abs_of_set hq, rfl⟩

theorem Inv_empty (files : List Nat) (cur off : Nat) (policy : Policy) :
    Inv { files := files, cur := cur, off := off, queues := [], policy := policy } :=
  ⟨List.Pairwise.nil, fun _ h => by cases h⟩

/-- run a list of calls (each with its clock bit and hash-map order oracle) -/
def run (g : Geom) (l : Log) : List (Call × Bool × List Bytes) → Log
  | [] => l
  | (c, tick, order) :: cs => run g (Log.step g l c tick order).1 cs

def outcomes (g : Geom) (l : Log) : List (Call × Bool × List Bytes) → List Outcome
  | [] => []
  | (c, tick, order) :: cs =>
    (Log.step g l c tick order).2.1 :: outcomes g (Log.step g l c tick order).1 cs

end MRL.C05

namespace MRL.Spec

def run (s : Spec) : List Call → Spec
  | [] => s
  | c :: cs => run (s.step c).1 cs

def outcomes (s : Spec) : List Call → List LOutcome
  | [] => []
  | c :: cs => (s.step c).2 :: outcomes (s.step c).1 cs

end MRL.Spec

namespace MRL.C05

/-- **C05 (histories).** Any sequence of calls from a log satisfying the invariant is a run of
    the specification: same final abstract state, same logical outcomes, invariant kept. -/
theorem C05_history (g : Geom) (cs : List (Call × Bool × List Bytes)) : ∀ (l : Log), Inv l →
    (run g l cs).abs = Spec.run l.abs (cs.map (·.1)) ∧
    (outcomes g l cs).map Outcome.logical = Spec.outcomes l.abs (cs.map (·.1)) ∧
    Inv (run g l cs) := by
  induction cs with
  | nil => intro l hI; exact ⟨rfl, rfl, hI⟩
  | cons x cs ih =>
    intro l hI
    obtain ⟨c, tick, order⟩ := x
    obtain ⟨h1, h2, h3⟩ := C05_refines g l hI c tick order
    obtain ⟨i1, i2, i3⟩ := ih _ h3
    simp only [run, outcomes, List.map_cons, Spec.run, Spec.outcomes]
    rw [← h1, ← h2]
    exact ⟨i1, by rw [i2], i3⟩

/-- pointwise form: the `i`-th outcomes agree -/
theorem C05_history_pointwise (g : Geom) (cs : List (Call × Bool × List Bytes)) (l : Log)
    (hI : Inv l) (i : Nat) :
    ((outcomes g l cs)[i]?).map Outcome.logical = (Spec.outcomes l.abs (cs.map (·.1)))[i]? := by
  rw [← (C05_history g cs l hI).2.1, List.getElem?_map]

theorem range_eq_filter (q : MemQueue) (hq : QInv q) (lo hi : MemQueue.Bound) :
    q.range lo hi = Spec.range q.abs lo hi := by
  rw [MemQueue.range_recs q hq.1 lo hi]
  simp only [Spec.range, MemQueue.abs, List.filter_map]
  rfl

theorem lastPosition_eq (q : MemQueue) : q.lastPosition = Spec.lastPosition q.abs := rfl

theorem lastRecord_eq (q : MemQueue) : q.lastRecord = Spec.lastRecord q.abs := by
  simp only [MemQueue.lastRecord, Spec.lastRecord, MemQueue.abs, List.getLast?_map]

/-- a concrete log with two queues, one holding two records -/
def exLog : Log :=
  { files := [0], cur := 0, off := 0, policy := .doNothing,
    queues := [([1], { start := 3, recs := [⟨3, [7], none⟩, ⟨5, [8], some 0⟩] }), ([2], {})] }

theorem exLog_Inv : Inv exLog := by
  refine ⟨by decide, ?_⟩
  intro kv hkv
  simp only [exLog, List.mem_cons, List.not_mem_nil, or_false] at hkv
  rcases hkv with rfl | rfl
  · exact ⟨by simp, by simp⟩
  · exact QInv_empty

/-- an append on it really changes the abstract state, as the specification says -/
example (g : Geom) :
    (Log.step g exLog (.append [1] none [[9]]) false []).1.abs =
      [([1], { next := 7, recs := [(3, [7]), (5, [8]), (6, [9])] }), ([2], {})] ∧
    (Log.step g exLog (.append [1] none [[9]]) false []).1.abs ≠ exLog.abs ∧
    (Log.step g exLog (.append [1] none [[9]]) false []).2.1.logical = .appended (some 6) := by
  obtain ⟨h1, h2, _⟩ := C05_refines g exLog exLog_Inv (.append [1] none [[9]]) false []
  rw [h1, h2]
  decide

end MRL.C05
