/-
C02 (model level) — a crash at ANY instant is atomic.

THE PROPERTY. Take a reachable (log, journal, OS image, `BufWriter`) quadruple
`C01R.ReachD g cap l J img b` at a call boundary under a flush-per-operation policy (`b.pend = []`)
and any API call `c`. Let `ops` be the OS operations the call issues through the `BufWriter`. For
EVERY prefix length `k` (also past the end) and EVERY byte cut of operation `k`, opening the
directory `crashImage img ops k cut` succeeds and yields the queues of `l` (none of the call) or of
the log after the call (all of it):

    ∃ rec, recover g (crashImage img ops k cut) policy' order' none = .ok rec ∧
      (QsEquiv rec.log.queues l.queues ∨ QsEquiv rec.log.queues (l.step g c tick order).1.queues)

assuming `g.B ≤ 65542`, serialisable journal entries (`C07.WF`) and the CRC collision clause for
the frames of THIS call (`TornStep`).

THE THEOREMS.
* `C02_crash_atomic_exact`: the statement above, with `QsEquiv` (names, positions, payloads, FILE
  HANDLES, next positions), for every crash point at which no `unlink` has been issued yet
  (every byte of every write, the roll-over windows: next file absent / created empty /
  zero-filled, the GC touches, the flush/fsync operations).
* `C02_crash_atomic`: for EVERY crash point, the same with `AbsEq` instead of `QsEquiv`: same
  names, positions, payloads and next positions — the abstraction of C05 — the file handles
  being left out.
* Why `QsEquiv` is weakened during the unlinks: when an entry spans a whole WAL file
  (an entry longer than `fileBytes`), a crash between two `unlink`s of one GC pass can leave as
  first file a file that lies entirely inside that entry. `open` attributes the first entry it
  reads to the first file present, so the recovered handle of its records is that file instead of
  the file where the entry actually starts (`some 3`/`some 4` instead of `some 5` below). Records,
  positions and next positions are unaffected and the handle errs on the safe side (it pins an
  EARLIER file, and files are deleted in order). Witness (`g = ⟨16, 2⟩`, `cap = 16`, policy
  `Always(Flush)`; the values are those the model computes with `#eval`):
  `create [1]; create [2]; append [1] [7 × 40]; append [1] [[9]]` then `truncate [1] ..=0` issues
  `… unlink 0, unlink 1, unlink 2, unlink 3, unlink 4`; crashing after `unlink 2` (resp.
  `unlink 3`) recovers queue `[1]` as `{pos 1, payload [9], file := some 3}` (resp. `some 4`)
  whereas the live log — and a crash-free restart — have `file := some 5`.
* `C02_second_crash` / `C02_second_crash_exact`: the same two statements for a crash during the
  OS operations of `recover` itself (its GC pass) on any reachable flushed disk; the exact form is
  stated for every cut state of the effects before the first `unlink`.
* `C02_recovered_usable_partial`, `clean_crash_points`: the crash images equal to the disk before the
  call or after its last operation carry the strict invariant `CInv`, like all reachable flushed disks;
  the others carry the relaxed one (`C02U.crash_cinvx`, Props/C02Usable.lean).
The whole analysis rests on `H.crash_cut` (MRL/Proofs/HBufCrash.lean): every `crashImage` of the
`BufWriter`'s OS operations is the direct application of a prefix of the effects, the last write cut
at any byte — whatever the capacity `cap` and however the buffer re-chunks the writes.
-/
import MRL.Proofs.LExact
import MRL.Proofs.PBuf
import MRL.Props.C02Usable

namespace MRL.C02A
open Log C05 C01J G H Buf Codec

theorem reach_run (g : Geom) (hB : g.B ≤ 65542) (cap : Nat) {l : Log} {J : List JE} {img : Image}
    {b : BufSt} (h : C01R.ReachD g cap l J img b) (hwf : ∀ j ∈ J, C07.WF j.e) (hb : b.pend = [])
    (c : Call) (tick : Bool) (order : List Bytes) :
    CInv g l J img ∧ ∃ st st', Buf.Inv cap b st ∧ Buf.run st (l.step g c tick order).2.2 = some st' := by
  have hr := C01R.reach_rinv g hB cap h hwf
  have hc := hr.c
  rw [flushDisk_of_empty img b hb] at hc
  obtain ⟨st, hinv, hclean⟩ := hr.buf
  obtain ⟨st', hrun, _⟩ := C14.step_Disc g l c tick order st hclean
  exact ⟨hc, st, st', hinv, hrun⟩

/-- **C02, every crash point** (queues up to the file handles) -/
theorem C02_crash_atomic (g : Geom) (hB : g.B ≤ 65542) (cap : Nat) (l : Log) (J : List JE) (img : Image)
    (b : BufSt) (h : C01R.ReachD g cap l J img b) (hb : b.pend = []) (c : Call) (tick : Bool)
    (order : List Bytes) (hfits : ∀ j ∈ J ++ l.stepJ g c order, C07.WF j.e)
    (htorn : TornStep g l c tick order) (k cut : Nat) (policy' : Policy) (order' : List Bytes) :
    ∃ rec, recover g (crashImage img (toOsOps cap b (l.step g c tick order).2.2).2 k cut) policy' order' none = .ok rec ∧
      (AbsEq rec.log.queues l.queues ∨ AbsEq rec.log.queues (l.step g c tick order).1.queues) :=
  C02U.C02_usable_crash_atomic g hB cap l img b (.base h fun j hj => hfits j (List.mem_append_left _ hj)) hb c tick
    order (fun j hj => hfits j (List.mem_append_right _ hj)) htorn k cut policy' order'

theorem toOsOps_no_unlink (cap : Nat) (es : List Effect) (hes : ∀ f, Effect.unlink f ∉ es) :
    ∀ (b : BufSt) (f : Nat), OsOp.unlink f ∉ (toOsOps cap b es).2 := by
  induction es with
  | nil => intro b f hf; simp [toOsOps] at hf
  | cons e es ih =>
    intro b f hf
    rw [toOsOps_cons] at hf
    simp only [List.mem_append] at hf
    rcases hf with hf | hf
    · -- the `BufWriter` adds only writes: an `unlink` operation comes from an `unlink` effect
      rcases P.mem_bufStep hf with ⟨_, _, _, h⟩ | h
      · cases h
      · cases e with
        | unlink f' => cases List.mem_singleton.mp h; exact hes f List.mem_cons_self
        | _ => simp [direct] at h
    · exact ih (fun f' hf' => hes f' (List.mem_cons_of_mem _ hf')) _ f hf

/-- **C02, before the unlinks** (queues with their file handles): for every crash point at which
    no `unlink` has been issued -/
theorem C02_crash_atomic_exact (g : Geom) (hB : g.B ≤ 65542) (cap : Nat) (l : Log) (J : List JE)
    (img : Image) (b : BufSt) (h : C01R.ReachD g cap l J img b) (hb : b.pend = []) (c : Call) (tick : Bool)
    (order : List Bytes) (hfits : ∀ j ∈ J ++ l.stepJ g c order, C07.WF j.e)
    (htorn : TornStep g l c tick order) (k cut : Nat)
    (hnu : ∀ f, OsOp.unlink f ∉ ((toOsOps cap b (l.step g c tick order).2.2).2).take k)
    (policy' : Policy) (order' : List Bytes) :
    ∃ rec, recover g (crashImage img (toOsOps cap b (l.step g c tick order).2.2).2 k cut) policy' order' none = .ok rec ∧
      (QsEquiv rec.log.queues l.queues ∨ QsEquiv rec.log.queues (l.step g c tick order).1.queues) := by
  have hwfJ : ∀ j ∈ J, C07.WF j.e := fun j hj => hfits j (List.mem_append_left _ hj)
  obtain ⟨hc, st, st', hinv, hrun⟩ := reach_run g hB cap h hwfJ hb c tick order
  obtain ⟨A, U, S, heff, hAnu, hS, hpre, hfin⟩ := step_decomp g hB hc c tick order hfits htorn
  have fin : ∀ X, PreRes g l.queues (l.step g c tick order).1.queues X →
      ∃ rec, recover g X policy' order' none = .ok rec ∧
        (QsEquiv rec.log.queues l.queues ∨ QsEquiv rec.log.queues (l.step g c tick order).1.queues) := by
    intro X hXr
    obtain ⟨lp, e0, io, hrec, hq⟩ := hXr policy'
    obtain ⟨r, hr, hrq⟩ := recover_of_pre g X policy' order' lp e0 io hrec
    exact ⟨r, hr, by rw [hrq]; exact hq⟩
  apply fin
  cases U with
  | nil =>
    -- the call unlinks nothing
    have hX := crash_cut cap _ b st st' img hinv hrun k cut
    rw [pendW_nil b hb, List.nil_append] at hX
    generalize crashImage img (toOsOps cap b (l.step g c tick order).2.2).2 k cut = X at hX ⊢
    rw [heff] at hX
    simp only [List.map_nil, List.append_nil] at hX heff
    rcases L.CutW.of_append _ hX with hX | hX
    · exact hpre _ hX
    · have hXe := cut_syncL hS hX
      rw [hXe]
      have : applyOsOps img (directOps A) = applyOsOps img (directOps (l.step g c tick order).2.2) := by
        rw [heff, directOps_append, applyOsOps_append, syncL_apply hS]
      rw [this]; exact hfin
  | cons f0 U' =>
    -- the crash point lies in the part before the first unlink
    have heff2 : (l.step g c tick order).2.2 = A ++ (Effect.unlink f0 :: (U'.map Effect.unlink ++ S)) := by
      rw [heff]; simp
    rw [heff2] at hrun hnu ⊢
    rw [run_append] at hrun
    cases hrA : run st A with
    | none => rw [hrA] at hrun; cases hrun
    | some stA =>
      rw [toOsOps_append] at hnu ⊢
      simp only at hnu ⊢
      rw [toOsOps_cons] at hnu ⊢
      rw [show (bufStep cap (toOsOps cap b A).1 (Effect.unlink f0)).2 = [OsOp.unlink f0] from rfl] at hnu ⊢
      simp only [List.cons_append, List.nil_append] at hnu ⊢
      rw [crashImage_before_unlink _ _ _ _ _ _ (hnu f0)]
      have hX := crash_cut cap A b st stA img hinv hrA k cut
      rw [pendW_nil b hb, List.nil_append] at hX
      exact hpre _ hX

theorem second_cut (g : Geom) (hB : g.B ≤ 65542) {l : Log} {J : List JE} {D : Image}
    (hc : CInv g l J D) (hwfJ : ∀ j ∈ J, C07.WF j.e) (policy : Policy) (order : List Bytes) (lp : Log)
    (e0 : List Effect) (io : Nat) (rec : Recovered)
    (hpre : recoverPre g D policy none = .ok (lp, e0, io))
    (hrec : recover g D policy order none = .ok rec) :
    CInv g lp J D ∧ QsEquiv lp.queues l.queues ∧
    rec.effects = [.ensureLen (l.files.headD 0) g.fileBytes] ++ (runGc g lp order).2.1 := by
  obtain ⟨lp', io', r', hpre', hrec', hlog, heff, hc', hq⟩ := recover_ok g hB hc hwfJ policy order
  rw [hpre] at hpre'
  simp only [Except.ok.injEq, Prod.mk.injEq] at hpre'
  obtain ⟨rfl, _, _⟩ := hpre'
  rw [hrec] at hrec'
  simp only [Except.ok.injEq] at hrec'
  subst hrec'
  exact ⟨hc', hq, heff⟩

/-- **C02, second crash** (every crash point; queues up to the file handles): a crash during the
    OS operations of `open` itself — its GC pass — on any reachable flushed disk -/
theorem C02_second_crash (g : Geom) (hB : g.B ≤ 65542) (cap : Nat) (l : Log) (J : List JE) (img : Image)
    (b : BufSt) (h : C01R.ReachD g cap l J img b) (policy : Policy) (order : List Bytes) (lp : Log)
    (e0 : List Effect) (io : Nat) (rec : Recovered)
    (hpre : recoverPre g (C01R.flushDisk img b) policy none = .ok (lp, e0, io))
    (hrec : recover g (C01R.flushDisk img b) policy order none = .ok rec)
    (hfits : ∀ j ∈ J ++ gcJ g lp order, C07.WF j.e) (htorn : TornEffs rec.effects)
    (k cut : Nat) (policy' : Policy) (order' : List Bytes) :
    ∃ rec', recover g (crashImage (C01R.flushDisk img b) (toOsOps cap {} rec.effects).2 k cut)
        policy' order' none = .ok rec' ∧ AbsEq rec'.log.queues l.queues :=
  C02U.C02_usable_second_crash g hB cap l img b (.base h fun j hj => hfits j (List.mem_append_left _ hj)) policy order
    lp e0 io rec hpre hrec (fun j hj => hfits j (List.mem_append_right _ hj)) htorn k cut policy' order'

/-- **C02, second crash, before the unlinks** (queues with their file handles) -/
theorem C02_second_crash_exact (g : Geom) (hB : g.B ≤ 65542) (cap : Nat) (l : Log) (J : List JE)
    (img : Image) (b : BufSt) (h : C01R.ReachD g cap l J img b) (policy : Policy) (order : List Bytes)
    (lp : Log) (e0 : List Effect) (io : Nat) (rec : Recovered)
    (hpre : recoverPre g (C01R.flushDisk img b) policy none = .ok (lp, e0, io))
    (hrec : recover g (C01R.flushDisk img b) policy order none = .ok rec)
    (hfits : ∀ j ∈ J ++ gcJ g lp order, C07.WF j.e) (htorn : TornEffs rec.effects)
    (X : Image) (hX : ∃ (A : List Effect) (U : List Nat), (runGc g lp order).2.1 = A ++ U.map Effect.unlink ∧
      (∀ f, Effect.unlink f ∉ A) ∧ CutState (C01R.flushDisk img b) A X)
    (policy' : Policy) (order' : List Bytes) :
    ∃ rec', recover g X policy' order' none = .ok rec' ∧ QsEquiv rec'.log.queues l.queues := by
  have hwfJ : ∀ j ∈ J, C07.WF j.e := fun j hj => hfits j (List.mem_append_left _ hj)
  have hr := C01R.reach_rinv g hB cap h hwfJ
  obtain ⟨hc', hq, heff⟩ := second_cut g hB hr.c hwfJ policy order lp e0 io rec hpre hrec
  obtain ⟨A', U', hgeff, hnoA', hpreA⟩ := gc_decomp g hB hc' order hfits
    (htorn.mono (by intro v hv; rw [heff]; exact List.mem_append_right _ hv))
  obtain ⟨A, U, hAU, hnoA, hXA⟩ := hX
  obtain ⟨R, hR⟩ := prefix_before_unlinks (hAU.symm.trans hgeff) hnoA
  have hXA' : L.CutW false (C01R.flushDisk img b) A' X := by rw [hR]; exact (L.cutState_iff.mp hXA).append_left R
  obtain ⟨lp', e0', io', h1, h2⟩ := hpreA X hXA' policy'
  obtain ⟨r, hr', hrq⟩ := recover_of_pre g X policy' order' lp' e0' io' h1
  exact ⟨r, hr', by rw [hrq]; exact h2.trans hq⟩

/-- **C02, usability on disks with the strict invariant.** A restart on ANY disk carrying `CInv`
    (the invariant of clean histories, MRL/Proofs/GRestart.lean) — reachable or obtained after a
    crash — re-establishes it for the log `open` returns, the journal extended by `open`'s GC
    touches, and the disk `open` leaves. Together with `clean_crash_points`: after a crash at a point
    that leaves no remnant on the tape (before the call's first byte, or after its last operation),
    the recovered log is indistinguishable from one that never crashed.
    `CInv` does not hold of crash images with a torn remnant (a corrupt frame or torn header stays
    on the tape; the reader skips it but the layout invariant `FLay` does not describe it), with
    the next file pre-created, or in the middle of the unlinks: for those see `C02U.crash_cinvx`. -/
theorem C02_recovered_usable_partial (g : Geom) (hB : g.B ≤ 65542) (cap : Nat) {lm : Log} {Jm : List JE}
    {X : Image} (hX : CInv g lm Jm X) (hwf : ∀ j ∈ Jm, C07.WF j.e) (policy : Policy) (order : List Bytes) :
    ∃ lp io rec, recoverPre g X policy none = .ok (lp, [.ensureLen (lm.files.headD 0) g.fileBytes], io) ∧
      recover g X policy order none = .ok rec ∧
      CInv g lp Jm X ∧ QsEquiv lp.queues lm.queues ∧
      CInv g rec.log (Jm ++ gcJ g lp order)
        (G.flushDisk (applyOsOps X (toOsOps cap {} rec.effects).2) (toOsOps cap {} rec.effects).1) ∧
      BufOK cap rec.log (toOsOps cap {} rec.effects).1 :=
  recover_cinv g hB cap hX hwf policy order

/-- the disk before the call and the (flushed) disk after its last operation carry the
    invariant, with the log before, resp. after, the call; every `k` past the last operation
    gives the latter -/
theorem clean_crash_points (g : Geom) (hB : g.B ≤ 65542) (cap : Nat) (l : Log) (J : List JE) (img : Image)
    (b : BufSt) (h : C01R.ReachD g cap l J img b) (hb : b.pend = []) (c : Call) (tick : Bool)
    (order : List Bytes) (hfits : ∀ j ∈ J ++ l.stepJ g c order, C07.WF j.e) :
    CInv g l J img ∧
    CInv g (l.step g c tick order).1 (J ++ l.stepJ g c order)
      (applyOsOps img (directOps (l.step g c tick order).2.2)) ∧
    (∀ k cut, (toOsOps cap b (l.step g c tick order).2.2).2.length ≤ k →
      G.flushDisk (crashImage img (toOsOps cap b (l.step g c tick order).2.2).2 k cut)
        (toOsOps cap b (l.step g c tick order).2.2).1 =
        applyOsOps img (directOps (l.step g c tick order).2.2)) := by
  have hwfJ : ∀ j ∈ J, C07.WF j.e := fun j hj => hfits j (List.mem_append_left _ hj)
  obtain ⟨hc, st, st', hinv, hrun⟩ := reach_run g hB cap h hwfJ hb c tick order
  refine ⟨hc, cinv_step g hc c tick order, ?_⟩
  intro k cut hk
  have hfl := (flushDisk_toOsOps cap img b _ st st' hinv hrun).1
  have hD : G.flushDisk img b = img := flushDisk_of_empty img b hb
  rw [hD] at hfl
  rw [← hfl]
  simp only [crashImage]
  rw [List.take_of_length_le hk]
  have : (toOsOps cap b (l.step g c tick order).2.2).2[k]? = none := by
    rw [List.getElem?_eq_none_iff]; exact hk
  rw [this]

end MRL.C02A
