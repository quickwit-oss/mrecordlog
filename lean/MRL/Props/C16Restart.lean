/-
C16, restart leg: memory accounting survives a restart. From C01 (end to end) every queue comes
back with the same records, hence the same `size()`; the total `usedBytes` is a sum over an
association list whose order may differ after a restart, so it is compared through a
permutation-invariant argument on maps with distinct keys.
-/
import MRL.Proofs.LegRestart
import MRL.Proofs.QSum
import MRL.Props.C08

namespace MRL.C16R
open C01R Restart

/-- **Per queue**: after a restart every queue has the same `size()`, and no other queue exists. -/
theorem C16_restart_queue (g : Geom) (hB : g.B ≤ 65542) (cap : Nat) (l : Log) (J : List JE) (img : Image)
    (b : BufSt) (h : ReachD g cap l J img b) (hfits : ∀ j ∈ J, C07.WF j.e) (policy : Policy)
    (order : List Bytes) (r : Recovered) (hr : recover g (flushDisk img b) policy order none = .ok r)
    (msz : Nat) (name : Bytes) :
    (r.log.queues.get? name).map (MemQueue.size msz) = (l.queues.get? name).map (MemQueue.size msz) :=
  (restart_queues hB h hfits hr).map_get (MemQueue.size msz)
    (fun x y h => by unfold MemQueue.size; rw [h.1]) name

/-- **Total**: `memory_used_bytes` is the same after a restart. -/
theorem C16_restart_used (g : Geom) (hB : g.B ≤ 65542) (cap : Nat) (l : Log) (J : List JE) (img : Image)
    (b : BufSt) (h : ReachD g cap l J img b) (hfits : ∀ j ∈ J, C07.WF j.e) (policy : Policy)
    (order : List Bytes) (r : Recovered) (hr : recover g (flushDisk img b) policy order none = .ok r)
    (msz : Nat) : MemQueues.usedBytes msz r.log.queues = MemQueues.usedBytes msz l.queues := by
  have hIr := C08.recover_sorted g _ policy order none r hr
  have hIl : C05.Inv l := Reach.inv (s := ⟨l, J, img, b⟩) hB h hfits
  exact MemQueues.sum_congr (MemQueue.size msz) r.log.queues l.queues hIr.1 hIl.1
    (C16_restart_queue g hB cap l J img b h hfits policy order r hr msz)

theorem reopens_used {g : Geom} {cap : Nat} (hB : g.B ≤ 65542) {s s' : Sys} (h : Reach g cap s) (hwf : WFJ s)
    {policy : Policy} {order : List Bytes} (hr : Reopens g cap s policy order s') (msz : Nat) :
    MemQueues.usedBytes msz s'.l.queues = MemQueues.usedBytes msz s.l.queues := by
  obtain ⟨lp, e0, io, r, _, hrec, rfl⟩ := hr
  exact C16_restart_used g hB cap s.l s.J s.img s.b h hwf policy order r hrec msz

/-- non-vacuity of the order-independence: the same map listed in two orders, with different
    `start` fields, has the same `usedBytes` -/
example : MemQueues.usedBytes 24 [([1], { start := 0, recs := [⟨3, [7, 7], none⟩] }), ([2, 2], {})] =
    MemQueues.usedBytes 24 [([2, 2], { start := 9, recs := [] }), ([1], { start := 3, recs := [⟨3, [7, 7], none⟩] })] := by
  decide

end MRL.C16R
