/-
C08 (second half, byte level) — whatever bytes of the WAL are overwritten in place, a successful
open never returns an entry (hence a record) that was not written, up to a CRC-32 collision.

Setting of C07/C09: entries `es` written from cursor `c`; `fs := Torn.framesOf g c hc es` the
frames; `W := zeros c ++ bufs.flatten ++ zeros z` the clean stream (whole blocks). `W'` is ANY
byte string of the same length. `locs g c fs` lists the frames with the absolute offset of their
headers in `W` (`genuine_location`: `encodeFrame t p` is there in `W`).

`NoAccidentalFrame` is the precise content of "up to a CRC-32 collision". It is about LOCATIONS,
because the checksum does not cover the length field (after a damaged length the reader is
desynchronised and parses whatever follows — the inside of user payloads included — as frame
headers) and because frames carry no binding to their location: at every block `k` and cursor `x`
where the reader's acceptance test passes on `W'` (`Gen.Accepts`: header not all zero, type byte
decodes to `t`, `x + 7 + len ≤ g.B`, stored checksum = `frameCrc t p'`), the clean stream has a
genuine frame `(t, p')` of the layout starting exactly there.

`negative_example`: the hypothesis is needed. Overwriting the second block of a two-block entry
with a copy of the second block of ANOTHER entry (valid frames, valid checksums) makes the reader
deliver bytes that are in no entry. Finding about the code: frames carry no location or sequence
binding. (`g.B ≤ 65542` is not needed for `C08_genuine_entries`.)
-/
import MRL.Proofs.GenStream
import MRL.Props.C09
import MRL.Props.C08

namespace MRL.C08G
open Consts Codec Torn Gen

noncomputable def genuineLocs (g : Geom) (c : Nat) (hc : c < g.B) (es : List Bytes) : List (Nat × Frm) :=
  locs g c (framesOf g c hc es)

theorem genuine_location (g : Geom) (c : Nat) (hc : c < g.B) (es : List Bytes) (z : Nat)
    (q : Nat) (t : FrameType) (p : Bytes) (h : (q, (t, p)) ∈ genuineLocs g c hc es) :
    ((zeros c ++ (C07.writeEntriesBufs g c hc es).flatten ++ zeros z).drop q).take (7 + p.length) =
      encodeFrame t p := by
  obtain ⟨h1, _, h3⟩ := framesOf_spec g es c hc
  have hm : c % g.B = c := Nat.mod_eq_of_lt hc
  have := locs_in_stream g (framesOf g c hc es) c (zeros c) (zeros z) (length_zeros c) (by rw [hm]; exact h3) _ h
  rw [hm, ← h1] at this
  exact this

/-- **the collision clause**: wherever the reader's acceptance test passes on `W'`, the layout has
    that very frame (type and payload) at that very location -/
def NoAccidentalFrame (g : Geom) (c : Nat) (hc : c < g.B) (es : List Bytes) (W' : Bytes) : Prop :=
  ∀ k x t p, Accepts g W' k x t p → (k * g.B + x, (t, p)) ∈ genuineLocs g c hc es

/-- **C08.** Under `NoAccidentalFrame`, whatever the damage, the entries delivered are a
    sub-sequence of the entries written. -/
theorem C08_genuine_entries (g : Geom) (c : Nat) (hc : c < g.B) (es : List Bytes) (file z : Nat) (hz : 7 ≤ z)
    (W' : Bytes) (hN : NoAccidentalFrame g c hc es W') :
    let W := zeros c ++ (C07.writeEntriesBufs g c hc es).flatten ++ zeros z
    W.length % g.B = 0 → W'.length = W.length →
    ∃ b0 rest evs e io,
      fileBlocks g file W' 1 0 (W'.length / g.B) = b0 :: rest ∧
      scanBlocks g none 1 0 b0 c rest = some (evs, e, io) ∧
      List.Sublist (entriesOf (assemble { within := false, buf := [], attr := file } evs))
        (es.map (RecEv.entry file)) ∧
      ∀ a bytes, RecEv.entry a bytes ∈ assemble { within := false, buf := [], attr := file } evs →
        a = file ∧ bytes ∈ es := by
  intro W hmod hsame
  obtain ⟨n, hn⟩ := whole_blocks g W' (by rw [hsame]; exact hmod) (hsame ▸ pos_of_zeros _ (Nat.lt_of_lt_of_le (by decide) hz))
  obtain ⟨b0, rest, io, hfb, hsb⟩ := pipeline g file W' c n hn
  have hL := located_locs g (framesOf g c hc es) c
  have htr := trace_blocks g _ hL W' hN (blk1 g file 0 W') (n + 1) (fun _ => rfl) hn n 0 c rfl (Nat.le_of_lt hc) false
    (fun h => by cases h)
  simp only [Nat.zero_mul, Nat.zero_add] at htr
  have hall : ahead (locs g c (framesOf g c hc es)) c = locs g c (framesOf g c hc es) :=
    ahead_eq_self fun y hy => Nat.le_trans (G.le_hdrPos g c) (locs_ge g _ c y hy)
  rw [hall, locs_snd, ← readFrom_eq_scanFrom] at htr
  -- one file: the entries delivered are attributed to it
  have hone := entriesOf_one_file file (readFrom g file W' 0 n c).1 { within := false, buf := [], attr := file } rfl
    (by rw [readFrom_eq_scanFrom]
        exact tagOf_scanB g file _ _ c rfl fun b hb => by
          obtain ⟨i, _, rfl⟩ := List.mem_map.mp hb
          rfl)
  have hsub : List.Sublist (entriesOf (assemble { within := false, buf := [], attr := file }
      (readFrom g file W' 0 n c).1)) (es.map (RecEv.entry file)) := by
    rw [hone]
    exact (asm_trace_init file es _ (framesOf_spec g es c hc).2.1 false _ htr).map _
  refine ⟨b0, rest, _, _, io, hfb, hsb, hsub, ?_⟩
  intro a bytes hmem
  have h1 : RecEv.entry a bytes ∈ entriesOf (assemble { within := false, buf := [], attr := file }
      (readFrom g file W' 0 n c).1) := by
    unfold entriesOf; rw [List.mem_filter]; exact ⟨hmem, rfl⟩
  have h2 := hsub.subset h1
  simp only [List.mem_map, RecEv.entry.injEq] at h2
  obtain ⟨b, hb, rfl, rfl⟩ := h2
  exact ⟨rfl, hb⟩

theorem delivered_decoded (file : Nat) (entries : List Entry)
    (hdec : ∀ e ∈ entries, Entry.decode e.encode = some e) (recEvs : List RecEv)
    (hsub : List.Sublist (entriesOf recEvs) ((entries.map Entry.encode).map (RecEv.entry file))) :
    ∃ l', List.Sublist l' entries ∧ Rec.decoded recEvs = l'.map fun e => (file, e) := by
  rw [List.map_map] at hsub
  obtain ⟨l', hl, he⟩ := List.sublist_map_iff.mp hsub
  refine ⟨l', hl, ?_⟩
  rw [← decoded_entriesOf, he]
  exact decoded_encoded file l' (fun e he => hdec e (hl.subset he))

/-- … hence every record replay installs is a record of an entry written. -/
theorem C08_genuine_records (g : Geom) (c : Nat) (hc : c < g.B) (entries : List Entry)
    (hwf : ∀ e ∈ entries, C07.WF e) (file z : Nat) (hz : 7 ≤ z) (W' : Bytes)
    (hN : NoAccidentalFrame g c hc (entries.map Entry.encode) W') :
    let es := entries.map Entry.encode
    let W := zeros c ++ (C07.writeEntriesBufs g c hc es).flatten ++ zeros z
    W.length % g.B = 0 → W'.length = W.length →
    ∃ b0 rest evs e io,
      fileBlocks g file W' 1 0 (W'.length / g.B) = b0 :: rest ∧
      scanBlocks g none 1 0 b0 c rest = some (evs, e, io) ∧
      (∃ l', List.Sublist l' entries ∧
        Rec.decoded (assemble { within := false, buf := [], attr := file } evs) = l'.map fun e => (file, e)) ∧
      ∀ qs, replay [] (assemble { within := false, buf := [], attr := file } evs) = some qs →
        ∀ kv ∈ qs, ∀ rec ∈ kv.2.recs,
          (kv.1, rec.pos, rec.payload) ∈ Rec.recordsOf (entries.map fun e => (file, e)) := by
  intro es W hmod hsame
  obtain ⟨b0, rest, evs, e, io, h1, h2, h3, _⟩ := C08_genuine_entries g c hc es file z hz W' hN hmod hsame
  obtain ⟨l', hl, hd⟩ := delivered_decoded file entries (fun e he => C07.decode_encode e (hwf e he)) _ h3
  refine ⟨b0, rest, evs, e, io, h1, h2, ⟨l', hl, hd⟩, ?_⟩
  intro qs hq kv hkv rec hrec
  rw [Rec.replay_eq, hd] at hq
  have := C08.replay_records_subset _ qs hq kv hkv rec hrec
  exact recordsOf_sublist (hl.map _) _ this

/-! ### non-vacuity on `g.B = 16`

The two entries of the C02/C09 example: frames at offsets 0 (Full `[1, 2]`), 9 (empty First),
16 (Middle), 32 (Last); clean stream `exW` (64 bytes). `NoAccidentalFrame` is checked location by
location (`Gen.checkAll`: 4 blocks × 10 cursors, by kernel evaluation, checksums included). -/

def exLocs : List (Nat × Frm) :=
  [(0, (.full, [1, 2])), (9, (.first, [])), (16, (.middle, [3, 0, 0, 0, 0, 0, 0, 0, 0])), (32, (.last, [0, 0, 4]))]

open C02 in
theorem exGenuineLocs : genuineLocs g16 0 (by decide) exEs = exLocs := by
  unfold genuineLocs
  rw [C09.exFrames]
  decide

/-- the clean stream of the example, byte by byte -/
def exW : Bytes :=
  [72, 227, 150, 9, 2, 0, 1, 1, 2, 161, 142, 12, 60, 0, 0, 2, 176, 239, 48, 49, 9, 0, 3, 3, 0, 0, 0, 0, 0, 0, 0, 0, 82,
   140, 75, 169, 3, 0, 4, 0, 0, 4, 0, 0, 0, 0, 0, 0, 0, 0, 0, 0, 0, 0, 0, 0, 0, 0, 0, 0, 0, 0, 0, 0]

open C02 in
theorem exW_eq : zeros 0 ++ (C07.writeEntriesBufs g16 0 (by decide) exEs).flatten ++ zeros 22 = exW := by
  rw [exBufs]
  simp only [Twin.encodeFrame_eq]
  decide +kernel

/-- (a) one payload byte of the Full frame changed (offset 8: `2 ↦ 9`) -/
def exWa : Bytes := exW.set 8 9
/-- (b) the length field of the Middle frame zeroed (offsets 20, 21): the reader is desynchronised
    inside block 1, parses payload bytes as a header, gives the block up -/
def exWb : Bytes := (exW.set 20 0).set 21 0

theorem exCheck : checkAll C02.g16 exLocs exWa 4 = true ∧ checkAll C02.g16 exLocs exWb 4 = true := by
  simp only [checkAll, acceptB, Twin.frameCrc_eq]
  decide +kernel

open C02 in
theorem exNoAcc (W' : Bytes) (hl : W'.length = 64) (h : checkAll g16 exLocs W' 4 = true) :
    NoAccidentalFrame g16 0 (by decide) exEs W' := by
  unfold NoAccidentalFrame
  rw [exGenuineLocs]
  exact noAcc_of_check g16 exLocs W' 4 (by rw [hl]; decide) h

open C02 in
/-- (a): every hypothesis discharged. The executable model delivers `[corrupt, entry 5 [3, 0, …, 4]]`:
    the sub-sequence `[es[1]]`. -/
example := C08_genuine_entries g16 0 (by decide) exEs 5 22 (by decide) exWa (exNoAcc exWa rfl exCheck.1)
  (by rw [exW_eq]; decide) (by rw [exW_eq]; decide)

open C02 in
/-- (b): the executable model delivers `[entry 5 [1, 2], corrupt, corrupt]`: the sub-sequence `[es[0]]`. -/
example := C08_genuine_entries g16 0 (by decide) exEs 5 22 (by decide) exWb (exNoAcc exWb rfl exCheck.2)
  (by rw [exW_eq]; decide) (by rw [exW_eq]; decide)

/-! ### the hypothesis is needed: a block replaced by a copy of another valid block

Two 18-byte entries, each a First frame filling one block and a Last frame filling the next.
Block 1 (the Last frame of entry 0) is overwritten with a copy of block 3 (the Last frame of entry
1): every frame of the damaged stream is valid, and the reader delivers `b1 ++ c2`, which is in no
entry. -/

def exEs2 : List Bytes :=
  [[1, 1, 1, 1, 1, 1, 1, 1, 1, 2, 2, 2, 2, 2, 2, 2, 2, 2], [3, 3, 3, 3, 3, 3, 3, 3, 3, 4, 4, 4, 4, 4, 4, 4, 4, 4]]

theorem exBufs2 : C07.writeEntriesBufs C02.g16 0 (by decide) exEs2 =
    [encodeFrame .first [1, 1, 1, 1, 1, 1, 1, 1, 1], encodeFrame .last [2, 2, 2, 2, 2, 2, 2, 2, 2],
     encodeFrame .first [3, 3, 3, 3, 3, 3, 3, 3, 3], encodeFrame .last [4, 4, 4, 4, 4, 4, 4, 4, 4]] := by
  rw [C07.writeEntries_twin]; simp only [Twin.encodeFrame_eq]; decide +kernel

/-- the frames the damaged stream is made of: all valid, but the second is not where it belongs -/
def exFs2' : List Frm :=
  [(.first, [1, 1, 1, 1, 1, 1, 1, 1, 1]), (.last, [4, 4, 4, 4, 4, 4, 4, 4, 4]),
   (.first, [3, 3, 3, 3, 3, 3, 3, 3, 3]), (.last, [4, 4, 4, 4, 4, 4, 4, 4, 4])]

def exW2' : Bytes := zeros 0 ++ (layoutBufs C02.g16 0 exFs2').flatten ++ zeros 16

open C02 in
/-- it is the clean stream with block 1 replaced by a copy of block 3 -/
theorem exW2'_is_overwrite :
    let W := zeros 0 ++ (C07.writeEntriesBufs g16 0 (by decide) exEs2).flatten ++ zeros 16
    exW2' = W.take 16 ++ (W.drop 48).take 16 ++ W.drop 32 ∧ exW2'.length = W.length := by
  intro W
  have hW : W = zeros 0 ++ [encodeFrame .first [1, 1, 1, 1, 1, 1, 1, 1, 1], encodeFrame .last [2, 2, 2, 2, 2, 2, 2, 2, 2],
      encodeFrame .first [3, 3, 3, 3, 3, 3, 3, 3, 3], encodeFrame .last [4, 4, 4, 4, 4, 4, 4, 4, 4]].flatten ++ zeros 16 := by
    show zeros 0 ++ (C07.writeEntriesBufs g16 0 (by decide) exEs2).flatten ++ zeros 16 = _
    rw [exBufs2]
  rw [hW, exW2', exFs2']
  simp only [layoutBufs, frameWrites, Twin.encodeFrame_eq]
  decide +kernel

open C02 in
/-- **negative example**: a stream of the same length, every frame of which passes the reader's
    test, read without any corruption event, delivering an entry that was never written -/
theorem negative_example :
    ∃ b0 rest evs e io,
      fileBlocks g16 5 exW2' 1 0 (exW2'.length / 16) = b0 :: rest ∧
      scanBlocks g16 none 1 0 b0 0 rest = some (evs, e, io) ∧
      assemble { within := false, buf := [], attr := 5 } evs =
        [.entry 5 [1, 1, 1, 1, 1, 1, 1, 1, 1, 4, 4, 4, 4, 4, 4, 4, 4, 4],
         .entry 5 [3, 3, 3, 3, 3, 3, 3, 3, 3, 4, 4, 4, 4, 4, 4, 4, 4, 4]] ∧
      [1, 1, 1, 1, 1, 1, 1, 1, 1, 4, 4, 4, 4, 4, 4, 4, 4, 4] ∉ exEs2 := by
  have hfits : Fits g16 0 exFs2' := by
    simp [exFs2', Fits, maxFrameLen, frameEndCursor, adv, g16, HEADER_LEN]
  have hlen : exW2'.length = (4 + 1) * g16.B := by
    simp [exW2', exFs2', layoutBufs, frameWrites, frameEndCursor, adv, g16, HEADER_LEN, length_encodeFrame]
  have hdrop : exW2'.drop 0 = (layoutBufs g16 0 exFs2').flatten ++ zeros 16 :=
    congrArg (· ++ zeros 16) (List.nil_append _)
  obtain ⟨e, r1, _, _⟩ := readFrom_layout g16 (by decide) 5 16 (by decide) exFs2' exW2' 4 0 (by decide)
    hfits hlen hdrop
  obtain ⟨b0, rest, io, hfb, hsb⟩ := pipeline g16 5 exW2' 0 4 hlen
  rw [r1] at hsb
  exact ⟨b0, rest, _, e, io, hfb, hsb, rfl, by decide⟩

open C02 in
/-- and indeed `NoAccidentalFrame` fails for it: the reader accepts a `Last [4…]` frame at offset 16,
    where the layout has `Last [2…]` -/
theorem negative_violates : ¬ NoAccidentalFrame g16 0 (by decide) exEs2 exW2' := by
  intro h
  have hacc : Accepts g16 exW2' 1 0 .last [4, 4, 4, 4, 4, 4, 4, 4, 4] := by
    unfold Accepts exW2' exFs2'
    simp only [layoutBufs, frameWrites, Twin.encodeFrame_eq, Twin.frameCrc_eq]
    decide +kernel
  have hmem := h 1 0 _ _ hacc
  have hframes : framesOf g16 0 (by decide) exEs2 =
      [(.first, [1, 1, 1, 1, 1, 1, 1, 1, 1]), (.last, [2, 2, 2, 2, 2, 2, 2, 2, 2]),
       (.first, [3, 3, 3, 3, 3, 3, 3, 3, 3]), (.last, [4, 4, 4, 4, 4, 4, 4, 4, 4])] := by
    apply layoutBufs_inj g16 _ _ 0
    rw [← (framesOf_spec g16 exEs2 0 (by decide)).1, exBufs2]
    simp [layoutBufs, frameWrites, frameEndCursor, adv, g16, HEADER_LEN]
  unfold genuineLocs at hmem
  rw [hframes] at hmem
  revert hmem
  decide

end MRL.C08G
