/-
C15 for `open`: the bytes the GC pass of `open_with_prefs` appends to the WAL (the count
`run_gc_if_necessary` returns and `open` discards: "not surfaced to any user-facing API") are
exactly the bytes of the `write` effects of `open`; preparing the directory writes nothing.
-/
import MRL.Props.C15
import MRL.Proofs.StepGc

namespace MRL.C15O
open C15

/-- preparing the directory (`create wal-0` / `set_len`) writes no WAL byte -/
theorem prepare_no_write (g : Geom) (img : Image) :
    (prepareImage g img).2.all (fun e => !isWrite e) = true ∧ writtenBytes (prepareImage g img).2 = 0 := by
  unfold prepareImage
  split
  · exact ⟨rfl, rfl⟩
  · split <;> exact ⟨rfl, rfl⟩

theorem C15_open (g : Geom) (img : Image) (policy : Policy) (order : List Bytes) (failAt : Option Nat)
    (r : Recovered) (lp : Log) (e0 : List Effect) (io : Nat)
    (hpre : recoverPre g img policy failAt = .ok (lp, e0, io))
    (hrec : recover g img policy order failAt = .ok r) :
    writtenBytes r.effects = (lp.runGc g order).2.2 ∧
    e0.all (fun e => !isWrite e) = true ∧
    cursorAfter (lp.cur, lp.off) r.effects = some (r.log.cur, r.log.off) := by
  obtain ⟨lp', e0', io', hpre', hlog, heff⟩ := Step.recover_ok g img policy order failAt r hrec
  rw [hpre] at hpre'
  simp only [Except.ok.injEq, Prod.mk.injEq] at hpre'
  obtain ⟨rfl, rfl, rfl⟩ := hpre'
  have he0 := Step.recoverPre_effects g img policy failAt lp e0 io hpre
  obtain ⟨h1, h2⟩ := prepare_no_write g img
  rw [← he0] at h1 h2
  refine ⟨?_, h1, ?_⟩
  · rw [heff, writtenBytes_append, h2, Nat.zero_add]
    exact (along_bytes g).runGc lp order
  · rw [heff, hlog, cursorAfter_append, cursorAfter_noWrite _ h1, Option.bind_some]
    exact ((along_run g).runGc lp order).2

/-- zero reported bytes ⇔ `open` wrote nothing to the WAL -/
theorem C15_open_zero_iff (g : Geom) (img : Image) (policy : Policy) (order : List Bytes) (failAt : Option Nat)
    (r : Recovered) (lp : Log) (e0 : List Effect) (io : Nat)
    (hpre : recoverPre g img policy failAt = .ok (lp, e0, io))
    (hrec : recover g img policy order failAt = .ok r) :
    (lp.runGc g order).2.2 = 0 ↔ r.effects.all (fun e => !isWrite e) = true := by
  obtain ⟨h1, h2, _⟩ := C15_open g img policy order failAt r lp e0 io hpre hrec
  rw [← h1]
  apply writtenBytes_eq_zero_iff
  obtain ⟨lp', e0', io', hpre', _, heff⟩ := Step.recover_ok g img policy order failAt r hrec
  rw [hpre] at hpre'
  simp only [Except.ok.injEq, Prod.mk.injEq] at hpre'
  obtain ⟨rfl, rfl, rfl⟩ := hpre'
  rw [heff]
  exact (writesNonempty_of_noWrite _ h2).append ((along_run g).runGc lp order).1

end MRL.C15O
