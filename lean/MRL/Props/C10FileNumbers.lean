/-
C10, file numbers along crash-reachable histories (namespace `MRL.C10FN`; the three lemmas on `open`
that come first continue `MRL.FN` of `Proofs/FNGrow.lean`).

`C10R.call_no_panic` carries `hcur : (l.step g c tick order).1.cur ≤ U64MAX`, and
`C10R.reopen_no_panic` / `crash_open_no_panic` / `crash2_open_no_panic` carry `hfiles`, `hn`, `hcount`
(the image's file numbers leave room for the roll-overs of the GC pass of `open`). This file
discharges all four from ONE counter carried along the history.

`ReachXN g cap P n N l img b` is `C07F.ReachXF g cap P n l img b` (fitting calls, restarts, crashes at
any point of a call or of `open`, any number of times) with one more index `N`, which counts
roll-overs:

* a call adds `FN.crs effects`, the number of files the call creates (= its roll-overs into a NEW file);
* an `open` adds `gcBufCount g lp order`, the number of buffers its GC pass hands to the writer (each
  rolls at most once; this is the quantity of `hcount`);
* a crashed call adds both (the files the complete call would create, then the `open`);
* a crashed `open` adds the buffers of both `open`s.

`N` starts at `gcBufCount` of the first `open` (on the empty directory; the log starts at file 0), which is
`0` (`init_counter`).

Every `ReachXF` history has a counter, and the counter bounds every file number of the log and of the
directory. `no_panic_reach`: from a `ReachXN … N` state, every fitting call, every restart, every crash of
a call or of `open` followed by `open`, whose counter AFTER the event is at most `u64::MAX` (in particular:
fewer than 2^62 roll-overs so far), does not panic. Remaining hypotheses: `g.B ≤ 65542` (= 65535 +
`HEADER_LEN`: a frame's length field is a `u16`), `P < u64::MAX` and the fitting of the calls (the
premises of the `ReachXF` constructors), the crash premises of the constructors (`b.pend = []`,
`TornStep`, `TornEffs`), and the bound on the counter. No hypothesis on file numbers is left.
-/
import MRL.Props.C10NoPanicReach

namespace MRL.FN

theorem prepare_crle (g : Geom) (img : Image) : CrLe 0 (prepareImage g img).2 := by
  unfold prepareImage
  split
  · intro f hf
    simp at hf
    exact Nat.le_of_eq hf
  · split <;> exact fun f hf => by simp at hf

/-- **`open`**: the file numbers of the returned log, and of every file `open` creates, are at most
    the largest file number found plus the number of buffers of its GC pass -/
theorem recover_grow (g : Geom) {X : Image} {policy : Policy} {order : List Bytes} {lp : Log} {e0 : List Effect}
    {io : Nat} {r : Recovered} {M : Nat} (hk : ∀ f ∈ X.map (·.1), f ≤ M)
    (hpre : recoverPre g X policy none = .ok (lp, e0, io))
    (hrec : recover g X policy order none = .ok r) :
    C10.Bnd (M + gcBufCount g lp order) r.log ∧ CrLe (M + gcBufCount g lp order) r.effects := by
  obtain ⟨lp', e0', io', hpre', hlog, heff⟩ := Step.recover_ok g X policy order none r hrec
  rw [hpre] at hpre'
  cases hpre'
  obtain ⟨⟨h1, h2⟩, hc⟩ := runGc_grow g lp order M (C10.recoverPre_bnd hk hpre)
  rw [hlog, heff, Step.recoverPre_effects g X policy none lp e0 io hpre]
  have hle := Nat.add_le_add_left hc M
  exact ⟨h1.mono hle, ((prepare_crle g X).mono (Nat.zero_le _)).append (h2.mono hle)⟩

theorem flushDisk_keys {M : Nat} {img : Image} (b : BufSt) (h : KeysLe M img) :
    KeysLe M (C02U.flushDisk img b) :=
  applyOsOps_keys _ h (fun f hf => absurd hf (flushOps_no_create b f))

end MRL.FN

namespace MRL.C10FN
open C07F FN

/-- `C07F.ReachXF` with a roll-over counter `N` -/
inductive ReachXN (g : Geom) (cap P : Nat) : Nat → Nat → Log → Image → BufSt → Prop
  | init (policy : Policy) (order : List Bytes) (lp : Log) (e0 : List Effect) (io : Nat) (r : Recovered) :
      recoverPre g [] policy none = .ok (lp, e0, io) →
      recover g [] policy order none = .ok r →
      ReachXN g cap P 0 (gcBufCount g lp order) r.log
        (applyOsOps [] (toOsOps cap {} r.effects).2) (toOsOps cap {} r.effects).1
  | step {n N : Nat} {l : Log} {img : Image} {b : BufSt} (c : Call) (tick : Bool) (order : List Bytes) :
      ReachXN g cap P n N l img b → CallFits c → C05B.CallBelow P c → P + n + C05B.callRecs c < U64MAX →
      ReachXN g cap P (n + C05B.callRecs c) (N + crs (l.step g c tick order).2.2) (l.step g c tick order).1
        (applyOsOps img (toOsOps cap b (l.step g c tick order).2.2).2)
        (toOsOps cap b (l.step g c tick order).2.2).1
  | reopen {n N : Nat} {l : Log} {img : Image} {b : BufSt} (policy : Policy) (order : List Bytes)
      (lp : Log) (e0 : List Effect) (io : Nat) (r : Recovered) :
      ReachXN g cap P n N l img b →
      recoverPre g (C02U.flushDisk img b) policy none = .ok (lp, e0, io) →
      recover g (C02U.flushDisk img b) policy order none = .ok r →
      ReachXN g cap P n (N + gcBufCount g lp order) r.log
        (applyOsOps (C02U.flushDisk img b) (toOsOps cap {} r.effects).2) (toOsOps cap {} r.effects).1
  | crash {n N : Nat} {l : Log} {img : Image} {b : BufSt} (c : Call) (tick : Bool) (order : List Bytes)
      (k cut : Nat) (X : Image) (policy' : Policy) (order' : List Bytes) (lp : Log) (e0 : List Effect)
      (io : Nat) (r : Recovered) :
      ReachXN g cap P n N l img b → b.pend = [] →
      CallFits c → C05B.CallBelow P c → P + n + C05B.callRecs c < U64MAX →
      C02A.TornStep g l c tick order →
      X = crashImage img (toOsOps cap b (l.step g c tick order).2.2).2 k cut →
      recoverPre g X policy' none = .ok (lp, e0, io) →
      recover g X policy' order' none = .ok r →
      ReachXN g cap P (n + C05B.callRecs c) (N + crs (l.step g c tick order).2.2 + gcBufCount g lp order')
        r.log (applyOsOps X (toOsOps cap {} r.effects).2) (toOsOps cap {} r.effects).1
  | crash2 {n N : Nat} {l : Log} {img : Image} {b : BufSt} (policy : Policy) (order : List Bytes) (lp0 : Log)
      (e00 : List Effect) (io0 : Nat) (r0 : Recovered) (k cut : Nat) (X : Image) (policy' : Policy)
      (order' : List Bytes) (lp : Log) (e0 : List Effect) (io : Nat) (r : Recovered) :
      ReachXN g cap P n N l img b →
      recoverPre g (C02U.flushDisk img b) policy none = .ok (lp0, e00, io0) →
      recover g (C02U.flushDisk img b) policy order none = .ok r0 →
      H.TornEffs r0.effects →
      X = crashImage (C02U.flushDisk img b) (toOsOps cap {} r0.effects).2 k cut →
      recoverPre g X policy' none = .ok (lp, e0, io) →
      recover g X policy' order' none = .ok r →
      ReachXN g cap P n (N + gcBufCount g lp0 order + gcBufCount g lp order') r.log
        (applyOsOps X (toOsOps cap {} r.effects).2) (toOsOps cap {} r.effects).1

theorem toXF {g : Geom} {cap P n N : Nat} {l : Log} {img : Image} {b : BufSt}
    (h : ReachXN g cap P n N l img b) : ReachXF g cap P n l img b := by
  induction h with
  | init policy order lp e0 io r _ hrec => exact ReachXF.base (ReachDF.init policy order r hrec)
  | step c tick order _ hf hb hK ih => exact ReachXF.step c tick order ih hf hb hK
  | reopen policy order lp e0 io r _ hpre hrec ih => exact ReachXF.reopen policy order lp e0 io r ih hpre hrec
  | crash c tick order k cut X policy' order' lp e0 io r _ hbp hf hcb hK htorn hX hpre hrec ih =>
    exact ReachXF.crash c tick order k cut X policy' order' lp e0 io r ih hbp hf hcb hK htorn hX hpre hrec
  | crash2 policy order lp0 e00 io0 r0 k cut X policy' order' lp e0 io r _ hpre0 hrec0 htorn hX hpre hrec ih =>
    exact ReachXF.crash2 policy order lp0 e00 io0 r0 k cut X policy' order' lp e0 io r ih hpre0 hrec0 htorn hX
      hpre hrec

theorem exists_counterD {g : Geom} {cap P n : Nat} {l : Log} {J : List JE} {img : Image} {b : BufSt}
    (h : ReachDF g cap P n l J img b) : ∃ N, ReachXN g cap P n N l img b := by
  induction h with
  | init policy order r hrec =>
    obtain ⟨lp, e0, io, hpre, _, _⟩ := Step.recover_ok g [] policy order none r hrec
    exact ⟨_, ReachXN.init policy order lp e0 io r hpre hrec⟩
  | step c tick order _ hf hb hK ih =>
    obtain ⟨N, ih⟩ := ih
    exact ⟨_, ReachXN.step c tick order ih hf hb hK⟩
  | reopen policy order lp e0 io r _ hpre hrec ih =>
    obtain ⟨N, ih⟩ := ih
    exact ⟨_, ReachXN.reopen policy order lp e0 io r ih hpre hrec⟩

theorem exists_counter {g : Geom} {cap P n : Nat} {l : Log} {img : Image} {b : BufSt}
    (h : ReachXF g cap P n l img b) : ∃ N, ReachXN g cap P n N l img b := by
  induction h with
  | base hd => exact exists_counterD hd
  | step c tick order _ hf hb hK ih =>
    obtain ⟨N, ih⟩ := ih
    exact ⟨_, ReachXN.step c tick order ih hf hb hK⟩
  | reopen policy order lp e0 io r _ hpre hrec ih =>
    obtain ⟨N, ih⟩ := ih
    exact ⟨_, ReachXN.reopen policy order lp e0 io r ih hpre hrec⟩
  | crash c tick order k cut X policy' order' lp e0 io r _ hbp hf hcb hK htorn hX hpre hrec ih =>
    obtain ⟨N, ih⟩ := ih
    exact ⟨_, ReachXN.crash c tick order k cut X policy' order' lp e0 io r ih hbp hf hcb hK htorn hX hpre hrec⟩
  | crash2 policy order lp0 e00 io0 r0 k cut X policy' order' lp e0 io r _ hpre0 hrec0 htorn hX hpre hrec ih =>
    obtain ⟨N, ih⟩ := ih
    exact ⟨_, ReachXN.crash2 policy order lp0 e00 io0 r0 k cut X policy' order' lp e0 io r ih hpre0 hrec0 htorn
      hX hpre hrec⟩

theorem after_open (g : Geom) (cap : Nat) {X : Image} {policy : Policy} {order : List Bytes} {lp : Log}
    {e0 : List Effect} {io : Nat} {r : Recovered} {M : Nat} (hk : KeysLe M X)
    (hpre : recoverPre g X policy none = .ok (lp, e0, io))
    (hrec : recover g X policy order none = .ok r) :
    C10.Bnd (M + gcBufCount g lp order) r.log ∧
    KeysLe (M + gcBufCount g lp order) (applyOsOps X (toOsOps cap {} r.effects).2) ∧
    ∀ k cut, KeysLe (M + gcBufCount g lp order) (crashImage X (toOsOps cap {} r.effects).2 k cut) := by
  obtain ⟨h1, h2⟩ := recover_grow g hk hpre hrec
  obtain ⟨h3, h4⟩ := effects_keys cap {} r.effects (hk.mono (Nat.le_add_right _ _)) h2
  exact ⟨h1, h3, h4⟩

theorem after_call (g : Geom) (cap : Nat) {l : Log} {img : Image} (b : BufSt) {M : Nat} (hb : C10.Bnd M l)
    (hk : KeysLe M img) (c : Call) (tick : Bool) (order : List Bytes) :
    C10.Bnd (M + crs (l.step g c tick order).2.2) (l.step g c tick order).1 ∧
    KeysLe (M + crs (l.step g c tick order).2.2) (applyOsOps img (toOsOps cap b (l.step g c tick order).2.2).2) ∧
    ∀ k cut, KeysLe (M + crs (l.step g c tick order).2.2)
      (crashImage img (toOsOps cap b (l.step g c tick order).2.2).2 k cut) := by
  obtain ⟨⟨h1, h2⟩, _⟩ := step_grow g l c tick order M hb
  obtain ⟨h3, h4⟩ := effects_keys cap b _ (hk.mono (Nat.le_add_right _ _)) h2
  exact ⟨h1, h3, h4⟩

/-- **The counter bounds every file number**: the tracked files, the current file, and the files of
    the directory. -/
theorem bound {g : Geom} {cap P n N : Nat} {l : Log} {img : Image} {b : BufSt}
    (h : ReachXN g cap P n N l img b) : C10.Bnd N l ∧ KeysLe N img := by
  induction h with
  | init policy order lp e0 io r hpre hrec =>
    obtain ⟨h1, h2, _⟩ := after_open g cap (KeysLe.nil 0) hpre hrec
    rw [Nat.zero_add] at h1 h2
    exact ⟨h1, h2⟩
  | @step n0 N0 l0 img0 b0 c tick order _ _ _ _ ih =>
    obtain ⟨h1, h2, _⟩ := after_call g cap b0 ih.1 ih.2 c tick order
    exact ⟨h1, h2⟩
  | @reopen n0 N0 l0 img0 b0 policy order lp e0 io r _ hpre hrec ih =>
    obtain ⟨h1, h2, _⟩ := after_open g cap (flushDisk_keys b0 ih.2) hpre hrec
    exact ⟨h1, h2⟩
  | @crash n0 N0 l0 img0 b0 c tick order k cut X policy' order' lp e0 io r _ _ _ _ _ _ hX hpre hrec ih =>
    obtain ⟨_, _, h3⟩ := after_call g cap b0 ih.1 ih.2 c tick order
    have hk := h3 k cut
    rw [← hX] at hk
    obtain ⟨h1, h2, _⟩ := after_open g cap hk hpre hrec
    exact ⟨h1, h2⟩
  | @crash2 n0 N0 l0 img0 b0 policy order lp0 e00 io0 r0 k cut X policy' order' lp e0 io r _ hpre0 hrec0 _ hX hpre
      hrec ih =>
    obtain ⟨_, _, h3⟩ := after_open g cap (flushDisk_keys b0 ih.2) hpre0 hrec0
    have hk := h3 k cut
    rw [← hX] at hk
    obtain ⟨h1, h2, _⟩ := after_open g cap hk hpre hrec
    exact ⟨h1, h2⟩

/-- the counter starts at `0`: the first `open` (empty directory, one file) has no GC pass -/
theorem init_counter {g : Geom} {policy : Policy} {order : List Bytes} {lp : Log} {e0 : List Effect} {io : Nat}
    (hpre : recoverPre g [] policy none = .ok (lp, e0, io)) : gcBufCount g lp order = 0 := by
  obtain ⟨hf, _⟩ := Rec.recoverPre_files hpre
  rw [Rec.prepareImage_files] at hf
  simp only [if_true] at hf
  unfold gcBufCount gcNamesOf
  rw [hf]
  rfl

/-- the three hypotheses `hfiles`, `hn`, `hcount` of `C10R.open_agrees`, from a bound on the keys -/
theorem room {g : Geom} {X : Image} {policy : Policy} {order : List Bytes} {lp : Log} {e0 : List Effect}
    {io : Nat} {M : Nat} (hk : KeysLe M X) (hpre : recoverPre g X policy none = .ok (lp, e0, io))
    (hM : M + gcBufCount g lp order ≤ U64MAX) :
    (∀ f ∈ X.map (·.1), f + gcBufCount g lp order ≤ U64MAX) ∧ gcBufCount g lp order ≤ U64MAX ∧
    (∀ lp' e0' io', recoverPre g X policy none = .ok (lp', e0', io') →
      gcBufCount g lp' order ≤ gcBufCount g lp order) := by
  refine ⟨fun f hf => Nat.le_trans (Nat.add_le_add_right (hk f hf) _) hM,
    Nat.le_trans (Nat.le_add_left _ _) hM, ?_⟩
  · intro lp' e0' io' hpre'
    rw [hpre] at hpre'
    cases hpre'
    exact Nat.le_refl _

/-- what "nothing panics from this state on, as long as the counter fits" means: the accessors of the
    state, every fitting call, every restart, every crash of a call or of `open` followed by `open`;
    `C` is the bound on the counter AFTER the event -/
structure NoPanicFrom (g : Geom) (cap P C : Nat) (n N : Nat) (l : Log) (img : Image) (b : BufSt) : Prop where
  accessors : accessorsPanic l.queues = false
  call : ∀ (c : Call) (tick : Bool) (order : List Bytes), CallFits c → C05B.CallBelow P c →
    P + n + C05B.callRecs c < U64MAX → N + crs (l.step g c tick order).2.2 ≤ C →
    l.stepP g c tick order = .ok (l.step g c tick order)
  reopen : ∀ (policy : Policy) (order : List Bytes) (lp : Log) (e0 : List Effect) (io : Nat),
    recoverPre g (C02U.flushDisk img b) policy none = .ok (lp, e0, io) →
    N + gcBufCount g lp order ≤ C →
    clipImage g (C02U.flushDisk img b) = C02U.flushDisk img b ∧
    recoverP g (clipImage g (C02U.flushDisk img b)) policy order none =
      .ok (recover g (C02U.flushDisk img b) policy order none) ∧
    ∀ r, recover g (C02U.flushDisk img b) policy order none = .ok r → accessorsPanic r.log.queues = false
  crash : b.pend = [] → ∀ (c : Call) (tick : Bool) (order : List Bytes), CallFits c → C05B.CallBelow P c →
    P + n + C05B.callRecs c < U64MAX → C02A.TornStep g l c tick order →
    ∀ (k cut : Nat) (policy' : Policy) (order' : List Bytes) (lp : Log) (e0 : List Effect) (io : Nat),
    recoverPre g (crashImage img (toOsOps cap b (l.step g c tick order).2.2).2 k cut) policy' none =
      .ok (lp, e0, io) →
    N + crs (l.step g c tick order).2.2 + gcBufCount g lp order' ≤ C →
    clipImage g (crashImage img (toOsOps cap b (l.step g c tick order).2.2).2 k cut) =
      crashImage img (toOsOps cap b (l.step g c tick order).2.2).2 k cut ∧
    recoverP g (clipImage g (crashImage img (toOsOps cap b (l.step g c tick order).2.2).2 k cut)) policy' order'
        none =
      .ok (recover g (crashImage img (toOsOps cap b (l.step g c tick order).2.2).2 k cut) policy' order' none) ∧
    ∀ r, recover g (crashImage img (toOsOps cap b (l.step g c tick order).2.2).2 k cut) policy' order' none = .ok r →
      accessorsPanic r.log.queues = false
  crash2 : ∀ (policy : Policy) (order : List Bytes) (lp0 : Log) (e00 : List Effect) (io0 : Nat) (r0 : Recovered),
    recoverPre g (C02U.flushDisk img b) policy none = .ok (lp0, e00, io0) →
    recover g (C02U.flushDisk img b) policy order none = .ok r0 → H.TornEffs r0.effects →
    ∀ (k cut : Nat) (policy' : Policy) (order' : List Bytes) (lp : Log) (e0 : List Effect) (io : Nat),
    recoverPre g (crashImage (C02U.flushDisk img b) (toOsOps cap {} r0.effects).2 k cut) policy' none =
      .ok (lp, e0, io) →
    N + gcBufCount g lp0 order + gcBufCount g lp order' ≤ C →
    clipImage g (crashImage (C02U.flushDisk img b) (toOsOps cap {} r0.effects).2 k cut) =
      crashImage (C02U.flushDisk img b) (toOsOps cap {} r0.effects).2 k cut ∧
    recoverP g (clipImage g (crashImage (C02U.flushDisk img b) (toOsOps cap {} r0.effects).2 k cut)) policy' order'
        none =
      .ok (recover g (crashImage (C02U.flushDisk img b) (toOsOps cap {} r0.effects).2 k cut) policy' order' none) ∧
    ∀ r, recover g (crashImage (C02U.flushDisk img b) (toOsOps cap {} r0.effects).2 k cut) policy' order' none =
        .ok r → accessorsPanic r.log.queues = false

theorem NoPanicFrom.mono {g : Geom} {cap P C C' n N : Nat} {l : Log} {img : Image} {b : BufSt}
    (h : NoPanicFrom g cap P C n N l img b) (hc : C' ≤ C) : NoPanicFrom g cap P C' n N l img b :=
  ⟨h.accessors,
   fun c tick order a1 a2 a3 a4 => h.call c tick order a1 a2 a3 (Nat.le_trans a4 hc),
   fun policy order lp e0 io a1 a2 => h.reopen policy order lp e0 io a1 (Nat.le_trans a2 hc),
   fun hb c tick order a1 a2 a3 a4 k cut policy' order' lp e0 io a5 a6 =>
     h.crash hb c tick order a1 a2 a3 a4 k cut policy' order' lp e0 io a5 (Nat.le_trans a6 hc),
   fun policy order lp0 e00 io0 r0 a1 a2 a3 k cut policy' order' lp e0 io a4 a5 =>
     h.crash2 policy order lp0 e00 io0 r0 a1 a2 a3 k cut policy' order' lp e0 io a4 (Nat.le_trans a5 hc)⟩

/-- **C10 along crash-reachable histories, without a hypothesis on file numbers.** From every state
    of a history of fitting calls, restarts and crashes, with roll-over counter `N`: no call and no
    `open` whose counter afterwards is at most `u64::MAX` panics. The counter bounds the file
    numbers of the log and the keys of the image (`bound`), of what a call or an `open` leaves and
    of every crash image on the way (`after_call`, `after_open`); that is the room `C10R` asks for. -/
theorem no_panic_reach (g : Geom) (hB : g.B ≤ 65542) (cap P : Nat) (hP : P < U64MAX) {n N : Nat} {l : Log}
    {img : Image} {b : BufSt} (h : ReachXN g cap P n N l img b) :
    NoPanicFrom g cap P U64MAX n N l img b :=
  { accessors := by
      obtain ⟨_, hfit, hlt⟩ := reachXF_inv g hB cap P hP (toXF h)
      unfold accessorsPanic
      rw [List.any_eq_false]
      intro kv hkv
      rw [C05B.not_poisoned_of_next (Nat.lt_of_le_of_lt (hfit.pos kv hkv) hlt)]
      simp
    call := fun c tick order _ hcb hK hN =>
      C10R.call_no_panic g hB cap P hP (toXF h) c tick order hcb hK
        (Nat.le_trans (step_grow g l c tick order N (bound h).1).1.1.1 hN)
    reopen := fun policy order lp e0 io hpre hN => by
      obtain ⟨r1, r2, r3⟩ := room (flushDisk_keys b (bound h).2) hpre hN
      exact (C10R.reopen_no_panic g hB cap P hP (toXF h) policy order _ r1 r2 r3).2
    crash := fun hb c tick order hcf hcb hK htorn k cut policy' order' lp e0 io hpre hN => by
      obtain ⟨r1, r2, r3⟩ := room ((after_call g cap b (bound h).1 (bound h).2 c tick order).2.2 k cut) hpre hN
      exact (C10R.crash_open_no_panic g hB cap P hP (toXF h) hb c tick order hcf hcb hK htorn k cut
        policy' order' _ r1 r2 r3).2
    crash2 := fun policy order lp0 e00 io0 r0 hpre0 hrec0 htorn k cut policy' order' lp e0 io hpre hN => by
      obtain ⟨r1, r2, r3⟩ :=
        room ((after_open g cap (flushDisk_keys b (bound h).2) hpre0 hrec0).2.2 k cut) hpre hN
      exact (C10R.crash2_open_no_panic g hB cap P hP (toXF h) policy order lp0 e00 io0 r0 hpre0 hrec0
        htorn k cut policy' order' _ r1 r2 r3).2 }

/-- the same with "fewer than 2^62 roll-overs" -/
theorem no_panic_reach_2_62 (g : Geom) (hB : g.B ≤ 65542) (cap P : Nat) (hP : P < U64MAX) {n N : Nat} {l : Log}
    {img : Image} {b : BufSt} (h : ReachXN g cap P n N l img b) :
    NoPanicFrom g cap P (2 ^ 62) n N l img b :=
  (no_panic_reach g hB cap P hP h).mono (by decide)

/-- the same for a `ReachXF` state: it has a counter, and nothing panics while the counter fits -/
theorem no_panic_reachXF (g : Geom) (hB : g.B ≤ 65542) (cap P : Nat) (hP : P < U64MAX) {n : Nat} {l : Log}
    {img : Image} {b : BufSt} (h : ReachXF g cap P n l img b) :
    ∃ N, ReachXN g cap P n N l img b ∧ C10.Bnd N l ∧ KeysLe N img ∧ NoPanicFrom g cap P U64MAX n N l img b := by
  obtain ⟨N, hN⟩ := exists_counter h
  exact ⟨N, hN, (bound hN).1, (bound hN).2, no_panic_reach g hB cap P hP hN⟩

end MRL.C10FN
