/-
C04 and C18, crash legs over `C02U.ReachX`: the state before the crash may itself have been reached
through any number of earlier crashes (at any point of a call or of `open`), restarts and calls.
`C04C` / `C18C` state the same for `C01R.ReachD` (no earlier crash). Everything is read off
`Crash.stop_views` (`Proofs/LegCrash`), the per-queue form of `C02_usable_crash_atomic`,
`C02_usable_second_crash`, `C02_usable_restart` (`C02U.usable_stop`).
-/
import MRL.Props.C04Crash
import MRL.Props.C18Crash

namespace MRL.CX
open Log C01J C02A Crash

/-- **C04 across a crash, from any crash-reachable state.** -/
theorem C04X_crash_next_mono (g : Geom) (hB : g.B ≤ 65542) (cap : Nat) (l : Log) (img : Image) (b : BufSt)
    (h : C02U.ReachX g cap l img b) (hb : b.pend = []) (c : Call) (tick : Bool) (order : List Bytes)
    (hfits : ∀ j ∈ l.stepJ g c order, C07.WF j.e) (htorn : TornStep g l c tick order) (k cut : Nat)
    (policy' : Policy) (order' : List Bytes) (q : Bytes) (n : Nat) (hc : c ≠ .delete q)
    (hn : C04.nextOf l q = some n) :
    ∃ rec, recover g (crashDisk g cap l img b c tick order k cut) policy' order' none = .ok rec ∧
      C05.Inv rec.log ∧ ∃ n', C04.nextOf rec.log q = some n' ∧ n ≤ n' := by
  obtain ⟨rec, hrec, hIr, hI, hv⟩ := stop_views g hB cap h (.call c tick order k cut hb hfits htorn) policy' order'
  exact ⟨rec, hrec, hIr, C04C.next_mono_of_views hI hv q n hc hn⟩

/-- a crash during `open` itself keeps every next position -/
theorem C04X_crash2_next (g : Geom) (hB : g.B ≤ 65542) (cap : Nat) (l : Log) (img : Image) (b : BufSt)
    (h : C02U.ReachX g cap l img b) (policy : Policy) (order : List Bytes) (lp0 : Log)
    (e00 : List Effect) (io0 : Nat) (r0 : Recovered)
    (hpre0 : recoverPre g (C02U.flushDisk img b) policy none = .ok (lp0, e00, io0))
    (hrec0 : recover g (C02U.flushDisk img b) policy order none = .ok r0)
    (hgw0 : ∀ j ∈ lp0.gcJ g order, C07.WF j.e) (htorn : H.TornEffs r0.effects)
    (k cut : Nat) (policy' : Policy) (order' : List Bytes) :
    ∃ rec', recover g (crashImage (C02U.flushDisk img b) (toOsOps cap {} r0.effects).2 k cut)
        policy' order' none = .ok rec' ∧ C05.Inv rec'.log ∧ ∀ q, C04.nextOf rec'.log q = C04.nextOf l q := by
  obtain ⟨rec', hrec', hI, _, hv⟩ := stop_views g hB cap h
    (.opened policy order lp0 e00 io0 r0 k cut hpre0 hrec0 hgw0 htorn) policy' order'
  exact ⟨rec', hrec', hI, fun q => by rw [nextOf_view, hv.elim id id q, ← nextOf_view]⟩

/-- a clean restart of a crash-reachable state keeps every next position -/
theorem C04X_restart_next (g : Geom) (hB : g.B ≤ 65542) (cap : Nat) (l : Log) (img : Image) (b : BufSt)
    (h : C02U.ReachX g cap l img b) (policy : Policy) (order : List Bytes) :
    ∃ r, recover g (C02U.flushDisk img b) policy order none = .ok r ∧ C05.Inv r.log ∧
      ∀ q, C04.nextOf r.log q = C04.nextOf l q := by
  obtain ⟨r, hr, hI, _, hv⟩ := stop_views g hB cap h .clean policy order
  exact ⟨r, hr, hI, fun q => by rw [nextOf_view, hv.elim id id q, ← nextOf_view]⟩

/-- **…and the first append after the crash is fresh** -/
theorem C04X_crash_then_append_fresh (g : Geom) (hB : g.B ≤ 65542) (cap : Nat) (l : Log) (img : Image)
    (b : BufSt) (h : C02U.ReachX g cap l img b) (hb : b.pend = []) (c : Call) (tick : Bool)
    (order : List Bytes) (hfits : ∀ j ∈ l.stepJ g c order, C07.WF j.e) (htorn : TornStep g l c tick order)
    (k cut : Nat) (policy' : Policy) (order' : List Bytes) (q : Bytes) (n : Nat) (hc : c ≠ .delete q)
    (hn : C04.nextOf l q = some n) (rec : Recovered)
    (hrec : recover g (crashDisk g cap l img b c tick order k cut) policy' order' none = .ok rec)
    (tick₂ : Bool) (order₂ : List Bytes) (pos : Option Nat) (pls : List Bytes) (last w : Nat)
    (hout : (Log.step g rec.log (.append q pos pls) tick₂ order₂).2.1 = .appended (some last) w) :
    ∃ mq mq' p, rec.log.queues.get? q = some mq ∧
      (Log.step g rec.log (.append q pos pls) tick₂ order₂).1.queues.get? q = some mq' ∧
      n ≤ p ∧ mq'.abs.recs = mq.abs.recs ++ numberFrom p pls ∧
      (numberFrom p pls).map (·.1) = List.range' p pls.length ∧ last + 1 = mq'.nextPosition := by
  obtain ⟨rec', hrec', hIr, n', hn', hle⟩ :=
    C04X_crash_next_mono g hB cap l img b h hb c tick order hfits htorn k cut policy' order' q n hc hn
  rw [hrec] at hrec'
  cases hrec'
  exact C04C.append_fresh_from g rec.log hIr q n n' hn' hle tick₂ order₂ pos pls last w hout

/-- the same after a crash of `open` itself -/
theorem C04X_crash2_then_append_fresh (g : Geom) (hB : g.B ≤ 65542) (cap : Nat) (l : Log) (img : Image)
    (b : BufSt) (h : C02U.ReachX g cap l img b) (policy : Policy) (order : List Bytes) (lp0 : Log)
    (e00 : List Effect) (io0 : Nat) (r0 : Recovered)
    (hpre0 : recoverPre g (C02U.flushDisk img b) policy none = .ok (lp0, e00, io0))
    (hrec0 : recover g (C02U.flushDisk img b) policy order none = .ok r0)
    (hgw0 : ∀ j ∈ lp0.gcJ g order, C07.WF j.e) (htorn : H.TornEffs r0.effects)
    (k cut : Nat) (policy' : Policy) (order' : List Bytes) (q : Bytes) (n : Nat)
    (hn : C04.nextOf l q = some n) (rec' : Recovered)
    (hrec' : recover g (crashImage (C02U.flushDisk img b) (toOsOps cap {} r0.effects).2 k cut)
      policy' order' none = .ok rec')
    (tick₂ : Bool) (order₂ : List Bytes) (pos : Option Nat) (pls : List Bytes) (last w : Nat)
    (hout : (Log.step g rec'.log (.append q pos pls) tick₂ order₂).2.1 = .appended (some last) w) :
    ∃ mq mq' p, rec'.log.queues.get? q = some mq ∧
      (Log.step g rec'.log (.append q pos pls) tick₂ order₂).1.queues.get? q = some mq' ∧
      n ≤ p ∧ mq'.abs.recs = mq.abs.recs ++ numberFrom p pls ∧
      (numberFrom p pls).map (·.1) = List.range' p pls.length ∧ last + 1 = mq'.nextPosition := by
  obtain ⟨r2, hr2, hI, hnx⟩ := C04X_crash2_next g hB cap l img b h policy order lp0 e00 io0 r0 hpre0 hrec0
    hgw0 htorn k cut policy' order'
  rw [hrec'] at hr2
  cases hr2
  exact C04C.append_fresh_from g rec'.log hI q n n (by rw [hnx q]; exact hn) (Nat.le_refl _) tick₂ order₂ pos pls
    last w hout

/-- **C18 across a crash, from any crash-reachable state.** -/
theorem C18X_crash_other_untouched (g : Geom) (hB : g.B ≤ 65542) (cap : Nat) (l : Log) (img : Image)
    (b : BufSt) (h : C02U.ReachX g cap l img b) (hb : b.pend = []) (c : Call) (tick : Bool)
    (order : List Bytes) (hfits : ∀ j ∈ l.stepJ g c order, C07.WF j.e) (htorn : TornStep g l c tick order)
    (k cut : Nat) (policy' : Policy) (order' : List Bytes) :
    ∃ rec, recover g (crashDisk g cap l img b c tick order k cut) policy' order' none = .ok rec ∧
      C05.Inv rec.log ∧ ∀ q, C18.addressed q c = false → C18.view rec.log q = C18.view l q := by
  obtain ⟨rec, hrec, hIr, hI, hv⟩ := stop_views g hB cap h (.call c tick order k cut hb hfits htorn) policy' order'
  exact ⟨rec, hrec, hIr, C18C.other_view_of_views hI hv⟩

/-- a `persist` in flight changes no queue at all -/
theorem C18X_crash_persist (g : Geom) (hB : g.B ≤ 65542) (cap : Nat) (l : Log) (img : Image)
    (b : BufSt) (h : C02U.ReachX g cap l img b) (hb : b.pend = []) (a : PersistAction) (tick : Bool)
    (order : List Bytes) (hfits : ∀ j ∈ l.stepJ g (.persist a) order, C07.WF j.e)
    (htorn : TornStep g l (.persist a) tick order) (k cut : Nat) (policy' : Policy) (order' : List Bytes) :
    ∃ rec, recover g (crashDisk g cap l img b (.persist a) tick order k cut) policy' order' none = .ok rec ∧
      ∀ q, C18.view rec.log q = C18.view l q := by
  obtain ⟨rec, hrec, _, hq⟩ :=
    C18X_crash_other_untouched g hB cap l img b h hb (.persist a) tick order hfits htorn k cut policy' order'
  exact ⟨rec, hrec, fun q => hq q rfl⟩

/-- a crash of `open` itself changes no queue -/
theorem C18X_crash2_untouched (g : Geom) (hB : g.B ≤ 65542) (cap : Nat) (l : Log) (img : Image) (b : BufSt)
    (h : C02U.ReachX g cap l img b) (policy : Policy) (order : List Bytes) (lp0 : Log)
    (e00 : List Effect) (io0 : Nat) (r0 : Recovered)
    (hpre0 : recoverPre g (C02U.flushDisk img b) policy none = .ok (lp0, e00, io0))
    (hrec0 : recover g (C02U.flushDisk img b) policy order none = .ok r0)
    (hgw0 : ∀ j ∈ lp0.gcJ g order, C07.WF j.e) (htorn : H.TornEffs r0.effects)
    (k cut : Nat) (policy' : Policy) (order' : List Bytes) :
    ∃ rec', recover g (crashImage (C02U.flushDisk img b) (toOsOps cap {} r0.effects).2 k cut)
        policy' order' none = .ok rec' ∧ ∀ q, C18.view rec'.log q = C18.view l q := by
  obtain ⟨rec', hrec', _, _, hv⟩ := stop_views g hB cap h
    (.opened policy order lp0 e00 io0 r0 k cut hpre0 hrec0 hgw0 htorn) policy' order'
  exact ⟨rec', hrec', hv.elim id id⟩

/-- **C18, projection after a crash.** A call not addressed to `q` is cut by a crash at any point,
    from any crash-reachable state; the recovered log then runs any history `cs₁`. Another log `l₂`
    (any geometry, clock bits, hash orders) that agreed with the pre-crash log on `q` runs the calls
    of `cs₁` addressed to `q`: same content of `q` at the end, same logical outcomes for those calls —
    neither the interrupted call, nor the crash, nor the other queues' calls show through. -/
theorem C18X_crash_projection (g g₂ : Geom) (hB : g.B ≤ 65542) (cap : Nat) (l : Log) (img : Image)
    (b : BufSt) (h : C02U.ReachX g cap l img b) (hb : b.pend = []) (c : Call) (tick : Bool)
    (order : List Bytes) (hfits : ∀ j ∈ l.stepJ g c order, C07.WF j.e) (htorn : TornStep g l c tick order)
    (k cut : Nat) (policy' : Policy) (order' : List Bytes) (q : Bytes) (hq : C18.addressed q c = false)
    (l₂ : Log) (h₂ : C05.Inv l₂) (hv : C18.view l q = C18.view l₂ q)
    (cs₁ cs₂ : List (Call × Bool × List Bytes))
    (hcs : cs₂.map (·.1) = (cs₁.map (·.1)).filter (C18.addressed q)) :
    ∃ rec, recover g (crashDisk g cap l img b c tick order k cut) policy' order' none = .ok rec ∧
      C18.view (C05.run g rec.log cs₁) q = C18.view (C05.run g₂ l₂ cs₂) q ∧
      (C18.qOutcomes q (cs₁.map (·.1)) (C05.outcomes g rec.log cs₁)).map Outcome.logical =
        (C05.outcomes g₂ l₂ cs₂).map Outcome.logical := by
  obtain ⟨rec, hrec, hIr, hun⟩ :=
    C18X_crash_other_untouched g hB cap l img b h hb c tick order hfits htorn k cut policy' order'
  exact ⟨rec, hrec, C18.C18_model_projection g g₂ rec.log l₂ hIr h₂ q cs₁ cs₂ hcs (by rw [hun q hq]; exact hv)⟩

end MRL.CX
