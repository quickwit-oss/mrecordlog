/-
C07 — entries of any size round-trip at any block or file alignment.

Writer: `writeEntry` (recordlog/writer.rs + frame/writer.rs) cuts an entry into frames that never
cross a block end, zero-pads a block tail shorter than a header and writes an empty frame when
exactly a header fits. Reader: `scanBlocks` (frame/reader.rs over the rolling block reader) and
`assemble` (recordlog/reader.rs). For every geometry whose frame lengths fit the 2-byte length
field, every start cursor, every list of entries (any sizes, empty entries included), the reader
started at the writer's start cursor returns exactly the entries, in order, with no corruption
event, and stops exactly where the writer would write next.

`crc32` is opaque in all proofs (only `frameCrc t p < 2^32` is used).
Proof machinery: MRL/Proofs/Codec*.lean (writer, one frame, reassembly); the reader over a tape of
items, MRL/Proofs/TornScan.lean, LItems.lean, LScanJ.lean, of which TornRead.lean is the one-file case.
-/
import MRL.Proofs.TornRead
import MRL.Proofs.CodecEntry
import MRL.Proofs.EvalTwin

namespace MRL.C07
open Consts Codec

/-- The buffers of one entry (or of the tail of one entry when
    `isFirst = false`) are the layout `layoutBufs g c fs` — each frame `encodeFrame t p`, preceded
    by `zeros (g.B - cursor)` exactly when fewer than 7 bytes remain in the block — of a frame list
    `fs` such that: the types follow `FrameType.ofFlags isFirst isLast` (`EntryFrames`: a single
    Full, or First, Middle*, Last), the payloads concatenate to the entry, and every payload fits
    `maxFrameLen` at its cursor. The non-padding buffers are exactly the encoded frames. -/
theorem writeEntryBufs_frames (g : Geom) (c : Nat) (isFirst : Bool) (payload : Bytes) (hc : c < g.B) :
    ∃ fs : List Frm,
      writeEntryBufs g c isFirst payload hc = layoutBufs g c fs ∧
      EntryFrames isFirst fs ∧ payloadOf fs = payload ∧ Fits g c fs ∧
      (writeEntryBufs g c isFirst payload hc).filter (fun b => !isAllZero b)
        = fs.map (fun fr => encodeFrame fr.1 fr.2) := by
  obtain ⟨fs, h1, h2, h3, h4⟩ := writeEntryBufs_layout g c isFirst payload hc
  exact ⟨fs, h1, h2, h3, h4, by rw [h1]; exact layoutBufs_filter g c fs⟩

/-- the shape of `EntryFrames true`: `[Full]`, or `First :: … :: [Last]` with `Middle` between -/
theorem entryFrames_shape (fs : List Frm) (h : EntryFrames true fs) :
    (∃ p, fs = [(FrameType.full, p)]) ∨
    (∃ (p : Bytes) (mid : List Bytes) (q : Bytes), fs = (FrameType.first, p) :: (mid.map (fun m => (FrameType.middle, m)) ++ [(FrameType.last, q)])) := by
  have tail : ∀ fs : List Frm, EntryFrames false fs →
      ∃ (mid : List Bytes) (q : Bytes), fs = mid.map (fun m => (FrameType.middle, m)) ++ [(FrameType.last, q)] := by
    intro fs
    induction fs with
    | nil => intro h; exact h.elim
    | cons fr fs ih =>
      intro h
      obtain ⟨t, p⟩ := fr
      cases fs with
      | nil =>
        have := (EntryFrames_single false (t, p)).1 h
        simp only [FrameType.ofFlags] at this
        exact ⟨[], p, by simp [this]⟩
      | cons f2 fs =>
        obtain ⟨h1, h2⟩ := (EntryFrames_cons2 false (t, p) f2 fs).1 h
        obtain ⟨mid, q, hq⟩ := ih h2
        simp only [FrameType.ofFlags] at h1
        exact ⟨p :: mid, q, by simp [h1, hq]⟩
  cases fs with
  | nil => exact h.elim
  | cons fr fs =>
    obtain ⟨t, p⟩ := fr
    cases fs with
    | nil =>
      have := (EntryFrames_single true (t, p)).1 h
      simp only [FrameType.ofFlags] at this
      exact Or.inl ⟨p, by simp [this]⟩
    | cons f2 fs =>
      obtain ⟨h1, h2⟩ := (EntryFrames_cons2 true (t, p) f2 fs).1 h
      obtain ⟨mid, q, hq⟩ := tail _ h2
      simp only [FrameType.ofFlags] at h1
      exact Or.inr ⟨p, mid, q, by simp [h1, hq]⟩

/-- One entry: the bytes written are the payload, 7 header bytes per
    frame and the padding; every buffer is non-empty and none crosses a block end when the buffers
    are written one after the other from cursor `c` (`NoCross`, stated with the running cursor
    `adv`). -/
theorem writeEntry_bytes_count (g : Geom) (c : Nat) (e : Bytes) (hc : c < g.B) :
    ∃ fs : List Frm,
      writeEntry g c e hc = layoutBufs g c fs ∧ EntryFrames true fs ∧ payloadOf fs = e ∧
      totalLen (writeEntry g c e hc) = e.length + HEADER_LEN * fs.length + padTotal g c fs ∧
      NoCross g c (writeEntry g c e hc) := by
  obtain ⟨fs, h1, h2, h3, h4⟩ := writeEntryBufs_layout g c true e hc
  refine ⟨fs, h1, h2, h3, ?_, ?_⟩
  · unfold writeEntry; rw [h1, totalLen_layoutBufs, h3]
  · unfold writeEntry; rw [h1]; exact noCross_layoutBufs g c fs hc h4

/-- Entries of any size round-trip at any block alignment. `7 ≤ z`: the stream ends with a zero
    header, which is where the reader stops. A tape that ends with fewer than 7 bytes, or none, after the
    last frame (the writer stopped at a block or file end) is therefore not an instance: there the reader
    stops for want of a next block, and the statement that covers it is `C07V.C07_recover_roundtrip`
    (`ResumeOK`: the end of the tape, or the next block start). -/
theorem C07_roundtrip (g : Geom) (hB : g.B ≤ 65542) (c : Nat) (hc : c < g.B) (es : List Bytes)
    (file z : Nat) (hz : 7 ≤ z) :
    let bufs := writeEntriesBufs g c hc es
    let stream := zeros c ++ bufs.flatten ++ zeros z
    stream.length % g.B = 0 →
    ∃ b0 rest evs e io,
      fileBlocks g file stream 1 0 (stream.length / g.B) = b0 :: rest ∧
      scanBlocks g none 1 0 b0 c rest = some (evs, e, io) ∧
      assemble { within := false, buf := [], attr := file } evs = es.map (RecEv.entry file) ∧
      e.file = file ∧
      e.idx * g.B + e.cursor =
        (let w := c + totalLen bufs; if g.B - w % g.B < 7 then w + (g.B - w % g.B) else w) := by
  intro bufs stream hmod
  obtain ⟨h1, h2, h3⟩ := Torn.framesOf_spec g es c hc
  generalize Torn.framesOf g c hc es = fs at h1 h2 h3
  obtain ⟨n, hlen⟩ := Torn.whole_blocks g stream hmod (Torn.pos_of_zeros _ (Nat.lt_of_lt_of_le (by decide) hz))
  have hdrop : stream.drop c = (layoutBufs g c fs).flatten ++ zeros z := by
    show (zeros c ++ bufs.flatten ++ zeros z).drop c = _
    rw [List.append_assoc, List.drop_left' (length_zeros c)]
    show (writeEntriesBufs g c hc es).flatten ++ zeros z = _
    rw [h1]
  obtain ⟨e, r1, r2, r3⟩ := readFrom_layout g hB file z hz fs stream n c hc h3 hlen hdrop
  obtain ⟨b0, rest, io, hfb, hsb⟩ := Torn.pipeline g file stream c n hlen
  rw [r1] at hsb
  refine ⟨b0, rest, _, e, io, hfb, hsb, ?_, r2, ?_⟩
  · exact assemble_entriesFrames file es fs h2 []
  · rw [r3]
    show _ = finalPos g (c + totalLen (writeEntriesBufs g c hc es))
    rw [h1]

/-- The hypotheses of `C07_roundtrip` are satisfiable for every geometry, cursor and entry list:
    some `z ≥ 7` completes the stream to a whole number of blocks. -/
theorem C07_nonvacuous (g : Geom) (c : Nat) (hc : c < g.B) (es : List Bytes) :
    ∃ z, 7 ≤ z ∧ (zeros c ++ (writeEntriesBufs g c hc es).flatten ++ zeros z).length % g.B = 0 :=
  Torn.pad_blocks g _ _

/-- what `serialize` can represent: a UTF-8 queue name shorter than 2^16 bytes, 64-bit positions,
    payloads shorter than 2^32 bytes -/
def WF : Entry → Prop
  | .append q pos recs =>
    utf8Valid q = true ∧ q.length < 65536 ∧ pos < 2 ^ 64 ∧ ∀ r ∈ recs, r.1 < 2 ^ 64 ∧ r.2.length < 2 ^ 32
  | .truncate q pos | .touch q pos | .delete q pos =>
    utf8Valid q = true ∧ q.length < 65536 ∧ pos < 2 ^ 64

instance : DecidablePred WF := fun e => by
  cases e <;> unfold WF <;> infer_instance

theorem decode_encode (e : Entry) (h : WF e) : Entry.decode e.encode = some e := by
  cases e with
  | append q pos recs =>
    obtain ⟨h1, h2, h3, h4⟩ := h
    unfold Entry.encode
    rw [decode_encodeRaw _ _ _ _ (by decide) h3 h2 h1, decodeRecs_encodeRecs recs h4]
    rfl
  | truncate q pos =>
    obtain ⟨h1, h2, h3⟩ := h
    unfold Entry.encode
    rw [decode_encodeRaw _ _ _ _ (by decide) h3 h2 h1]
    rfl
  | touch q pos =>
    obtain ⟨h1, h2, h3⟩ := h
    unfold Entry.encode
    rw [decode_encodeRaw _ _ _ _ (by decide) h3 h2 h1]
    rfl
  | delete q pos =>
    obtain ⟨h1, h2, h3⟩ := h
    unfold Entry.encode
    rw [decode_encodeRaw _ _ _ _ (by decide) h3 h2 h1]
    rfl

/-! ### non-vacuity on a small geometry

`B = 16`, start cursor 2, five entries chosen so that: one entry leaves fewer than 7 bytes in its
block (zero padding), one leaves exactly 7 (the next entry starts with an EMPTY `First` frame),
one entry is empty, one spans three blocks and a frame ends exactly at a block end. Evaluating
the executable model on it (`scanBlocks`/`assemble` over `fileBlocks` of the stream) gives
```
some ([entry 5 [1], entry 5 [3, 4], entry 5 [5, 6, 7], entry 5 [],
       entry 5 [10, 11, 12, 13, 14, 15, 16, 17, 18, 19, 20, 21]], { file := 5, idx := 5, cursor := 8 }, 5)
```
and the `example` below obtains the same from `C07_roundtrip`, all hypotheses discharged. -/

/-- `writeEntriesBufs` on the fuel version of `writeEntryBufs`: the form in which a concrete instance is
    evaluated by the kernel -/
def writeEntriesT (g : Geom) : Nat → List Bytes → List Bytes
  | _, [] => []
  | c, e :: es =>
    let bufs := Twin.webF g (2 * e.length + 2) c true e
    bufs ++ writeEntriesT g (cursorAfter g c (totalLen bufs)) es

theorem writeEntries_twin (g : Geom) (es : List Bytes) : ∀ (c : Nat) (hc : c < g.B),
    writeEntriesBufs g c hc es = writeEntriesT g c es := by
  induction es with
  | nil => intro c hc; rfl
  | cons e es ih =>
    intro c hc
    have h := Twin.web_eq g (2 * e.length + 2) c true e hc (Nat.add_lt_add_left (by split <;> decide) _)
    simp only [writeEntriesBufs, writeEntriesT, writeEntry, h, ih]

def g16 : Geom := ⟨16, 2, by decide, by decide⟩

def exEntries : List Bytes :=
  [[1], [3, 4], [5, 6, 7], [], [10, 11, 12, 13, 14, 15, 16, 17, 18, 19, 20, 21]]

theorem exBufs :
    writeEntriesBufs g16 2 (by decide) exEntries =
      [ encodeFrame .full [1],                      -- block 0, cursor 2 → 10: 6 bytes left
        zeros 6,                                    -- fewer than 7 left: padding
        encodeFrame .full [3, 4],                   -- block 1, cursor 0 → 9: exactly 7 left
        encodeFrame .first [],                      -- the EMPTY frame, ends block 1
        encodeFrame .last [5, 6, 7],                -- block 2, cursor 0 → 10
        zeros 6,                                    -- padding again
        encodeFrame .full [],                       -- the empty entry: block 3, cursor 0 → 7
        encodeFrame .first [10, 11],                -- fills block 3 exactly
        encodeFrame .middle [12, 13, 14, 15, 16, 17, 18, 19, 20],   -- the whole of block 4
        encodeFrame .last [21] ] := by              -- block 5, cursor 0 → 8
  rw [writeEntries_twin]; simp only [Twin.encodeFrame_eq]; decide +kernel

example :
    ∃ b0 rest evs e io,
      fileBlocks g16 5 (zeros 2 ++ (writeEntriesBufs g16 2 (by decide) exEntries).flatten ++ zeros 8) 1 0 6
        = b0 :: rest ∧
      scanBlocks g16 none 1 0 b0 2 rest = some (evs, e, io) ∧
      assemble { within := false, buf := [], attr := 5 } evs =
        [.entry 5 [1], .entry 5 [3, 4], .entry 5 [5, 6, 7], .entry 5 [],
         .entry 5 [10, 11, 12, 13, 14, 15, 16, 17, 18, 19, 20, 21]] ∧
      e.file = 5 ∧ e.idx * 16 + e.cursor = 88 := by
  have hlen : (zeros 2 ++ (writeEntriesBufs g16 2 (by decide) exEntries).flatten ++ zeros 8).length = 96 := by
    rw [exBufs]; simp [length_encodeFrame]
  have htot : totalLen (writeEntriesBufs g16 2 (by decide) exEntries) = 86 := by
    rw [exBufs]; simp [length_encodeFrame]
  have h := C07_roundtrip g16 (by decide) 2 (by decide) exEntries 5 8 (by decide)
  simp only [hlen, htot] at h
  exact h (by decide)

/-- second instance: the writer stops with fewer than 7 bytes left in the block; the reader stops
    at the start of the next block, where the writer's next frame lands after its padding -/
example :
    ∃ b0 rest evs e io,
      fileBlocks g16 5 (zeros 2 ++ (writeEntriesBufs g16 2 (by decide) [[1]]).flatten ++ zeros 22) 1 0 2
        = b0 :: rest ∧
      scanBlocks g16 none 1 0 b0 2 rest = some (evs, e, io) ∧
      assemble { within := false, buf := [], attr := 5 } evs = [.entry 5 [1]] ∧
      e.file = 5 ∧ e.idx * 16 + e.cursor = 16 := by
  have hb : writeEntriesBufs g16 2 (by decide) [[1]] = [encodeFrame .full [1]] := by
    rw [writeEntries_twin]; simp only [Twin.encodeFrame_eq]; decide +kernel
  have hlen : (zeros 2 ++ (writeEntriesBufs g16 2 (by decide) [[1]]).flatten ++ zeros 22).length = 32 := by
    rw [hb]; simp [length_encodeFrame]
  have htot : totalLen (writeEntriesBufs g16 2 (by decide) [[1]]) = 8 := by
    rw [hb]; simp [length_encodeFrame]
  have h := C07_roundtrip g16 (by decide) 2 (by decide) [[1]] 5 22 (by decide)
  simp only [hlen, htot] at h
  exact h (by decide)

end MRL.C07
