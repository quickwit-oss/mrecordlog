/-
C14 from reachable states: from any state reachable from an empty directory — whatever is still
pending in the `BufWriter` — the same calls under two policies and two clocks, then a clean
restart, give the same disk and therefore the same recovered log up to the policy field.
(`C14R.C14_restart` is about an arbitrary disk and an empty `BufWriter`; here the buffer is the one
the history left, possibly non-empty, identical on both sides.)
-/
import MRL.Props.C14Restart
import MRL.Props.C01Restart

namespace MRL.C14S
open C01R C14 C14R

/-- the disk after running the effects `es` from `(img, b)` and dropping the `BufWriter` -/
def diskFrom (cap : Nat) (img : Image) (b : BufSt) (es : List Effect) : Image :=
  flushDisk (applyOsOps img (toOsOps cap b es).2) (toOsOps cap b es).1

theorem C14_reach_restart (g : Geom) (hB : g.B ≤ 65542) (cap : Nat) (l : Log) (J : List JE) (img : Image)
    (b : BufSt) (h : ReachD g cap l J img b) (hwf : ∀ j ∈ J, C07.WF j.e)
    (cs : List (Call × List Bytes)) (p₁ p₂ : Policy) (ticks₁ ticks₂ : List Bool) (order : List Bytes)
    (fa : Option Nat) :
    let d₁ := diskFrom cap img b (run g (withPolicy l p₁) cs ticks₁).2.2
    let d₂ := diskFrom cap img b (run g (withPolicy l p₂) cs ticks₂).2.2
    d₁ = d₂ ∧
    (∀ p, recover g d₁ p order fa = recover g d₂ p order fa) ∧
    (∀ q₁ q₂, recover g d₂ q₂ order fa =
      match recover g d₁ q₁ order fa with
      | .error e => .error e
      | .ok r => .ok (withPolicyR r q₂)) := by
  intro d₁ d₂
  obtain ⟨st, hinv, hclean⟩ := (reach_rinv g hB cap h hwf).buf
  have hd : d₁ = d₂ := by
    obtain ⟨s1, hr1, _⟩ := run_Disc g cs (withPolicy l p₁) ticks₁ st hclean
    obtain ⟨s2, hr2, _⟩ := run_Disc g cs (withPolicy l p₂) ticks₂ st hclean
    have e1 := (G.flushDisk_toOsOps cap img b _ st s1 hinv hr1).1
    have e2 := (G.flushDisk_toOsOps cap img b _ st s2 hinv hr2).1
    show G.flushDisk _ _ = G.flushDisk _ _
    rw [e1, e2, direct_eraseSync, direct_eraseSync (run g (withPolicy l p₂) cs ticks₂).2.2,
      (C14_history g cs l p₁ p₂ ticks₁ ticks₂).2.2]
  refine ⟨hd, fun p => by rw [hd], fun q₁ q₂ => ?_⟩
  rw [hd]
  exact recover_policy_irrelevant g d₂ q₁ q₂ order fa

/-- the logical side: same outcomes, same final log up to the policy (C14_history), recorded
    next to the disk statement -/
theorem C14_reach_logical (g : Geom) (l : Log) (cs : List (Call × List Bytes)) (p₁ p₂ : Policy)
    (ticks₁ ticks₂ : List Bool) :
    (run g (withPolicy l p₂) cs ticks₂).1 = withPolicy (run g (withPolicy l p₁) cs ticks₁).1 p₂ ∧
    (run g (withPolicy l p₁) cs ticks₁).2.1 = (run g (withPolicy l p₂) cs ticks₂).2.1 :=
  ⟨(C14_history g cs l p₁ p₂ ticks₁ ticks₂).1, (C14_history g cs l p₁ p₂ ticks₁ ticks₂).2.1⟩

end MRL.C14S
