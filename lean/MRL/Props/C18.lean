/-
C18 — queues are isolated from one another.
What a queue holds and what the calls addressed to it return depend only on the calls addressed
to that queue: erasing every other call from a history changes neither. Proved on the
specification and transferred to the model through C05.
-/
import MRL.Props.C05
import MRL.Proofs.QSpecStep

namespace MRL.C18
open Spec

/-- is the call addressed to queue `q`? (`persist` is addressed to no queue) -/
def addressed (q : Bytes) : Call → Bool
  | .create q' => q' == q
  | .delete q' => q' == q
  | .append q' _ _ => q' == q
  | .truncate q' _ => q' == q
  | .persist _ => false

theorem addressed_iff (q : Bytes) (c : Call) : addressed q c = true ↔ c.queue? = some q := by
  cases c <;> simp [addressed, Call.queue?]

/-- a call not addressed to `q` leaves `q` as it is -/
theorem spec_other_untouched (s : Spec) (c : Call) (q : Bytes) (h : addressed q c = false) :
    (Spec.step s c).1.get? q = s.get? q := by
  apply step_get?_other
  intro hc
  rw [← addressed_iff, h] at hc
  cases hc

/-- a call addressed to `q` sees nothing but `q`: same outcome and same resulting `q`
    from any two states that agree on `q` -/
theorem spec_outcome_local (s₁ s₂ : Spec) (c : Call) (q : Bytes)
    (hq : s₁.get? q = s₂.get? q) (h : addressed q c = true) :
    (Spec.step s₁ c).2 = (Spec.step s₂ c).2 ∧
    (Spec.step s₁ c).1.get? q = (Spec.step s₂ c).1.get? q := by
  rw [addressed_iff] at h
  cases c with
  | persist a => cases h
  | create q' =>
    cases h
    simp only [Spec.step, hq]
    cases s₂.get? q with
    | none => simp only [get?_set_same]; exact ⟨trivial, trivial⟩
    | some v => exact ⟨rfl, hq⟩
  | delete q' =>
    cases h
    simp only [Spec.step, hq]
    cases s₂.get? q with
    | none => exact ⟨rfl, hq⟩
    | some v => simp only [get?_remove_same]; exact ⟨trivial, trivial⟩
  | truncate q' p =>
    cases h
    simp only [Spec.step, hq]
    cases s₂.get? q with
    | none => exact ⟨rfl, hq⟩
    | some v => simp only [get?_set_same]; exact ⟨trivial, trivial⟩
  | append q' pos? pls =>
    cases h
    cases hv : s₂.get? q with
    | none => simp only [Spec.step, hq, hv]; exact ⟨trivial, trivial⟩
    | some sq =>
      rcases step_append_cases sq q pos? pls with ⟨o, _, hs⟩ | ⟨p, _, _, _, hs⟩
      · rw [hs s₁ (hq.trans hv), hs s₂ hv]; exact ⟨rfl, hq⟩
      · rw [hs s₁ (hq.trans hv), hs s₂ hv, get?_set_same, get?_set_same]; exact ⟨rfl, rfl⟩

/-- the outcomes of the calls addressed to `q`, out of the outcomes `os` of the history `cs` -/
def qOutcomes {α : Type} (q : Bytes) (cs : List Call) (os : List α) : List α :=
  ((cs.zip os).filter (fun x => addressed q x.1)).map (·.2)

theorem qOutcomes_cons {α : Type} (q : Bytes) (c : Call) (cs : List Call) (o : α) (os : List α) :
    qOutcomes q (c :: cs) (o :: os) =
      if addressed q c then o :: qOutcomes q cs os else qOutcomes q cs os := by
  unfold qOutcomes
  simp only [List.zip_cons_cons, List.filter_cons]
  split <;> rfl

theorem qOutcomes_map {α β : Type} (f : α → β) (q : Bytes) (cs : List Call) (os : List α) :
    qOutcomes q cs (os.map f) = (qOutcomes q cs os).map f := by
  induction cs generalizing os with
  | nil => simp [qOutcomes]
  | cons c cs ih =>
    cases os with
    | nil => simp [qOutcomes]
    | cons o os =>
      rw [List.map_cons, qOutcomes_cons, qOutcomes_cons, ih]
      split <;> simp

/-- **C18 on the specification.** Running the whole history `cs`, or only its calls
    addressed to `q`, from states that agree on `q`: `q` ends up the same, and the calls
    addressed to `q` return the same outcomes. -/
theorem C18_spec_projection (q : Bytes) (cs : List Call) : ∀ (s₁ s₂ : Spec),
    s₁.get? q = s₂.get? q →
    (Spec.run s₁ cs).get? q = (Spec.run s₂ (cs.filter (addressed q))).get? q ∧
    qOutcomes q cs (Spec.outcomes s₁ cs) = Spec.outcomes s₂ (cs.filter (addressed q)) := by
  induction cs with
  | nil => intro s₁ s₂ h; exact ⟨h, rfl⟩
  | cons c cs ih =>
    intro s₁ s₂ h
    cases ha : addressed q c with
    | true =>
      obtain ⟨ho, hs⟩ := spec_outcome_local s₁ s₂ c q h ha
      obtain ⟨i1, i2⟩ := ih _ _ hs
      simp only [List.filter_cons, ha, if_true, Spec.run, Spec.outcomes, qOutcomes_cons]
      exact ⟨i1, by rw [i2, ho]⟩
    | false =>
      have hs := spec_other_untouched s₁ c q ha
      obtain ⟨i1, i2⟩ := ih (Spec.step s₁ c).1 s₂ (hs.trans h)
      simp only [List.filter_cons, ha, Bool.false_eq_true, if_false, Spec.run, Spec.outcomes,
        qOutcomes_cons]
      exact ⟨i1, i2⟩

/-- the abstract content of queue `q` in a log -/
def view (l : Log) (q : Bytes) : Option SQueue := (l.queues.get? q).map MemQueue.abs

theorem view_abs (l : Log) (q : Bytes) : view l q = l.abs.get? q := (C05.abs_get_eq l q).symm

/-- **C18 on the model.** `l₁` runs the history `cs₁`; `l₂` (possibly another log, with
    another geometry, other clock bits and hash-map orders) runs a history `cs₂` whose calls are
    those of `cs₁` addressed to `q`. If the two logs agree on `q` at the start, they agree on `q`
    at the end, and the calls addressed to `q` return the same logical outcomes. -/
theorem C18_model_projection (g₁ g₂ : Geom) (l₁ l₂ : Log) (h₁ : C05.Inv l₁) (h₂ : C05.Inv l₂)
    (q : Bytes) (cs₁ cs₂ : List (Call × Bool × List Bytes))
    (hcs : cs₂.map (·.1) = (cs₁.map (·.1)).filter (addressed q))
    (hq : view l₁ q = view l₂ q) :
    view (C05.run g₁ l₁ cs₁) q = view (C05.run g₂ l₂ cs₂) q ∧
    (qOutcomes q (cs₁.map (·.1)) (C05.outcomes g₁ l₁ cs₁)).map Outcome.logical =
      (C05.outcomes g₂ l₂ cs₂).map Outcome.logical := by
  obtain ⟨a1, o1, _⟩ := C05.C05_history g₁ cs₁ l₁ h₁
  obtain ⟨a2, o2, _⟩ := C05.C05_history g₂ cs₂ l₂ h₂
  rw [view_abs, view_abs] at hq
  obtain ⟨p1, p2⟩ := C18_spec_projection q (cs₁.map (·.1)) l₁.abs l₂.abs hq
  rw [view_abs, view_abs, a1, a2, o2, hcs, ← qOutcomes_map, o1]
  exact ⟨p1, p2⟩

/-- the case `cs₂ = cs₁` with the calls not addressed to `q` erased -/
theorem C18_model_projection_filter (g : Geom) (l₁ l₂ : Log) (h₁ : C05.Inv l₁) (h₂ : C05.Inv l₂)
    (q : Bytes) (cs : List (Call × Bool × List Bytes)) (hq : view l₁ q = view l₂ q) :
    view (C05.run g l₁ cs) q = view (C05.run g l₂ (cs.filter (fun x => addressed q x.1))) q ∧
    (qOutcomes q (cs.map (·.1)) (C05.outcomes g l₁ cs)).map Outcome.logical =
      (C05.outcomes g l₂ (cs.filter (fun x => addressed q x.1))).map Outcome.logical := by
  apply C18_model_projection g g l₁ l₂ h₁ h₂ q cs _ _ hq
  rw [List.filter_map]
  rfl

/-- a two-queue state and a history with interleaved traffic -/
def exSpec : Spec := [([1], { next := 7, recs := [(5, [0]), (6, [1])] }), ([2], {})]
def exCalls : List Call :=
  [.append [2] none [[4]], .append [1] none [[9]], .delete [2], .truncate [1] 5, .create [3],
   .persist .flush]

/-- interleaved traffic on queue `[2]` (including its deletion) is invisible from queue `[1]` -/
example :
    exCalls.filter (addressed [1]) = [.append [1] none [[9]], .truncate [1] 5] ∧
    (Spec.run exSpec exCalls).get? [1] = some { next := 8, recs := [(6, [1]), (7, [9])] } ∧
    (Spec.run exSpec (exCalls.filter (addressed [1]))).get? [1] =
      some { next := 8, recs := [(6, [1]), (7, [9])] } ∧
    qOutcomes [1] exCalls (Spec.outcomes exSpec exCalls) = [.appended (some 7), .truncated 1] ∧
    Spec.run exSpec exCalls ≠ Spec.run exSpec (exCalls.filter (addressed [1])) :=
  ⟨rfl, by decide, by decide, by decide, by decide⟩

/-- the model theorem applies to the concrete log of C05 -/
example (g : Geom) (cs : List (Call × Bool × List Bytes)) :
    view (C05.run g C05.exLog cs) [1] =
      view (C05.run g C05.exLog (cs.filter (fun x => addressed [1] x.1))) [1] :=
  (C18_model_projection_filter g _ _ C05.exLog_Inv C05.exLog_Inv [1] cs rfl).1

end MRL.C18
