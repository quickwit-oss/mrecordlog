/-
C10, WAL files longer than the nominal size (finding F6, repaired in `/repo` by
"fix: ignore bytes beyond the nominal size of a wal file when reading").

Before the fix the reader followed a WAL file to its end; the writer then resumed beyond the nominal
size, its next write rolled over in the middle of a block and the frame after it tripped
`assert!(buf.len() <= self.num_bytes_remaining_in_block())` — inside `open`, when its GC pass
recorded the position of an empty queue with a long name (`C10A.oversize_assert_fires` is the model
of that state; `corpus/oversize__F6-…` the directory on which the unrepaired library panics).

Since the fix `open` is `recoverC = recover ∘ clipImage`: what lies beyond `fileBytes` is ignored.
The clipped view has no oversized file, and clipping is the identity on images without one — in
particular on every image the log itself produces (`C10V.reach_noOversize` in MRL/Props/C10Reach.lean),
so all theorems stated with `recover` on reachable images are theorems about `recoverC`. For EVERY
image `C10A.recover_asserts` holds without its hypothesis (`recoverC_asserts`); finding F4 stays
(`recoverC_no_panic` still needs `NoMax`).
-/
import MRL.Props.C10
import MRL.Props.C10Asserts

namespace MRL.C10V
open C10A

theorem clipImage_noOversize (g : Geom) (img : Image) : NoOversize g (clipImage g img) := by
  intro kv hkv
  simp only [clipImage, List.mem_map] at hkv
  obtain ⟨kv0, _, rfl⟩ := hkv
  simp only [List.length_take]
  exact Nat.min_le_left _ _

theorem clipImage_id (g : Geom) (img : Image) (h : NoOversize g img) : clipImage g img = img := by
  unfold clipImage
  induction img with
  | nil => rfl
  | cons kv rest ih =>
    have h1 : kv.2.length ≤ g.fileBytes := h kv (List.mem_cons_self ..)
    have h2 : NoOversize g rest := fun x hx => h x (List.mem_cons_of_mem _ hx)
    simp only [List.map_cons, List.take_of_length_le h1, ih h2]

theorem clipImage_idem (g : Geom) (img : Image) : clipImage g (clipImage g img) = clipImage g img :=
  clipImage_id g _ (clipImage_noOversize g img)

theorem clipImage_files (g : Geom) (img : Image) : (clipImage g img).map (·.1) = img.map (·.1) := by
  simp [clipImage, List.map_map, Function.comp_def]

theorem recoverC_eq_recover (g : Geom) (img : Image) (policy : Policy) (order : List Bytes)
    (failAt : Option Nat) (h : NoOversize g img) :
    recoverC g img policy order failAt = recover g img policy order failAt := by
  unfold recoverC; rw [clipImage_id g img h]

/-- **C10, assertions, every image.** Whatever the directory holds, every write-path assertion
    the GC pass of `open` reaches holds and the writer resumes within the nominal file size. -/
theorem recoverC_asserts (g : Geom) (img : Image) (policy : Policy) (order : List Bytes)
    (failAt : Option Nat) (lp : Log) (e0 : List Effect) (io : Nat)
    (hpre : recoverPre g (clipImage g img) policy failAt = .ok (lp, e0, io)) :
    gcAsserts g lp order = true ∧ lp.off ≤ g.fileBytes ∧ NamesShort lp.queues :=
  recover_asserts g (clipImage g img) policy order failAt lp e0 io (clipImage_noOversize g img) hpre

/-- **C10 (b), every image.** `C10.recover_no_panic_img` for `open` as the code does it: entries
    below `u64::MAX` and file numbers leaving room for the GC's roll-overs ⇒ no panic, and the read
    accessors of the returned log do not panic. -/
theorem recoverC_no_panic (g : Geom) (img : Image) (policy : Policy) (order : List Bytes)
    (failAt : Option Nat) (n : Nat) (hev : C10.NoMax (deliveredEvents g (clipImage g img) failAt))
    (hfiles : ∀ f ∈ img.map (·.1), f + n ≤ U64MAX) (hn : n ≤ U64MAX)
    (hcount : ∀ lp e0 io, recoverPre g (clipImage g img) policy failAt = .ok (lp, e0, io) → gcBufCount g lp order ≤ n) :
    recoverP g (clipImage g img) policy order failAt ≠ .error () ∧
    ∀ r, recoverC g img policy order failAt = .ok r → accessorsPanic r.log.queues = false :=
  C10.recover_no_panic_img g (clipImage g img) policy order failAt n hev
    (by rw [clipImage_files]; exact hfiles) hn hcount

/-- non-vacuity: an image with an oversized file; its clipped view has none -/
example : ¬ NoOversize g16 [(0, zeros 40)] ∧ NoOversize g16 (clipImage g16 [(0, zeros 40)]) := by
  constructor
  · intro h; have := h (0, zeros 40) (List.mem_singleton.mpr rfl); simp [zeros, g16, Geom.fileBytes] at this
  · exact clipImage_noOversize _ _

end MRL.C10V
