/-
C06: (a) every call keeps the tracked files a contiguous run of WAL files ending at the file being
written; (b) after `truncate` or `delete_queue` returns — and (c) after `open` — the oldest of them
is not older than both the file being written when the call began and every file some queue still
holds a handle on, and `disk_used_bytes` is the total nominal size of those files; (d) GC never
releases a referenced file.
The write path is followed once, for the relaxed invariant `C06X.FilesOkX` defined below (the run may
end at the successor of the current file: it also holds on crash-reachable states, for which see
`MRL/Props/C06Crash.lean`); the clauses about `FilesOk` are read off from that.
-/
import MRL.Proofs.StepGc
import MRL.Props.C14

namespace MRL.C06
open MRL.Log MRL.Step

/-- non-empty, each element the successor of the previous one -/
def Contig : List Nat → Prop
  | [] => False
  | [_] => True
  | a :: b :: rest => b = a + 1 ∧ Contig (b :: rest)

/-- the tracked files are a contiguous run ending at the file being written -/
def FilesOk (l : Log) : Prop := Contig l.files ∧ l.files.getLast? = some l.cur

theorem contig_ne_nil {fs : List Nat} (h : Contig fs) : fs ≠ [] := by
  intro e; subst e; exact h

theorem contig_sorted {fs : List Nat} (h : Contig fs) : fs.Pairwise (· < ·) := by
  induction fs with
  | nil => exact List.Pairwise.nil
  | cons a fs ih =>
    cases fs with
    | nil => exact List.pairwise_singleton _ _
    | cons b rest =>
      obtain ⟨hb, hc⟩ := h
      have ih' := ih hc
      rw [List.pairwise_cons]
      refine ⟨?_, ih'⟩
      intro x hx
      rcases List.mem_cons.mp hx with rfl | hx
      · omega
      · have := (List.pairwise_cons.mp ih').1 x hx
        omega

theorem contig_nodup {fs : List Nat} (h : Contig fs) : fs.Nodup :=
  (contig_sorted h).imp (fun hab => Nat.ne_of_lt hab)

theorem contig_suffix {d r : List Nat} (h : Contig (d ++ r)) (hr : r ≠ []) : Contig r := by
  induction d with
  | nil => exact h
  | cons a d ih =>
    apply ih
    cases hdr : d ++ r with
    | nil =>
      have := List.append_eq_nil_iff.mp hdr
      exact absurd this.2 hr
    | cons b t =>
      rw [List.cons_append, hdr] at h
      exact h.2

theorem contig_snoc {fs : List Nat} {c : Nat} (h : Contig fs) (hl : fs.getLast? = some c) :
    Contig (fs ++ [c + 1]) := by
  induction fs with
  | nil => exact absurd h id
  | cons a fs ih =>
    cases fs with
    | nil =>
      simp only [List.getLast?_singleton, Option.some.injEq] at hl
      subst hl
      exact ⟨rfl, trivial⟩
    | cons b rest =>
      obtain ⟨hb, hc⟩ := h
      rw [List.getLast?_cons_cons] at hl
      exact ⟨hb, ih hc hl⟩

theorem contig_le_last {fs : List Nat} {c : Nat} (h : Contig fs) (hl : fs.getLast? = some c) :
    ∀ x ∈ fs, x ≤ c := by
  obtain ⟨ys, rfl⟩ := List.getLast?_eq_some_iff.mp hl
  have := List.pairwise_append.mp (contig_sorted h)
  intro x hx
  rcases List.mem_append.mp hx with hx | hx
  · exact Nat.le_of_lt (this.2.2 x hx c (List.mem_singleton.mpr rfl))
  · rw [List.mem_singleton.mp hx]; exact Nat.le_refl _

theorem getLast?_suffix {d r : List Nat} (hr : r ≠ []) : (d ++ r).getLast? = r.getLast? := by
  rw [List.getLast?_append]
  cases h : r.getLast? with
  | none => exact absurd (List.getLast?_eq_none_iff.mp h) hr
  | some x => rfl

theorem FilesOk.same {l l' : Log} (h : FilesOk l) (hf : l'.files = l.files) (hc : l'.cur = l.cur) : FilesOk l' := by
  unfold FilesOk; rw [hf, hc]; exact h

theorem FilesOk.cur_mem {l : Log} (h : FilesOk l) : l.cur ∈ l.files := List.mem_of_getLast? h.2

theorem contig_range' (F : Nat) : ∀ n, Contig (List.range' F (n + 1))
  | 0 => trivial
  | n + 1 => by
    rw [List.range'_succ, List.range'_succ]
    refine ⟨rfl, ?_⟩
    have := contig_range' (F + 1) n
    rwa [List.range'_succ] at this

theorem getLast?_range' (F n : Nat) : (List.range' F (n + 1)).getLast? = some (F + n) := by
  rw [List.range'_concat, List.getLast?_concat]
  simp

theorem filesOk_range {l : Log} {F n : Nat} (hf : l.files = List.range' F (n + 1)) (hc : l.cur = F + n) :
    FilesOk l := by
  unfold FilesOk; rw [hf, hc]; exact ⟨contig_range' F n, getLast?_range' F n⟩

theorem filesOk_init (off : Nat) (qs : MemQueues) (p : Policy) :
    FilesOk { files := [0], cur := 0, off := off, queues := qs, policy := p } := ⟨trivial, rfl⟩

end MRL.C06

/-! A crash between the `create` of the next file and the first write into it leaves an empty
`wal-(cur+1)` that `open` tracks (`C06X.filesOk_fails`): the run of tracked files then ends at the
SUCCESSOR of the current file. -/

namespace MRL.C06X
open MRL.Log MRL.Step C06

/-- the tracked files are a contiguous run containing the current file and ending at it or at its
    successor (a pre-created, still unused next file) -/
def FilesOkX (l : Log) : Prop :=
  Contig l.files ∧ l.cur ∈ l.files ∧
    (l.files.getLast? = some l.cur ∨ l.files.getLast? = some (l.cur + 1))

theorem FilesOkX.of_ok {l : Log} (h : FilesOk l) : FilesOkX l := ⟨h.1, h.cur_mem, Or.inl h.2⟩

theorem FilesOkX.same {l l' : Log} (h : FilesOkX l) (hf : l'.files = l.files) (hc : l'.cur = l.cur) :
    FilesOkX l' := by
  unfold FilesOkX; rw [hf, hc]; exact h

/-- what a call leaves: the relaxed invariant, and the strict one unless the current file is the
    same as before -/
def After (l l' : Log) : Prop := FilesOkX l' ∧ (FilesOk l' ∨ l'.cur = l.cur)

theorem After.refl {l : Log} (h : FilesOkX l) : After l l := ⟨h, Or.inr rfl⟩

theorem After.of_ok {l l' : Log} (h : FilesOk l') : After l l' := ⟨FilesOkX.of_ok h, Or.inl h⟩

theorem After.same {l l1 l2 : Log} (p : After l l1) (hf : l2.files = l1.files) (hc : l2.cur = l1.cur) :
    After l l2 :=
  ⟨p.1.same hf hc, p.2.imp (·.same hf hc) hc.trans⟩

/-- `After`, and a strict log stays strict -/
def Keeps (l l' : Log) : Prop := After l l' ∧ (FilesOk l → FilesOk l')

theorem Keeps.refl {l : Log} (h : FilesOkX l) : Keeps l l := ⟨After.refl h, id⟩

theorem Keeps.trans {l l1 l2 : Log} (p1 : Keeps l l1) (p2 : Keeps l1 l2) : Keeps l l2 := by
  refine ⟨⟨p2.1.1, ?_⟩, fun s => p2.2 (p1.2 s)⟩
  rcases p1.1.2 with s | e
  · exact .inl (p2.2 s)
  · exact p2.1.2.imp id (·.trans e)

theorem Keeps.same {l l1 l2 : Log} (p : Keeps l l1) (hf : l2.files = l1.files) (hc : l2.cur = l1.cur) :
    Keeps l l2 :=
  ⟨p.1.same hf hc, fun s => (p.2 s).same hf hc⟩

section
variable (g : Geom)

theorem nextFile_none_of_ok {l : Log} (h : FilesOk l) : nextFile l.files l.cur = none := by
  unfold nextFile
  rw [List.find?_eq_none]
  intro x hx
  have := contig_le_last h.1 h.2 x hx
  simp only [decide_eq_true_eq]
  omega

theorem nextFile_succ {l : Log} (h : FilesOkX l) (hl : l.files.getLast? = some (l.cur + 1)) :
    nextFile l.files l.cur = some (l.cur + 1) := by
  unfold nextFile
  cases hf : l.files.find? (fun x => decide (l.cur < x)) with
  | none =>
    rw [List.find?_eq_none] at hf
    have := hf (l.cur + 1) (List.mem_of_getLast? hl)
    simp at this
  | some y =>
    have hy := List.mem_of_find?_eq_some hf
    have hlt := List.find?_some hf
    simp only [decide_eq_true_eq] at hlt
    have := contig_le_last h.1 hl y hy
    congr 1; omega

/-- One buffer. From a run ending at the current file there is no next file, and a roll-over
    creates `cur + 1`; if the next file exists already a roll-over moves into it, and the run ends at
    the current file again. -/
theorem writeBuf_keeps (l : Log) (buf : Bytes) (h : FilesOkX l) : Keeps l (writeBuf g l buf).1 := by
  rcases writeBuf_cases g l buf with ⟨_, e⟩ | ⟨_, _, e⟩ | ⟨_, _, nf, hn, e⟩ | ⟨_, _, hn, e⟩ <;> rw [e]
  · exact Keeps.refl h
  · exact (Keeps.refl h).same rfl rfl
  all_goals rcases h.2.2 with hl | hl
  · rw [nextFile_none_of_ok ⟨h.1, hl⟩] at hn; cases hn
  · cases hn.symm.trans (nextFile_succ h hl)
    exact ⟨.of_ok ⟨h.1, hl⟩, fun s => absurd (Option.some.inj (s.2.symm.trans hl)) (Nat.ne_of_lt (Nat.lt_succ_self _))⟩
  · exact ⟨.of_ok ⟨contig_snoc h.1 hl, List.getLast?_concat⟩, fun _ => ⟨contig_snoc h.1 hl, List.getLast?_concat⟩⟩
  · rw [nextFile_succ h hl] at hn; cases hn

theorem kept_of_not_canDelete {l : Log} {pinned f : Nat} (h : l.canDelete pinned f = false) (hp : pinned ≤ l.cur) :
    pinned ≤ f ∨ l.queues.refsFile f = true := by
  simp only [canDelete, Bool.and_eq_false_iff, bne_eq_false_iff_eq, Bool.not_eq_false'] at h
  rcases h with (h | h) | h
  · exact .inl (h ▸ hp)
  · exact .inl (h ▸ Nat.le_refl _)
  · exact .inr h

theorem gc_keeps (l : Log) (pinned : Nat) (h : FilesOkX l) :
    Keeps l { l with files := (gcFiles (l.canDelete pinned) l.files).1 } := by
  have hsplit := gcFiles_split (l.canDelete pinned) l.files
  have hne := gcFiles_ne_nil (l.canDelete pinned) l.files (contig_ne_nil h.1)
  have hlast : (gcFiles (l.canDelete pinned) l.files).1.getLast? = l.files.getLast? := by
    conv => rhs; rw [← hsplit]
    rw [getLast?_suffix hne]
  have hcontig : Contig (gcFiles (l.canDelete pinned) l.files).1 := by
    have := h.1
    rw [← hsplit] at this
    exact contig_suffix this hne
  have hmem : l.cur ∈ (gcFiles (l.canDelete pinned) l.files).1 := by
    have := h.2.1
    rw [← hsplit] at this
    refine (List.mem_append.mp this).resolve_left fun hd => ?_
    have := gcFiles_deleted _ _ _ hd
    simp [canDelete] at this
  have hstrict : FilesOk l → FilesOk { l with files := (gcFiles (l.canDelete pinned) l.files).1 } :=
    fun s => ⟨hcontig, hlast.trans s.2⟩
  exact ⟨⟨⟨hcontig, hmem, h.2.2.imp hlast.trans hlast.trans⟩, .inr rfl⟩, hstrict⟩

theorem along_keeps : AlongCall g fun l _ _ l' => FilesOkX l → Keeps l l' :=
  Along.call
    { nil := fun _ => Keeps.refl
      app := fun h1 h2 ha => (h1 ha).trans (h2 (h1 ha).1.1)
      buf := writeBuf_keeps g }
    (sync := fun _ _ => Keeps.refl)
    (queues := fun _ _ h => (Keeps.refl h).same rfl rfl)
    (unlinks := gc_keeps)

theorem writeEntry_keeps (l : Log) (e : Entry) (h : FilesOkX l) : Keeps l (l.writeEntry g e).1 :=
  (along_keeps g).entry l e h

theorem writeTouches_keeps (names : List Bytes) (l : Log) (h : FilesOkX l) :
    FilesOkX (writeTouches g l names).1 :=
  ((along_keeps g).writeTouches names l h).1.1

theorem eq_head_of_short {fs : List Nat} {x f₀ : Nat} (hs : ∀ a b r, fs ≠ a :: b :: r) (hx : x ∈ fs)
    (hf : fs.head? = some f₀) : x = f₀ := by
  cases fs with
  | nil => cases hf
  | cons y t =>
    cases t with
    | nil => exact (List.mem_singleton.mp hx).trans (Option.some.inj hf)
    | cons b r => exact absurd rfl (hs y b r)

/-- the reclaim clause after one GC pass: the oldest file kept was not older than the current one, or a queue
    references it -/
theorem runGc_reclaimX (l : Log) (order : List Bytes) (h : FilesOkX l) :
    Keeps l (runGc g l order).1 ∧
    ∀ f₀, (runGc g l order).1.files.head? = some f₀ →
      l.cur ≤ f₀ ∨ (runGc g l order).1.queues.refsFile f₀ = true := by
  have hk := (along_keeps g).runGc l order
  have hcur := runGc_cur_le g l order
  refine ⟨hk h, ?_⟩
  -- the oldest file kept: the only one left, hence the current file or its successor; or not deletable
  have hX := (hk h).1.1
  rcases runGc_trichotomy g l order with ⟨hr, _⟩ | ⟨hr, f, f', rest, hfs, hd⟩ | ⟨hr, hshort⟩
  · rw [hr] at hX hcur ⊢
    intro f₀ hf₀
    rcases gcFiles_head _ _ f₀ hf₀ with hone | hnd
    · left
      have hl := hX.2.2
      simp only [gcResult] at hl hcur
      rw [hone, List.getLast?_singleton] at hl
      rcases hl with hl | hl <;> cases hl
      · exact hcur
      · exact Nat.le_succ_of_le hcur
    · simp only [gcResult] at hcur ⊢
      exact kept_of_not_canDelete hnd hcur
  · rw [hr]
    intro f₀ hf₀
    rw [hfs] at hf₀
    simp only [List.head?_cons, Option.some.injEq] at hf₀
    subst hf₀
    exact kept_of_not_canDelete hd (Nat.le_refl _)
  · rw [hr]
    intro f₀ hf₀
    exact .inl (Nat.le_of_eq (eq_head_of_short hshort h.2.1 hf₀))

end

variable (g : Geom) (l : Log) (c : Call) (tick : Bool) (order : List Bytes)

/-- the log a writing call hands to GC: the entry written, the queues updated -/
theorem written_keeps (e : Entry) (qs' : MemQueues) (h : FilesOkX l) :
    FilesOkX { (l.writeEntry g e).1 with queues := qs' } :=
  (writeEntry_keeps g l e h).1.1.same rfl rfl

theorem step_keeps (h : FilesOkX l) : Keeps l (Log.step g l c tick order).1 :=
  (along_keeps g).step l c tick order h

/-- **C06X (a).** Every call preserves the relaxed invariant; and when it returns the tracked
    files end at the current file again, unless the current file has not changed. -/
theorem filesOkX_step (h : FilesOkX l) : After l (Log.step g l c tick order).1 :=
  (step_keeps g l c tick order h).1

/-- **C06X (b).** After a `truncate` or `delete_queue` on a relaxed log: the relaxed invariant;
    `disk_used_bytes` is the number of tracked files times the file size; and — unless the call
    was rejected — the oldest tracked file is not older than the file being written when the call
    began, or some queue still references it. -/
theorem C06X_reclaim (h : FilesOkX l) (hc : isGcCall c = true) :
    let r := Log.step g l c tick order
    FilesOkX r.1 ∧ r.1.diskUsed g = r.1.files.length * g.fileBytes ∧
    (r.2.1 ≠ .missingQueue → ∀ f₀, r.1.files.head? = some f₀ →
      l.cur ≤ f₀ ∨ r.1.queues.refsFile f₀ = true) := by
  intro r
  refine ⟨(filesOkX_step g l c tick order h).1, rfl, ?_⟩
  -- the head of what the GC pass of the call leaves
  have core : ∀ (e : Entry) (qs' : MemQueues) (f₀ : Nat),
      (runGc g { (l.writeEntry g e).1 with queues := qs' } order).1.files.head? = some f₀ →
      l.cur ≤ f₀ ∨ (runGc g { (l.writeEntry g e).1 with queues := qs' } order).1.queues.refsFile f₀ = true :=
    fun e qs' f₀ hf₀ =>
      ((runGc_reclaimX g _ order (written_keeps g l e qs' h)).2 f₀ hf₀).imp
        (Nat.le_trans (writeEntry_cur_le g l e)) id
  cases c with
  | delete q =>
    cases hq : l.queues.get? q with
    | none => intro hne; exact absurd (by simp [r, step, hq]) hne
    | some mq =>
      intro _
      simp only [r, step_delete_eq g l q mq tick order hq]
      exact core _ _
  | truncate q p =>
    cases hq : l.queues.get? q with
    | none => intro hne; exact absurd (by simp [r, step, hq]) hne
    | some mq =>
      intro _
      simp only [r, step_truncate_eq g l q p mq tick order hq]
      exact core _ _
  | create q => cases hc
  | append q pos pls => cases hc
  | persist a => cases hc

theorem runGc_unlinked (l : Log) (order : List Bytes) :
    ∀ f ∈ unlinked (runGc g l order).2.1,
      (runGc g l order).1.queues.refsFile f = false ∧ f ≠ (runGc g l order).1.cur ∧
      (FilesOkX l → f ∉ (runGc g l order).1.files) := by
  rcases runGc_trichotomy g l order with ⟨hr, _⟩ | ⟨hr, _⟩ | ⟨hr, _⟩
  · rw [hr]
    simp only [gcResult, unlinked_append, writeTouches_unlinked, unlinked_persist, unlinked_map, List.nil_append]
    intro f hf
    have hd := gcFiles_deleted _ _ f hf
    simp only [canDelete, Bool.and_eq_true, bne_iff_ne, ne_eq, Bool.not_eq_true'] at hd
    refine ⟨hd.2, hd.1.1, fun hok => ?_⟩
    -- the run has no duplicates, and what is unlinked is the part cut off
    have hnd := contig_nodup (writeTouches_keeps g (gcNames l order) l hok).1
    rw [← gcFiles_split ((writeTouches g l (gcNames l order)).1.canDelete l.cur)
      (writeTouches g l (gcNames l order)).1.files] at hnd
    intro hmem
    exact (List.nodup_append.mp hnd).2.2 f hf f hmem rfl
  · rw [hr]; intro f hf; cases hf
  · rw [hr]; intro f hf; cases hf

theorem step_unlinked (f : Nat) (hf : Effect.unlink f ∈ (Log.step g l c tick order).2.2) :
    (Log.step g l c tick order).1.queues.refsFile f = false ∧ f ≠ (Log.step g l c tick order).1.cur ∧
    (FilesOkX l → f ∉ (Log.step g l c tick order).1.files) := by
  rw [← mem_unlinked] at hf
  rcases step_shape g l c tick order with ⟨out, hs⟩ | ⟨a, _, hs⟩ | ⟨e, qs', out, hs⟩
  · rw [hs] at hf; cases hf
  · rw [hs] at hf; simp [unlinked_persist] at hf
  · rw [hs] at hf ⊢
    simp only [unlinked_append, writeEntry_unlinked, unlinked_tailSync, List.nil_append, List.append_nil] at hf
    cases hgc : isGcCall c with
    | false => rw [hgc] at hf; cases hf
    | true =>
      rw [hgc] at hf
      simp only [if_true] at hf ⊢
      obtain ⟨h1, h2, h3⟩ := runGc_unlinked g _ order f hf
      exact ⟨h1, h2, fun hok => h3 (written_keeps g l e qs' hok)⟩

/-- **C06X (d).** Every file unlinked by a call on a relaxed log is, when the call returns,
    referenced by no queue, different from the file being written, and no longer tracked. -/
theorem no_premature_release (h : FilesOkX l) (f : Nat)
    (hf : Effect.unlink f ∈ (Log.step g l c tick order).2.2) :
    (Log.step g l c tick order).1.queues.refsFile f = false ∧ f ≠ (Log.step g l c tick order).1.cur ∧
    f ∉ (Log.step g l c tick order).1.files :=
  let ⟨h1, h2, h3⟩ := step_unlinked g l c tick order f hf
  ⟨h1, h2, h3 h⟩

/-- **C06X (c).** If the log rebuilt from the image satisfies the relaxed invariant, so does the
    log `open` returns; its oldest file is not older than the file the writer resumes in, or is
    still referenced; and what `open` unlinked is unreferenced, not current, not tracked. -/
theorem C06X_open (img : Image) (policy : Policy) (failAt : Option Nat) (r : Recovered) (lp : Log)
    (e0 : List Effect) (io : Nat) (hpre : recoverPre g img policy failAt = .ok (lp, e0, io))
    (hrec : recover g img policy order failAt = .ok r) (hok : FilesOkX lp) :
    Keeps lp r.log ∧ r.log.diskUsed g = r.log.files.length * g.fileBytes ∧
    (∀ f₀, r.log.files.head? = some f₀ → lp.cur ≤ f₀ ∨ r.log.queues.refsFile f₀ = true) ∧
    (∀ f, Effect.unlink f ∈ r.effects →
      r.log.queues.refsFile f = false ∧ f ≠ r.log.cur ∧ f ∉ r.log.files) := by
  obtain ⟨lp', e0', io', hpre', hlog, heff⟩ := recover_ok g img policy order failAt r hrec
  rw [hpre] at hpre'
  cases hpre'
  obtain ⟨hok', hhead⟩ := runGc_reclaimX g lp order hok
  rw [hlog]
  refine ⟨hok', rfl, hhead, ?_⟩
  intro f hf
  rw [heff, ← mem_unlinked, unlinked_append, recoverPre_effects g img policy failAt lp e0 io hpre,
    prepareImage_unlinked, List.nil_append] at hf
  obtain ⟨a, b, c⟩ := runGc_unlinked g lp order f hf
  exact ⟨a, b, c hok⟩

end MRL.C06X

namespace MRL.C06
open MRL.Log MRL.Step C06X

variable (g : Geom) (l : Log) (c : Call) (tick : Bool) (order : List Bytes)

/-- **C06 (a).** A contiguous run ending at the current file stays one. -/
theorem filesOk_step (h : FilesOk l) : FilesOk (Log.step g l c tick order).1 :=
  (step_keeps g l c tick order (.of_ok h)).2 h

theorem filesOk_run (cs : List (Call × List Bytes)) :
    ∀ (l : Log) (ticks : List Bool), FilesOk l → FilesOk (C14.run g l cs ticks).1 := by
  induction cs with
  | nil => intro l _ h; exact h
  | cons co cs ih =>
    intro l ticks h
    obtain ⟨c, order⟩ := co
    simp only [C14.run]
    exact ih _ _ (filesOk_step g l c _ order h)

/-- the current file number never decreases -/
theorem cur_le_step (h : FilesOk l) : l.cur ≤ (Log.step g l c tick order).1.cur :=
  step_cur_le g l c tick order

/-- **C06 (b).** After a `truncate` or `delete_queue` (`isGcCall c`): the tracked files `l.files` are a
    contiguous run ending at the file being written; and — unless the call was rejected — the oldest
    tracked file is not older than the file being written when the call began, or some queue still
    holds a handle on it. The conjunct on `disk_used_bytes` is its definition (`Log.diskUsed`: number
    of tracked files times the file size, as the code computes it). That the directory holds exactly
    the tracked files, each of the nominal size except possibly an empty successor of the current
    file (which `FilesOk` excludes), is `C06X.filesOkX_reachX` (`Props/C06Crash.lean`). -/
theorem C06_reclaim (h : FilesOk l) (hc : isGcCall c = true) :
    let r := Log.step g l c tick order
    FilesOk r.1 ∧ r.1.diskUsed g = r.1.files.length * g.fileBytes ∧
    (r.2.1 ≠ .missingQueue → ∀ f₀, r.1.files.head? = some f₀ →
      l.cur ≤ f₀ ∨ r.1.queues.refsFile f₀ = true) :=
  ⟨filesOk_step g l c tick order h, (C06X_reclaim g l c tick order (.of_ok h) hc).2⟩

theorem C06_truncate (h : FilesOk l) (q : Bytes) (p : Nat) (mq : MemQueue) (hq : l.queues.get? q = some mq) :
    let r := Log.step g l (.truncate q p) tick order
    FilesOk r.1 ∧ ∀ f₀, r.1.files.head? = some f₀ → l.cur ≤ f₀ ∨ r.1.queues.refsFile f₀ = true := by
  intro r
  obtain ⟨h1, _, h3⟩ := C06_reclaim g l (.truncate q p) tick order h rfl
  refine ⟨h1, h3 ?_⟩
  simp [step_truncate_eq g l q p mq tick order hq]

theorem C06_delete (h : FilesOk l) (q : Bytes) (mq : MemQueue) (hq : l.queues.get? q = some mq) :
    let r := Log.step g l (.delete q) tick order
    FilesOk r.1 ∧ ∀ f₀, r.1.files.head? = some f₀ → l.cur ≤ f₀ ∨ r.1.queues.refsFile f₀ = true := by
  intro r
  obtain ⟨h1, _, h3⟩ := C06_reclaim g l (.delete q) tick order h rfl
  refine ⟨h1, h3 ?_⟩
  simp [step_delete_eq g l q mq tick order hq]

/-- **C06 (d).** Every file unlinked by a call is, when the call returns, referenced by no queue,
    different from the file being written, and no longer tracked. -/
theorem no_premature_release (f : Nat) (hf : Effect.unlink f ∈ (Log.step g l c tick order).2.2) :
    (Log.step g l c tick order).1.queues.refsFile f = false ∧ f ≠ (Log.step g l c tick order).1.cur ∧
    (FilesOk l → f ∉ (Log.step g l c tick order).1.files) :=
  let ⟨h1, h2, h3⟩ := step_unlinked g l c tick order f hf
  ⟨h1, h2, fun hok => h3 (.of_ok hok)⟩

/-- **C06 (c).** If the log rebuilt from the image is a contiguous run ending at its current file,
    so is the log `open` returns, and its oldest file is not older than the file the writer
    resumes in, or is still referenced. -/
theorem C06_open (img : Image) (policy : Policy) (failAt : Option Nat) (r : Recovered) (lp : Log)
    (e0 : List Effect) (io : Nat) (hpre : recoverPre g img policy failAt = .ok (lp, e0, io))
    (hrec : recover g img policy order failAt = .ok r) (hok : FilesOk lp) :
    FilesOk r.log ∧ r.log.diskUsed g = r.log.files.length * g.fileBytes ∧
    (∀ f₀, r.log.files.head? = some f₀ → lp.cur ≤ f₀ ∨ r.log.queues.refsFile f₀ = true) ∧
    (∀ f, Effect.unlink f ∈ r.effects →
      r.log.queues.refsFile f = false ∧ f ≠ r.log.cur ∧ f ∉ r.log.files) :=
  let ⟨hk, hrest⟩ := C06X_open g order img policy failAt r lp e0 io hpre hrec (.of_ok hok)
  ⟨hk.2 hok, hrest⟩

def g64 : Geom := { B := 64, K := 4, hB := by decide, hK := by decide }

/-- three files, writing in file 2; the only queue holds one record, written into file 1 -/
def lx : Log := { files := [0, 1, 2], cur := 2, off := 0, policy := .doNothing,
                  queues := [([1], { start := 0, recs := [⟨0, [9], some 1⟩] })] }

theorem lx_ok : FilesOk lx := ⟨⟨rfl, rfl, trivial⟩, rfl⟩

def lx2 : Log := { lx with off := 19, queues := [([1], { start := 1, recs := [] })] }

theorem lx2_gc : runGc g64 lx2 [] =
    ({ lx2 with files := [2], off := 38 },
     [.write 2 19 (encodeFrame .full (Entry.touch [1] 1).encode), .flush, .fsyncFile 2, .fsyncDir,
      .unlink 0, .unlink 1], 19) := by
  rw [runGc_run g64 lx2 [] 0 1 [2] rfl (by decide)]
  have hn : gcNames lx2 [] = [[1]] := by decide
  have ht : touchEntry lx2 [1] = .touch [1] 1 := by decide
  simp only [gcResult, hn, writeTouches_cons, writeTouches_nil, ht]
  rw [entry_one_buf g64 lx2 (.touch [1] 1) (by decide) (by decide)]
  rfl

/-- Truncating the queue entirely: the `Truncate` entry, then the GC pass — one `RecordPosition`
    entry for the now empty queue, flush + fsync, then files 0 and 1 are unlinked; file 2 remains. -/
theorem lx_truncate : Log.step g64 lx (.truncate [1] 0) false [] =
    ({ lx2 with files := [2], off := 38 }, .truncated 1 38,
     [.write 2 0 (encodeFrame .full (Entry.truncate [1] 0).encode),
      .write 2 19 (encodeFrame .full (Entry.touch [1] 1).encode), .flush, .fsyncFile 2, .fsyncDir,
      .unlink 0, .unlink 1]) := by
  have hq : lx.queues.get? [1] = some { start := 0, recs := [⟨0, [9], some 1⟩] } := rfl
  simp only [step_truncate_eq g64 lx [1] 0 _ false [] hq]
  rw [entry_one_buf g64 lx (.truncate [1] 0) (by decide) (by decide)]
  have : ({ (({ lx with off := lx.off + (Consts.HEADER_LEN + (Entry.truncate [1] 0).encode.length) } : Log)) with
      queues := ({ lx with off := lx.off + (Consts.HEADER_LEN + (Entry.truncate [1] 0).encode.length) } : Log).queues.set [1]
        (MemQueue.truncateHead { start := 0, recs := [⟨0, [9], some 1⟩] } 0).1 } : Log) = lx2 := by rfl
  simp only [this, lx2_gc]
  rfl

example : let r := Log.step g64 lx (.truncate [1] 0) false []
    r.1.files = [2] ∧ r.1.cur = 2 ∧ unlinked r.2.2 = [0, 1] ∧ r.1.diskUsed g64 = 256 := by
  rw [lx_truncate]; exact ⟨rfl, rfl, rfl, rfl⟩

/-- the same log with a second queue whose oldest record was written into file 0 -/
def ly : Log := { lx with queues := [([1], { start := 0, recs := [⟨0, [9], some 1⟩] }),
                                     ([2], { start := 0, recs := [⟨0, [8], some 0⟩] })] }

theorem ly_ok : FilesOk ly := ⟨⟨rfl, rfl, trivial⟩, rfl⟩

/-- … the same truncation now deletes nothing: file 0 is still referenced, and GC only ever
    drops a prefix -/
theorem ly_truncate : Log.step g64 ly (.truncate [1] 0) false [] =
    ({ ly with off := 19, queues := [([1], { start := 1, recs := [] }), ([2], { start := 0, recs := [⟨0, [8], some 0⟩] })] },
     .truncated 1 19, [.write 2 0 (encodeFrame .full (Entry.truncate [1] 0).encode)]) := by
  have hq : ly.queues.get? [1] = some { start := 0, recs := [⟨0, [9], some 1⟩] } := rfl
  simp only [step_truncate_eq g64 ly [1] 0 _ false [] hq]
  rw [entry_one_buf g64 ly (.truncate [1] 0) (by decide) (by decide)]
  rw [runGc_skip g64 _ [] 0 1 [2] rfl (by decide)]
  rfl

example : let r := Log.step g64 ly (.truncate [1] 0) false []
    r.1.files = [0, 1, 2] ∧ unlinked r.2.2 = [] ∧ r.1.queues.refsFile 0 = true := by
  rw [ly_truncate]; exact ⟨rfl, rfl, by decide⟩

end MRL.C06
