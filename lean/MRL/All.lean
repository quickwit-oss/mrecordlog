-- every property module, and `DriverGlue`, which none of them imports, so that setup builds all proofs once
import MRL.Props.C01Journal
import MRL.Props.C01Restart
import MRL.Props.C02
import MRL.Props.C02Atomic
import MRL.Props.C02Usable
import MRL.Props.C03
import MRL.Props.C03Durable
import MRL.Props.C03DurableX
import MRL.Props.C03Posix
import MRL.Props.C03PosixDir
import MRL.Props.C03PosixDirAll
import MRL.Props.C03PosixDirJournal
import MRL.Props.C03PosixX
import MRL.Props.C04
import MRL.Props.C04C18Crash
import MRL.Props.C04Crash
import MRL.Props.C04Restart
import MRL.Props.C05
import MRL.Props.C05Bounds
import MRL.Props.C05Impl
import MRL.Props.C06
import MRL.Props.C06Crash
import MRL.Props.C06Restart
import MRL.Props.C07
import MRL.Props.C07Fits
import MRL.Props.C07Recover
import MRL.Props.C08
import MRL.Props.C08Crash
import MRL.Props.C08Genuine
import MRL.Props.C08Recover
import MRL.Props.C09
import MRL.Props.C09Close
import MRL.Props.C09Crash
import MRL.Props.C09Replay
import MRL.Props.C09Which
import MRL.Props.C10
import MRL.Props.C10Asserts
import MRL.Props.C10FileNumbers
import MRL.Props.C10Memory
import MRL.Props.C10MemoryFail
import MRL.Props.C10NoPanicReach
import MRL.Props.C10Oversize
import MRL.Props.C10Reach
import MRL.Props.C11
import MRL.Props.C12
import MRL.Props.C12Compose
import MRL.Props.C12Crash
import MRL.Props.C12CrashDamage
import MRL.Props.C12Head
import MRL.Props.C13
import MRL.Props.C13Accessors
import MRL.Props.C13Complete
import MRL.Props.C13Restart
import MRL.Props.C14
import MRL.Props.C14Reach
import MRL.Props.C14Restart
import MRL.Props.C15
import MRL.Props.C15Open
import MRL.Props.C16
import MRL.Props.C16Calls
import MRL.Props.C16Restart
import MRL.Props.C17
import MRL.Props.C17Foreign
import MRL.Props.C18
import MRL.Props.C18Crash
import MRL.Props.C18Restart
import MRL.Props.CrashDamageClean
import MRL.Props.NonVacuity
import MRL.Props.NonVacuity2
import MRL.Props.NonVacuity3
import MRL.Props.NonVacuityPower
import MRL.Props.NonVacuityDir
import MRL.Props.NonVacuityHistory
import MRL.Proofs.DriverGlue
